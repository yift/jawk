/-
  The total order of jawk values (property C07): `JV.cmp` (the model of
  `impl Ord for JsonValue`) is a total preorder presented as a three-way
  comparison, for ALL values.  Core Lean only.

  Plan: everything is built from three generic constructions on three-way
  comparisons, each preserving "total preorder on the elements satisfying `P`"
  (`TotalPreorderOn P cmp`):
    * pull-back along a function            (`TotalPreorderOn.pullback`)
    * lexicographic product `Ordering.then`  (`TotalPreorderOn.lexProd`)
    * lexicographic lift to lists            (`TotalPreorderOn.lexList`)
  `JV.cmp` is shown to be a lexicographic product of pull-backs
  (`cmp_eq_chain`), the array component being the list lift of `JV.cmp` itself;
  the recursion is resolved by induction on a bound of `sizeOf`.
-/
import Jawk.Model.Print
import Jawk.Spec.Sort
namespace Jawk

/-! ### Pure facts about `Ordering` triples -/
namespace Order

/-- `x = cmp a b`, `y = cmp b c`, `z = cmp a c` satisfy `≤`-transitivity in all six arrangements
(`cmp b a` etc. are expressed through `swap`). -/
def Consistent (x y z : Ordering) : Prop :=
  (x ≠ .gt → y ≠ .gt → z ≠ .gt) ∧            -- a b c
  (x.swap ≠ .gt → z ≠ .gt → y ≠ .gt) ∧       -- b a c
  (z ≠ .gt → y.swap ≠ .gt → x ≠ .gt) ∧       -- a c b
  (y ≠ .gt → z.swap ≠ .gt → x.swap ≠ .gt) ∧  -- b c a
  (z.swap ≠ .gt → x ≠ .gt → y.swap ≠ .gt) ∧  -- c a b
  (y.swap ≠ .gt → x.swap ≠ .gt → z.swap ≠ .gt) -- c b a

instance (x y z : Ordering) : Decidable (Consistent x y z) := by unfold Consistent; infer_instance

theorem Consistent.lt_le : ∀ {x y z : Ordering}, Consistent x y z → x = .lt → y ≠ .gt → z = .lt := by decide
theorem Consistent.le_lt : ∀ {x y z : Ordering}, Consistent x y z → x ≠ .gt → y = .lt → z = .lt := by decide
theorem Consistent.eq_eq : ∀ {x y z : Ordering}, Consistent x y z → x = .eq → y = .eq → z = .eq := by decide
theorem Consistent.eq_left : ∀ {x y z : Ordering}, Consistent x y z → x = .eq → z = y := by decide
theorem Consistent.eq_right : ∀ {x y z : Ordering}, Consistent x y z → y = .eq → z = x := by decide
theorem Consistent.gt_ge : ∀ {x y z : Ordering}, Consistent x y z → x = .gt → y ≠ .lt → z = .gt := by decide
theorem Consistent.ge_gt : ∀ {x y z : Ordering}, Consistent x y z → x ≠ .lt → y = .gt → z = .gt := by decide
theorem Consistent.ge_ge : ∀ {x y z : Ordering}, Consistent x y z → x ≠ .lt → y ≠ .lt → z ≠ .lt := by decide

/-- lexicographic product: transitivity of `≠ .gt` -/
theorem then_le_trans {x₁ y₁ z₁ x₂ y₂ z₂ : Ordering} (h₁ : Consistent x₁ y₁ z₁)
    (h₂ : x₂ ≠ .gt → y₂ ≠ .gt → z₂ ≠ .gt)
    (hx : x₁.then x₂ ≠ .gt) (hy : y₁.then y₂ ≠ .gt) : z₁.then z₂ ≠ .gt := by
  cases x₁ with
  | gt => exact absurd rfl hx
  | lt =>
    -- the first components decide: `z₁ = .lt`
    have hy₁ : y₁ ≠ .gt := by rintro rfl; exact hy rfl
    rw [h₁.lt_le rfl hy₁]
    exact Ordering.noConfusion
  | eq =>
    -- `z₁ = y₁`; unless that is `.eq`, it decides as it did for `y`
    rw [h₁.eq_left rfl]
    cases y₁ with
    | eq => exact h₂ hx hy
    | _ => exact hy

end Order

/-! ### Total preorders relative to a predicate -/

/-- `cmp` restricted to the elements satisfying `P` is a total preorder. -/
structure TotalPreorderOn {α : Type} (P : α → Prop) (cmp : α → α → Ordering) : Prop where
  refl : ∀ a, P a → cmp a a = .eq
  swap : ∀ a b, P a → P b → cmp b a = (cmp a b).swap
  le_trans : ∀ a b c, P a → P b → P c → cmp a b ≠ .gt → cmp b c ≠ .gt → cmp a c ≠ .gt

theorem TotalPreorderCmp.on {α : Type} {cmp : α → α → Ordering} (h : TotalPreorderCmp cmp)
    (P : α → Prop) : TotalPreorderOn P cmp :=
  ⟨fun a _ => h.refl a, fun a b _ _ => h.swap a b, fun a b c _ _ _ => h.le_trans a b c⟩

theorem TotalPreorderOn.total {α : Type} {cmp : α → α → Ordering}
    (h : TotalPreorderOn (fun _ => True) cmp) : TotalPreorderCmp cmp :=
  ⟨fun a => h.refl a trivial, fun a b => h.swap a b trivial trivial,
   fun a b c => h.le_trans a b c trivial trivial trivial⟩

namespace TotalPreorderOn
variable {α β : Type} {P : α → Prop} {cmp : α → α → Ordering}

theorem mono {Q : α → Prop} (h : TotalPreorderOn Q cmp) (hPQ : ∀ a, P a → Q a) :
    TotalPreorderOn P cmp :=
  ⟨fun a ha => h.refl a (hPQ a ha), fun a b ha hb => h.swap a b (hPQ a ha) (hPQ b hb),
   fun a b c ha hb hc => h.le_trans a b c (hPQ a ha) (hPQ b hb) (hPQ c hc)⟩

theorem consistent (h : TotalPreorderOn P cmp) {a b c : α} (ha : P a) (hb : P b) (hc : P c) :
    Order.Consistent (cmp a b) (cmp b c) (cmp a c) := by
  unfold Order.Consistent
  rw [← h.swap a b ha hb, ← h.swap b c hb hc, ← h.swap a c ha hc]
  exact ⟨h.le_trans a b c ha hb hc, h.le_trans b a c hb ha hc, h.le_trans a c b ha hc hb,
    h.le_trans b c a hb hc ha, h.le_trans c a b hc ha hb, h.le_trans c b a hc hb ha⟩

/-- pull-back along `f : β → α` -/
theorem pullback {Q : β → Prop} (h : TotalPreorderOn P cmp) (f : β → α) (hf : ∀ b, Q b → P (f b)) :
    TotalPreorderOn Q (fun x y => cmp (f x) (f y)) :=
  ⟨fun a ha => h.refl _ (hf a ha), fun a b ha hb => h.swap _ _ (hf a ha) (hf b hb),
   fun a b c ha hb hc => h.le_trans _ _ _ (hf a ha) (hf b hb) (hf c hc)⟩

/-- lexicographic product -/
theorem lexProd {c₁ c₂ : α → α → Ordering} (h₁ : TotalPreorderOn P c₁) (h₂ : TotalPreorderOn P c₂) :
    TotalPreorderOn P (fun a b => (c₁ a b).then (c₂ a b)) where
  refl a ha := by simp only [h₁.refl a ha, h₂.refl a ha]; rfl
  swap a b ha hb := by simp only [h₁.swap a b ha hb, h₂.swap a b ha hb, Ordering.swap_then]
  le_trans a b c ha hb hc :=
    Order.then_le_trans (h₁.consistent ha hb hc) (h₂.le_trans a b c ha hb hc)

end TotalPreorderOn

/-! ### Lexicographic lift to lists -/

/-- lexicographic comparison of lists, the shorter list first on a common prefix -/
def lexList {α : Type} (cmp : α → α → Ordering) : List α → List α → Ordering
  | [], [] => .eq
  | [], _ :: _ => .lt
  | _ :: _, [] => .gt
  | a :: as, b :: bs => (cmp a b).then (lexList cmp as bs)

theorem lexList_eq_iff {α : Type} {cmp : α → α → Ordering} (hc : ∀ a b, cmp a b = .eq ↔ a = b) :
    ∀ (l m : List α), lexList cmp l m = .eq ↔ l = m
  | [], [] => by simp [lexList]
  | [], _ :: _ => by simp [lexList]
  | _ :: _, [] => by simp [lexList]
  | a :: as, b :: bs => by
    simp only [lexList, Ordering.then_eq_eq, hc, lexList_eq_iff hc as bs, List.cons.injEq]

namespace TotalPreorderOn
variable {α : Type} {P : α → Prop} {cmp : α → α → Ordering}

theorem lexList_refl (h : TotalPreorderOn P cmp) :
    ∀ (l : List α), (∀ x ∈ l, P x) → Jawk.lexList cmp l l = .eq
  | [], _ => rfl
  | a :: as, hl => by
    have ha : P a := hl a (List.mem_cons_self ..)
    have ih := lexList_refl h as (fun x hx => hl x (List.mem_cons_of_mem _ hx))
    simp only [Jawk.lexList, h.refl a ha, ih]; rfl

theorem lexList_swap (h : TotalPreorderOn P cmp) :
    ∀ (l m : List α), (∀ x ∈ l, P x) → (∀ x ∈ m, P x) →
      Jawk.lexList cmp m l = (Jawk.lexList cmp l m).swap
  | [], [], _, _ => rfl
  | [], _ :: _, _, _ => rfl
  | _ :: _, [], _, _ => rfl
  | a :: as, b :: bs, hl, hm => by
    have ha : P a := hl a (List.mem_cons_self ..)
    have hb : P b := hm b (List.mem_cons_self ..)
    have ih := lexList_swap h as bs (fun x hx => hl x (List.mem_cons_of_mem _ hx))
      (fun x hx => hm x (List.mem_cons_of_mem _ hx))
    simp only [Jawk.lexList, h.swap a b ha hb, ih, Ordering.swap_then]

theorem lexList_le_trans (h : TotalPreorderOn P cmp) :
    ∀ (l m n : List α), (∀ x ∈ l, P x) → (∀ x ∈ m, P x) → (∀ x ∈ n, P x) →
      Jawk.lexList cmp l m ≠ .gt → Jawk.lexList cmp m n ≠ .gt → Jawk.lexList cmp l n ≠ .gt
  | [], _, [], _, _, _ => fun _ _ => by simp [Jawk.lexList]
  | [], _, _ :: _, _, _, _ => fun _ _ => by simp [Jawk.lexList]
  | _ :: _, [], _, _, _, _ => fun h1 _ => by simp [Jawk.lexList] at h1
  | _ :: _, _ :: _, [], _, _, _ => fun _ h2 => by simp [Jawk.lexList] at h2
  | a :: as, b :: bs, c :: cs, hl, hm, hn => by
    have ha : P a := hl a (List.mem_cons_self ..)
    have hb : P b := hm b (List.mem_cons_self ..)
    have hc : P c := hn c (List.mem_cons_self ..)
    have ih := lexList_le_trans h as bs cs (fun x hx => hl x (List.mem_cons_of_mem _ hx))
      (fun x hx => hm x (List.mem_cons_of_mem _ hx)) (fun x hx => hn x (List.mem_cons_of_mem _ hx))
    simp only [Jawk.lexList]
    exact Order.then_le_trans (h.consistent ha hb hc) ih

/-- the lexicographic lift of a total preorder (on `P`) is a total preorder (on lists of `P`s) -/
theorem lexList (h : TotalPreorderOn P cmp) :
    TotalPreorderOn (fun l : List α => ∀ x ∈ l, P x) (Jawk.lexList cmp) :=
  ⟨lexList_refl h, lexList_swap h, lexList_le_trans h⟩

end TotalPreorderOn

/-! ### Derived facts and constructions for `TotalPreorderCmp` -/
namespace TotalPreorderCmp
variable {α β : Type} {cmp : α → α → Ordering}

theorem consistent (h : TotalPreorderCmp cmp) (a b c : α) :
    Order.Consistent (cmp a b) (cmp b c) (cmp a c) :=
  (h.on (fun _ => True)).consistent trivial trivial trivial

theorem eq_symm (h : TotalPreorderCmp cmp) {a b : α} (hab : cmp a b = .eq) : cmp b a = .eq := by
  rw [h.swap a b, hab]; rfl

theorem eq_trans (h : TotalPreorderCmp cmp) {a b c : α} (hab : cmp a b = .eq) (hbc : cmp b c = .eq) :
    cmp a c = .eq := (h.consistent a b c).eq_eq hab hbc

theorem lt_of_lt_of_le (h : TotalPreorderCmp cmp) {a b c : α} (hab : cmp a b = .lt)
    (hbc : cmp b c ≠ .gt) : cmp a c = .lt := (h.consistent a b c).lt_le hab hbc

theorem lt_of_le_of_lt (h : TotalPreorderCmp cmp) {a b c : α} (hab : cmp a b ≠ .gt)
    (hbc : cmp b c = .lt) : cmp a c = .lt := (h.consistent a b c).le_lt hab hbc

theorem lt_trans (h : TotalPreorderCmp cmp) {a b c : α} (hab : cmp a b = .lt)
    (hbc : cmp b c = .lt) : cmp a c = .lt := h.lt_of_lt_of_le hab (by simp [hbc])

theorem gt_of_gt_of_ge (h : TotalPreorderCmp cmp) {a b c : α} (hab : cmp a b = .gt)
    (hbc : cmp b c ≠ .lt) : cmp a c = .gt := (h.consistent a b c).gt_ge hab hbc

theorem gt_of_ge_of_gt (h : TotalPreorderCmp cmp) {a b c : α} (hab : cmp a b ≠ .lt)
    (hbc : cmp b c = .gt) : cmp a c = .gt := (h.consistent a b c).ge_gt hab hbc

theorem ge_trans (h : TotalPreorderCmp cmp) {a b c : α} (hab : cmp a b ≠ .lt)
    (hbc : cmp b c ≠ .lt) : cmp a c ≠ .lt := (h.consistent a b c).ge_ge hab hbc

/-- congruence in the left argument: equivalent elements compare alike -/
theorem congr_left (h : TotalPreorderCmp cmp) {a b : α} (hab : cmp a b = .eq) (c : α) :
    cmp a c = cmp b c := (h.consistent a b c).eq_left hab

/-- congruence in the right argument -/
theorem congr_right (h : TotalPreorderCmp cmp) {a b : α} (hab : cmp a b = .eq) (c : α) :
    cmp c a = cmp c b := ((h.consistent c a b).eq_right hab).symm

theorem lt_iff_gt (h : TotalPreorderCmp cmp) {a b : α} : cmp a b = .lt ↔ cmp b a = .gt := by
  rw [h.swap a b]; cases cmp a b <;> decide

theorem ne_gt_iff (h : TotalPreorderCmp cmp) {a b : α} : cmp a b ≠ .gt ↔ cmp b a ≠ .lt := by
  rw [h.swap a b]; cases cmp a b <;> decide

/-- the flipped comparison is again a total preorder -/
theorem flip (h : TotalPreorderCmp cmp) : TotalPreorderCmp (fun a b => cmp b a) :=
  ⟨h.refl, fun a b => h.swap b a, fun a b c h1 h2 => h.le_trans c b a h2 h1⟩

/-- pull-back of a total preorder along any function -/
theorem pullback (h : TotalPreorderCmp cmp) (f : β → α) :
    TotalPreorderCmp (fun x y => cmp (f x) (f y)) :=
  ((h.on (fun _ => True)).pullback (Q := fun _ => True) f (fun _ _ => trivial)).total

/-- lexicographic product of two total preorders -/
theorem lexProd {c₁ c₂ : α → α → Ordering} (h₁ : TotalPreorderCmp c₁) (h₂ : TotalPreorderCmp c₂) :
    TotalPreorderCmp (fun a b => (c₁ a b).then (c₂ a b)) :=
  ((h₁.on (fun _ => True)).lexProd (h₂.on _)).total

/-- lexicographic lift of a total preorder to lists -/
theorem lexList (h : TotalPreorderCmp cmp) : TotalPreorderCmp (Jawk.lexList cmp) :=
  ((h.on (fun _ => True)).lexList.mono (fun _ _ _ _ => trivial)).total

end TotalPreorderCmp

namespace Order

/-! ### Base orders: `compare` on `Nat` and `Int` -/

theorem compareNat_total_preorder : TotalPreorderCmp (compare : Nat → Nat → Ordering) where
  refl a := Nat.compare_eq_eq.mpr rfl
  swap a b := (Nat.compare_swap a b).symm
  le_trans a b c := by simp only [Nat.compare_ne_gt]; exact Nat.le_trans

theorem compareInt_total_preorder : TotalPreorderCmp (compare : Int → Int → Ordering) where
  refl a := Int.compare_eq_eq.mpr rfl
  swap a b := (Int.compare_swap a b).symm
  le_trans a b c := by simp only [Int.compare_ne_gt]; exact Int.le_trans

/-! ### Strings -/

/-- comparison of characters by code point -/
def cmpChar (a b : Char) : Ordering := compare a.toNat b.toNat

theorem cmpChar_total_preorder : TotalPreorderCmp cmpChar :=
  compareNat_total_preorder.pullback Char.toNat

theorem cmpChar_eq_iff (a b : Char) : cmpChar a b = .eq ↔ a = b := by
  unfold cmpChar; rw [Nat.compare_eq_eq, Char.toNat_inj]

theorem cmpStr_eq_lexList : ∀ (a b : Str), cmpStr a b = lexList cmpChar a b
  | [], [] => rfl
  | [], _ :: _ => rfl
  | _ :: _, [] => rfl
  | a :: as, b :: bs => by
    simp only [cmpStr, lexList, cmpStr_eq_lexList as bs, cmpChar]
    cases compare a.toNat b.toNat <;> rfl

theorem cmpStr_total_preorder : TotalPreorderCmp cmpStr := by
  have : cmpStr = lexList cmpChar := funext fun a => funext fun b => cmpStr_eq_lexList a b
  rw [this]; exact cmpChar_total_preorder.lexList

theorem cmpStr_refl (a : Str) : cmpStr a a = .eq := cmpStr_total_preorder.refl a

theorem cmpStr_eq_iff (a b : Str) : cmpStr a b = .eq ↔ a = b := by
  rw [cmpStr_eq_lexList]; exact lexList_eq_iff cmpChar_eq_iff a b

theorem cmpStr_swap (a b : Str) : cmpStr b a = (cmpStr a b).swap := cmpStr_total_preorder.swap a b

theorem cmpStr_le_trans (a b c : Str) : cmpStr a b ≠ .gt → cmpStr b c ≠ .gt → cmpStr a c ≠ .gt :=
  cmpStr_total_preorder.le_trans a b c

/-- `cmpStr` is a linear order: distinct strings are strictly ordered one way or the other -/
theorem cmpStr_lt_or_gt_of_ne {a b : Str} (h : a ≠ b) : cmpStr a b = .lt ∨ cmpStr a b = .gt := by
  have := mt (cmpStr_eq_iff a b).mp h
  cases hc : cmpStr a b <;> simp_all

theorem cmpStrList_eq_lexList : ∀ (a b : List Str), cmpStrList a b = lexList cmpStr a b
  | [], [] => rfl
  | [], _ :: _ => rfl
  | _ :: _, [] => rfl
  | a :: as, b :: bs => by
    simp only [cmpStrList, lexList, cmpStrList_eq_lexList as bs]
    cases cmpStr a b <;> rfl

theorem cmpStrList_total_preorder : TotalPreorderCmp cmpStrList := by
  have : cmpStrList = lexList cmpStr := funext fun a => funext fun b => cmpStrList_eq_lexList a b
  rw [this]; exact cmpStr_total_preorder.lexList

theorem cmpStrList_refl (a : List Str) : cmpStrList a a = .eq := cmpStrList_total_preorder.refl a

theorem cmpStrList_eq_iff (a b : List Str) : cmpStrList a b = .eq ↔ a = b := by
  rw [cmpStrList_eq_lexList]; exact lexList_eq_iff cmpStr_eq_iff a b

theorem cmpStrList_swap (a b : List Str) : cmpStrList b a = (cmpStrList a b).swap :=
  cmpStrList_total_preorder.swap a b

theorem cmpStrList_le_trans (a b c : List Str) :
    cmpStrList a b ≠ .gt → cmpStrList b c ≠ .gt → cmpStrList a c ≠ .gt :=
  cmpStrList_total_preorder.le_trans a b c

/-! ### Numbers -/

theorem totalCmp_total_preorder : TotalPreorderCmp F64.totalCmp :=
  compareInt_total_preorder.pullback F64.totalKey

theorem numCmp_total_preorder : TotalPreorderCmp Num.cmp :=
  totalCmp_total_preorder.pullback Num.toF64

/-! ### `JV.cmp` as a lexicographic product of pull-backs -/

def boolKey : JV → Nat
  | .bool b => b.toNat
  | _ => 0

def strKey : JV → Str
  | .str s => s
  | _ => []

def numKey : JV → Num
  | .num n => n
  | _ => .pos 0

def objKey : JV → List (Str × JV)
  | .obj kvs => kvs
  | _ => []

def arrKey : JV → List JV
  | .arr vs => vs
  | _ => []

/-- the comparison of two objects: (number of members, sorted key list, display string) -/
def objCmp (a b : List (Str × JV)) : Ordering :=
  (compare a.length b.length).then
    ((cmpStrList (sortStrs (a.map (·.1))) (sortStrs (b.map (·.1)))).then
      (cmpStr (JV.display (.obj a)) (JV.display (.obj b))))

theorem objCmp_total_preorder : TotalPreorderCmp objCmp :=
  (compareNat_total_preorder.pullback List.length).lexProd
    ((cmpStrList_total_preorder.pullback (fun a : List (Str × JV) => sortStrs (a.map (·.1)))).lexProd
      (cmpStr_total_preorder.pullback (fun a : List (Str × JV) => JV.display (.obj a))))

theorem cmpList_eq_lexList : ∀ (a b : List JV), JV.cmpList a b = lexList JV.cmp a b
  | [], [] => by simp [JV.cmpList, lexList]
  | [], _ :: _ => by simp [JV.cmpList, lexList]
  | _ :: _, [] => by simp [JV.cmpList, lexList]
  | a :: as, b :: bs => by
    simp only [JV.cmpList, lexList, cmpList_eq_lexList as bs]
    cases JV.cmp a b <;> rfl

theorem cmp_obj (a b : List (Str × JV)) : JV.cmp (.obj a) (.obj b) = objCmp a b := by
  simp only [JV.cmp, objCmp]
  cases compare a.length b.length <;> first | rfl | (cases cmpStrList _ _ <;> rfl)

/-- the chain of components `JV.cmp` runs through -/
def chain (a b : JV) : Ordering :=
  (compare a.rank b.rank).then <|
  (compare (boolKey a) (boolKey b)).then <|
  (cmpStr (strKey a) (strKey b)).then <|
  (Num.cmp (numKey a) (numKey b)).then <|
  (objCmp (objKey a) (objKey b)).then <|
  lexList JV.cmp (arrKey a) (arrKey b)

theorem then_eq_right (o : Ordering) : Ordering.eq.then o = o := rfl

theorem cmp_eq_chain (a b : JV) : JV.cmp a b = chain a b := by
  have hn : Num.cmp (.pos 0) (.pos 0) = .eq := numCmp_total_preorder.refl _
  have ho : objCmp [] [] = .eq := objCmp_total_preorder.refl _
  cases a <;> cases b
  -- values of different types, and `null`: both sides evaluate
  any_goals rfl
  -- same type: the components of the other types compare `.eq`
  all_goals
    first | rw [cmp_obj] | rw [JV.cmp]
    simp only [chain, cmpList_eq_lexList, JV.rank, boolKey, strKey, numKey, objKey, arrKey, hn, ho, lexList,
      cmpStr, Nat.compare_eq_eq.mpr, Ordering.then_eq, then_eq_right]

/-! ### The main theorem -/

theorem sizeOf_lt_of_mem_arrKey {a x : JV} (hx : x ∈ arrKey a) : sizeOf x < sizeOf a := by
  cases a <;> simp only [arrKey, List.not_mem_nil] at hx
  have := List.sizeOf_lt_of_mem hx
  simp only [JV.arr.sizeOf_spec]; omega

/-- `JV.cmp` is a total preorder on the values of size below `n` -/
theorem cmp_total_preorder_on : ∀ n : Nat, TotalPreorderOn (fun a : JV => sizeOf a < n) JV.cmp
  | 0 => ⟨fun _ h => absurd h (Nat.not_lt_zero _), fun _ _ h => absurd h (Nat.not_lt_zero _),
          fun _ _ _ h => absurd h (Nat.not_lt_zero _)⟩
  | n + 1 => by
    have ih := cmp_total_preorder_on n
    have harr : TotalPreorderOn (fun a : JV => sizeOf a < n + 1)
        (fun a b => lexList JV.cmp (arrKey a) (arrKey b)) :=
      ih.lexList.pullback arrKey (fun a ha x hx => by
        have := sizeOf_lt_of_mem_arrKey hx
        show sizeOf x < n
        omega)
    have hchain : TotalPreorderOn (fun a : JV => sizeOf a < n + 1) chain :=
      ((compareNat_total_preorder.pullback JV.rank).on _).lexProd <|
      ((compareNat_total_preorder.pullback boolKey).on _).lexProd <|
      ((cmpStr_total_preorder.pullback strKey).on _).lexProd <|
      ((numCmp_total_preorder.pullback numKey).on _).lexProd <|
      ((objCmp_total_preorder.pullback objKey).on _).lexProd harr
    have : JV.cmp = chain := funext fun a => funext fun b => cmp_eq_chain a b
    rw [this]; exact hchain

/-- **C07**: `JV.cmp` is a total preorder on ALL values. -/
theorem cmp_total_preorder : TotalPreorderCmp JV.cmp where
  refl a := (cmp_total_preorder_on (sizeOf a + 1)).refl a (Nat.lt_succ_self _)
  swap a b := (cmp_total_preorder_on (sizeOf a + sizeOf b + 1)).swap a b
    (show sizeOf a < _ by omega) (show sizeOf b < _ by omega)
  le_trans a b c := (cmp_total_preorder_on (sizeOf a + sizeOf b + sizeOf c + 1)).le_trans a b c
    (show sizeOf a < _ by omega) (show sizeOf b < _ by omega) (show sizeOf c < _ by omega)

theorem cmp_refl (a : JV) : JV.cmp a a = .eq := cmp_total_preorder.refl a
theorem cmp_swap (a b : JV) : JV.cmp b a = (JV.cmp a b).swap := cmp_total_preorder.swap a b
theorem cmp_le_trans (a b c : JV) : JV.cmp a b ≠ .gt → JV.cmp b c ≠ .gt → JV.cmp a c ≠ .gt :=
  cmp_total_preorder.le_trans a b c

/-- `Vec<JsonValue>::cmp` is a total preorder as well -/
theorem cmpList_total_preorder : TotalPreorderCmp JV.cmpList := by
  have : JV.cmpList = lexList JV.cmp := funext fun a => funext fun b => cmpList_eq_lexList a b
  rw [this]; exact cmp_total_preorder.lexList

theorem cmpList_refl (a : List JV) : JV.cmpList a a = .eq := cmpList_total_preorder.refl a
theorem cmpList_swap (a b : List JV) : JV.cmpList b a = (JV.cmpList a b).swap :=
  cmpList_total_preorder.swap a b
theorem cmpList_le_trans (a b c : List JV) :
    JV.cmpList a b ≠ .gt → JV.cmpList b c ≠ .gt → JV.cmpList a c ≠ .gt :=
  cmpList_total_preorder.le_trans a b c

/-! ### The order of types, and the same-type comparisons -/

theorem rank_order {a b : JV} (h : a.rank < b.rank) : JV.cmp a b = .lt := by
  rw [cmp_eq_chain, chain, Nat.compare_eq_lt.mpr h]; rfl

theorem rank_order_gt {a b : JV} (h : b.rank < a.rank) : JV.cmp a b = .gt := by
  rw [cmp_eq_chain, chain, Nat.compare_eq_gt.mpr h]; rfl

/-- values that compare `.eq` have the same type -/
theorem rank_eq_of_cmp_eq {a b : JV} (h : JV.cmp a b = .eq) : a.rank = b.rank := by
  rw [cmp_eq_chain, chain, Ordering.then_eq_eq] at h
  exact Nat.compare_eq_eq.mp h.1

/-- `JV.cmp a b ≠ .gt` implies the type of `a` does not come after the type of `b` -/
theorem rank_le_of_cmp_ne_gt {a b : JV} (h : JV.cmp a b ≠ .gt) : a.rank ≤ b.rank := by
  apply Nat.le_of_not_lt
  intro hlt
  exact h (rank_order_gt hlt)

theorem cmp_null_null : JV.cmp .null .null = .eq := rfl
theorem cmp_bool (a b : Bool) : JV.cmp (.bool a) (.bool b) = compare a.toNat b.toNat := by
  simp only [JV.cmp]
theorem cmp_str (a b : Str) : JV.cmp (.str a) (.str b) = cmpStr a b := by simp only [JV.cmp]
theorem cmp_num (a b : Num) : JV.cmp (.num a) (.num b) = Num.cmp a b := by simp only [JV.cmp]
theorem cmp_arr (a b : List JV) : JV.cmp (.arr a) (.arr b) = JV.cmpList a b := by simp only [JV.cmp]

/-- arrays compare lexicographically, element-wise by `JV.cmp`, a proper prefix first -/
theorem cmp_arr_lex (a b : List JV) : JV.cmp (.arr a) (.arr b) = lexList JV.cmp a b := by
  rw [cmp_arr, cmpList_eq_lexList]

theorem cmp_arr_nil_nil : JV.cmp (.arr []) (.arr []) = .eq := by simp only [JV.cmp, JV.cmpList]
theorem cmp_arr_nil_cons (y : JV) (ys : List JV) : JV.cmp (.arr []) (.arr (y :: ys)) = .lt := by
  simp only [JV.cmp, JV.cmpList]
theorem cmp_arr_cons_nil (x : JV) (xs : List JV) : JV.cmp (.arr (x :: xs)) (.arr []) = .gt := by
  simp only [JV.cmp, JV.cmpList]
theorem cmp_arr_cons_cons (x y : JV) (xs ys : List JV) :
    JV.cmp (.arr (x :: xs)) (.arr (y :: ys)) = (JV.cmp x y).then (JV.cmp (.arr xs) (.arr ys)) := by
  rw [cmp_arr_lex, cmp_arr_lex]; rfl

/-- strings inside `JV` are linearly ordered: `.eq` only for equal strings -/
theorem cmp_str_eq_iff (a b : Str) : JV.cmp (.str a) (.str b) = .eq ↔ a = b := by
  rw [cmp_str]; exact cmpStr_eq_iff a b

/-! the documented type order `null < false < true < string < number < object < array` -/
theorem null_lt_bool (b : Bool) : JV.cmp .null (.bool b) = .lt := rank_order (by simp [JV.rank])
theorem false_lt_true : JV.cmp (.bool false) (.bool true) = .lt := by decide
theorem bool_lt_str (b : Bool) (s : Str) : JV.cmp (.bool b) (.str s) = .lt := rank_order (by simp [JV.rank])
theorem str_lt_num (s : Str) (n : Num) : JV.cmp (.str s) (.num n) = .lt := rank_order (by simp [JV.rank])
theorem num_lt_obj (n : Num) (o : List (Str × JV)) : JV.cmp (.num n) (.obj o) = .lt :=
  rank_order (by simp [JV.rank])
theorem obj_lt_arr (o : List (Str × JV)) (a : List JV) : JV.cmp (.obj o) (.arr a) = .lt :=
  rank_order (by simp [JV.rank])
/-- … and any earlier type is below any later type, e.g.: -/
theorem null_lt_arr (a : List JV) : JV.cmp .null (.arr a) = .lt := rank_order (by simp [JV.rank])
theorem bool_lt_num (b : Bool) (n : Num) : JV.cmp (.bool b) (.num n) = .lt := rank_order (by simp [JV.rank])
theorem str_lt_obj (s : Str) (o : List (Str × JV)) : JV.cmp (.str s) (.obj o) = .lt :=
  rank_order (by simp [JV.rank])

/-- objects: fewer members first (then sorted key list, then display string: `cmp_obj`) -/
theorem cmp_obj_length_lt {a b : List (Str × JV)} (h : a.length < b.length) :
    JV.cmp (.obj a) (.obj b) = .lt := by
  rw [cmp_obj, objCmp, Nat.compare_eq_lt.mpr h]; rfl

/-! ### Non-vacuity: concrete evaluations -/

example : JV.cmp (.num (.pos 2)) (.num (.pos 10)) = .lt := by decide
example : JV.cmp (.num (.neg (-3))) (.num (.pos 0)) = .lt := by decide
example : JV.cmp (.str "10".toList) (.str "2".toList) = .lt := by decide
example : JV.cmp (.str "b".toList) (.str "ab".toList) = .gt := by decide
example : JV.cmp (.bool true) (.bool false) = .gt := by decide
example : JV.cmp (.arr [.null, .bool true]) (.arr [.null, .bool true, .null]) = .lt := by decide
example : JV.cmp (.arr [.str "a".toList]) (.arr [.bool true, .bool true]) = .gt := by decide
example : JV.cmp (.obj [("a".toList, .null)]) (.obj []) = .gt := by decide
example : JV.cmp (.obj [("a".toList, .null)]) (.obj [("b".toList, .null)]) = .lt := by decide
example : JV.cmp (.obj [("a".toList, .bool true)]) (.obj [("a".toList, .bool false)]) = .gt := by
  decide
example : JV.cmp (.arr [.obj []]) (.arr [.arr []]) = .lt := by decide
/-- `cmp_le_trans` on a concrete chain with all hypotheses satisfied -/
example : JV.cmp .null (.arr []) ≠ .gt :=
  cmp_le_trans .null (.str []) (.arr []) (by decide) (by decide)

end Order
end Jawk
