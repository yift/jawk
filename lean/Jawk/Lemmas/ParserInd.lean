/-
  One induction principle for the JSON parser.  The parser (`Model/Reader.lean`, `Model/Parser.lean`) is written
  in `PM` from `pure`, `PM.fail`, `locErr`, `next`, `peek`, `>>=`, `if` and `match`, with a fuel argument in its
  loops.  A relation between actions that holds between each leaf and itself, is kept by `>>=`, and relates an
  action that is out of fuel to anything, relates every parser function at one fuel to the same function at any
  larger fuel (`PM.Closed₂`).  On the diagonal: a predicate that holds of the leaves and is kept by `>>=` holds of
  every parser function (`PM.Closed`).
-/
import Jawk.Lemmas.PM
import Jawk.Model.Parser
namespace Jawk
open Reader

/-- `R` relates each leaf the parser is written from to itself, relates an action that is out of fuel to any
action, and is kept by `>>=`.  The parser itself never raises `.io` (only `Reader.next` does), so `locErr` is asked
for the other errors only. -/
structure PM.Closed₂ (R : ∀ {α : Type}, PM α → PM α → Prop) : Prop where
  pure : ∀ {α} (a : α), R (pure a : PM α) (pure a)
  oof : ∀ {α} (m : PM α), R (PM.fail .outOfFuel) m
  locErr : ∀ {α} (mk : Loc → PErr), (∀ l, mk l ≠ .io) → R (locErr mk : PM α) (locErr mk)
  next : R Reader.next Reader.next
  peek : R Reader.peek Reader.peek
  bind : ∀ {α β} {m m' : PM α} {f f' : α → PM β}, R m m' → (∀ a, R (f a) (f' a)) → R (m >>= f) (m' >>= f')

theorem PM.ite₂ {α} {R : PM α → PM α → Prop} {c : Prop} [Decidable c] {a a' b b' : PM α}
    (ha : R a a') (hb : R b b') : R (if c then a else b) (if c then a' else b') := by
  split
  · exact ha
  · exact hb

theorem PM.ite {α} {P : PM α → Prop} {c : Prop} [Decidable c] {a b : PM α} (ha : P a) (hb : P b) :
    P (if c then a else b) :=
  PM.ite₂ (R := fun m _ => P m) (a' := a) (b' := b) ha hb

/-! Each proof below follows the text of the function it is about: `h.bind` where the function binds, a case
where it matches on what was read, `split` where it matches on a computed value. -/

namespace PM.Closed₂
variable {R : ∀ {α : Type}, PM α → PM α → Prop} (h : PM.Closed₂ R)
include h

theorem eatWhitespace : ∀ {F F'}, F ≤ F' → R (eatWhitespace F) (eatWhitespace F')
  | 0, _, _ => h.oof _
  | F + 1, F' + 1, hle => by
    rw [Reader.eatWhitespace, Reader.eatWhitespace]
    exact h.bind h.peek fun
      | some _ => PM.ite₂ (h.bind h.next fun _ => eatWhitespace (Nat.le_of_succ_le_succ hle)) (h.pure _)
      | none => h.pure _

theorem readDigits : ∀ {F F'}, F ≤ F' → ∀ acc, R (readDigits F acc) (readDigits F' acc)
  | 0, _, _, _ => h.oof _
  | F + 1, F' + 1, hle, acc => by
    rw [Reader.readDigits, Reader.readDigits]
    exact h.bind h.peek fun
      | some _ => PM.ite₂ (h.bind h.next fun _ => readDigits (Nat.le_of_succ_le_succ hle) _) (h.pure _)
      | none => h.pure _

theorem readWordTail (word : String) : ∀ es, R (readWordTail word es) (readWordTail word es)
  | [] => h.bind h.next fun _ => h.pure _
  | e :: es => by
    rw [Jawk.readWordTail]
    exact h.bind h.next fun
      | some _ => PM.ite₂ (h.locErr _ fun _ => nofun) (readWordTail word es)
      | none => h.locErr _ fun _ => nofun

theorem readHex4 : ∀ k acc, R (readHex4 k acc) (readHex4 k acc)
  | 0, _ => h.pure _
  | k + 1, acc => by
    rw [Jawk.readHex4]
    exact h.bind h.next fun
      | none => h.locErr _ fun _ => nofun
      | some c => by
        dsimp only
        split
        · exact readHex4 k _
        · exact h.locErr _ fun _ => nofun

theorem readStringLoop : ∀ {F F'}, F ≤ F' → ∀ acc, R (readStringLoop F acc) (readStringLoop F' acc)
  | 0, _, _, _ => h.oof _
  | F + 1, F' + 1, hle, acc => by
    have ih := readStringLoop (Nat.le_of_succ_le_succ hle)
    rw [Jawk.readStringLoop, Jawk.readStringLoop]
    refine h.bind h.next fun
      | none => h.locErr _ fun _ => nofun
      | some c => PM.ite₂ (h.bind h.next fun _ => ?quote) (PM.ite₂ (h.bind h.next fun
        | none => h.locErr _ fun _ => nofun
        | some e => ?escape) (ih _))
    case quote =>
      split
      · exact h.pure _
      · exact h.locErr _ fun _ => nofun
    case escape =>
      dsimp only
      split
      · exact ih _
      · refine PM.ite₂ (h.bind (h.readHex4 _ _) fun code => ?_) (h.locErr _ fun _ => nofun)
        split
        · exact ih _
        · exact h.locErr _ fun _ => nofun

theorem parseToDouble (text : List Byte) : R (parseToDouble text) (parseToDouble text) := by
  unfold Jawk.parseToDouble
  split
  · exact h.locErr _ fun _ => nofun
  · exact PM.ite₂ (h.pure _) (h.locErr _ fun _ => nofun)

theorem readNumber {F F' : Nat} (hle : F ≤ F') : R (readNumber F) (readNumber F') := by
  have digits := h.readDigits hle
  unfold Jawk.readNumber
  refine h.bind (h.bind h.peek fun _ => PM.ite₂ (h.bind h.next fun
      | none => h.locErr _ fun _ => nofun
      | some _ => h.pure _) (h.pure _)) fun negative =>
    h.bind (digits _) fun intDigits =>
    h.bind (h.bind h.peek fun _ =>
      PM.ite₂ (h.bind h.next fun _ => h.bind (digits _) fun _ => h.pure _) (h.pure _)) fun
    | (chars, double) =>
      h.bind (h.bind h.peek fun _ => PM.ite₂ (h.bind h.next fun _ => h.bind (h.bind h.peek fun _ => ?sign) fun _ =>
        h.bind (digits _) fun _ => h.pure _) (h.pure _)) fun
      | (chars, double) => PM.ite₂ (h.parseToDouble _) (PM.ite₂ ?neg ?pos)
  case sign =>
    split
    · exact h.bind h.next fun _ => h.pure _
    · exact h.bind h.next fun _ => h.pure _
    · exact h.pure _
  case neg =>
    split
    · exact h.pure _
    · exact h.parseToDouble _
    · exact h.locErr _ fun _ => nofun
  case pos =>
    split
    · exact h.pure _
    · exact h.parseToDouble _

/-- the five mutually recursive value readers together, by induction on the fuel -/
theorem values : ∀ {F F'}, F ≤ F' → R (nextValue F) (nextValue F') ∧ R (readArray F) (readArray F') ∧
    (∀ acc, R (readArrayLoop F acc) (readArrayLoop F' acc)) ∧ R (readObject F) (readObject F') ∧
    ∀ acc, R (readObjectLoop F acc) (readObjectLoop F' acc)
  | 0, _, _ => ⟨h.oof _, h.oof _, fun _ => h.oof _, h.oof _, fun _ => h.oof _⟩
  | F + 1, F' + 1, hle => by
    obtain ⟨value, array, arrayLoop, object, objectLoop⟩ := values (Nat.le_of_succ_le_succ hle)
    have ws := h.eatWhitespace hle
    refine ⟨?_, ?_, fun acc => ?_, ?_, fun acc => ?_⟩
    · rw [Jawk.nextValue, Jawk.nextValue]
      exact h.bind ws fun _ => h.bind h.peek fun
        | none => h.pure _
        | some c =>
          PM.ite₂ (h.bind (h.readWordTail _ _) fun _ => h.pure _) <|
          PM.ite₂ (h.bind (h.readWordTail _ _) fun _ => h.pure _) <|
          PM.ite₂ (h.bind (h.readWordTail _ _) fun _ => h.pure _) <|
          PM.ite₂ (h.bind (h.readStringLoop hle _) fun _ => h.pure _) <|
          PM.ite₂ (h.bind (h.readNumber hle) fun _ => h.pure _) <|
          PM.ite₂ (h.bind array fun _ => h.pure _) <|
          PM.ite₂ (h.bind object fun _ => h.pure _) <|
          h.bind h.next fun _ => h.locErr _ fun _ => nofun
    · rw [Jawk.readArray, Jawk.readArray]
      exact h.bind h.next fun _ => h.bind ws fun _ => h.bind h.peek fun _ =>
        PM.ite₂ (h.bind h.next fun _ => h.pure _) (arrayLoop _)
    · rw [Jawk.readArrayLoop, Jawk.readArrayLoop]
      exact h.bind value fun
        | none => h.locErr _ fun _ => nofun
        | some v => h.bind ws fun _ => h.bind h.peek fun
          | none => h.locErr _ fun _ => nofun
          | some ch =>
            PM.ite₂ (h.bind h.next fun _ => h.pure _) <|
            PM.ite₂ (h.bind h.next fun _ => arrayLoop _) <|
            h.locErr _ fun _ => nofun
    · rw [Jawk.readObject, Jawk.readObject]
      exact h.bind h.next fun _ => h.bind ws fun _ => h.bind h.peek fun _ =>
        PM.ite₂ (h.bind h.next fun _ => h.pure _) (objectLoop _)
    · rw [Jawk.readObjectLoop, Jawk.readObjectLoop]
      refine h.bind value fun key => ?_
      split
      · exact h.locErr _ fun _ => nofun
      · exact h.bind ws fun _ => h.bind h.peek fun
          | none => h.locErr _ fun _ => nofun
          | some ch => PM.ite₂ (h.locErr _ fun _ => nofun) <| h.bind h.next fun _ => h.bind value fun
            | none => h.locErr _ fun _ => nofun
            | some v => h.bind ws fun _ => h.bind h.peek fun
              | none => h.locErr _ fun _ => nofun
              | some ch =>
                PM.ite₂ (h.bind h.next fun _ => h.pure _) <|
                PM.ite₂ (h.bind h.next fun _ => objectLoop _) <|
                h.locErr _ fun _ => nofun
      · exact h.locErr _ fun _ => nofun

theorem nextValue {F F' : Nat} (hle : F ≤ F') : R (nextValue F) (nextValue F') := (h.values hle).1

end PM.Closed₂

/-- `P` holds of the leaves the parser is written from and is closed under `>>=`; the only failure the parser
raises with `PM.fail` is running out of fuel, and `locErr` is asked for the errors other than `.io` only. -/
structure PM.Closed (P : ∀ {α : Type}, PM α → Prop) : Prop where
  pure : ∀ {α} (a : α), P (pure a : PM α)
  oof : ∀ {α}, P (PM.fail .outOfFuel : PM α)
  locErr : ∀ {α} (mk : Loc → PErr), (∀ l, mk l ≠ .io) → P (locErr mk : PM α)
  next : P Reader.next
  peek : P Reader.peek
  bind : ∀ {α β} {m : PM α} {f : α → PM β}, P m → (∀ a, P (f a)) → P (m >>= f)

namespace PM.Closed
variable {P : ∀ {α : Type}, PM α → Prop} (h : PM.Closed P)
include h

theorem diag : PM.Closed₂ (fun m _ => P m) :=
  ⟨h.pure, fun _ => h.oof, h.locErr, h.next, h.peek, h.bind⟩

theorem eatWhitespace (fuel : Nat) : P (eatWhitespace fuel) := h.diag.eatWhitespace (Nat.le_refl fuel)
theorem readDigits (fuel : Nat) (acc : List Byte) : P (readDigits fuel acc) := h.diag.readDigits (Nat.le_refl fuel) acc
theorem readWordTail (word : String) (es : List Byte) : P (readWordTail word es) := h.diag.readWordTail word es
theorem readHex4 (k acc : Nat) : P (readHex4 k acc) := h.diag.readHex4 k acc
theorem readStringLoop (fuel : Nat) (acc : List Byte) : P (readStringLoop fuel acc) :=
  h.diag.readStringLoop (Nat.le_refl fuel) acc
theorem parseToDouble (text : List Byte) : P (parseToDouble text) := h.diag.parseToDouble text
theorem readNumber (fuel : Nat) : P (readNumber fuel) := h.diag.readNumber (Nat.le_refl fuel)
theorem nextValue (fuel : Nat) : P (nextValue fuel) := (h.diag.values (Nat.le_refl fuel)).1
theorem readArray (fuel : Nat) : P (readArray fuel) := (h.diag.values (Nat.le_refl fuel)).2.1
theorem readArrayLoop (fuel : Nat) (acc : List JV) : P (readArrayLoop fuel acc) :=
  (h.diag.values (Nat.le_refl fuel)).2.2.1 acc
theorem readObject (fuel : Nat) : P (readObject fuel) := (h.diag.values (Nat.le_refl fuel)).2.2.2.1
theorem readObjectLoop (fuel : Nat) (acc : List (Str × JV)) : P (readObjectLoop fuel acc) :=
  (h.diag.values (Nat.le_refl fuel)).2.2.2.2 acc

end PM.Closed

/-- The commonest instance: `Q m` says that `m` takes every reader to one related to it by `R`, whatever the
outcome.  If `R` is reflexive and transitive only `next` has to be looked at. -/
theorem PM.Closed.of_rel {Q : ∀ {α : Type}, PM α → Prop} (R : Reader → Reader → Prop)
    (hQ : ∀ {α} (m : PM α), Q m ↔ ∀ r, R r (m r).2) (refl : ∀ r, R r r)
    (trans : ∀ {a b c}, R a b → R b c → R a c) (next : ∀ r, R r (Reader.next r).2) : PM.Closed Q where
  pure _ := (hQ _).2 refl
  oof := (hQ _).2 refl
  locErr _ _ := (hQ _).2 refl
  next := (hQ _).2 next
  peek := (hQ _).2 fun r => by
    unfold Reader.peek
    split
    · exact refl r
    · exact next r
  bind {_ _ m _} hm hf := (hQ _).2 fun r => by
    have h1 := (hQ _).1 hm r
    rw [PM.bind_apply]
    cases h : m r with
    | mk res r1 =>
      rw [h] at h1
      cases res with
      | error e => exact h1
      | ok a => exact trans h1 ((hQ _).1 (hf a) r1)

end Jawk
