/-
  The equations through which the proofs about function calls use the evaluator: one step of `eval` on a
  call; the dispatcher `callFn` (which of the six groups answers depends on the name only, `callFn` is the
  answer of the first group that knows the name, and the modelled panic when none does); how a group's
  function reads its arguments.

  In `eval_call` and the `callX_eq_none` lemmas `eval` and the group functions are opened with `simp only [eval]` /
  `rw [callBasic]` (not `unfold`, not `rfl`): that makes Lean derive their equation lemmas (for a group function:
  one per name) in this module, and the law files import them; derived inside a law's proof they would be
  derived again in every proof.  At the end: `Ctx.lookup_mem`, for the files that reason about macro tables.
-/
import Jawk.Model.Eval
namespace Jawk

theorem eval_call (orc : Oracles) (fuel : Nat) (fn : String) (args : List Expr) (ctx : Ctx) :
    eval orc (fuel + 1) (.call fn args) ctx = callFn (eval orc fuel) orc fn args ctx := by
  simp only [eval]

/-! ## Arguments -/

section Args
variable (ev : Ev) (ctx : Ctx) (e : Expr) (es : List Expr)

theorem applyArg_zero : applyArg ev (e :: es) ctx 0 = ev e ctx := rfl
theorem applyArg_succ (i : Nat) : applyArg ev (e :: es) ctx (i + 1) = applyArg ev es ctx i := by
  simp only [applyArg, List.getElem?_cons_succ]
theorem applyArg_nil (i : Nat) : applyArg ev [] ctx i = .ok none := rfl

end Args

theorem ok_bind {ε α β} (x : α) (f : α → Except ε β) : (Except.ok x >>= f) = f x := rfl
theorem error_bind {ε α β} (e : ε) (f : α → Except ε β) : (Except.error e >>= f) = .error e := rfl

theorem usizeArg_pos (n : Nat) : usizeArg (some (.num (.pos n))) = some n := rfl
theorem strArg_str (s : Str) : strArg (some (.str s)) = some s := rfl
theorem numArg_num (x : Num) : numArg (some (.num x)) = some x.toF64 := rfl

/-! ## Dispatch: `callFn` asks the groups in order, and each group answers for its own names only -/

def basicNames : List String :=
  ["get", "size", "take", "take_last", "sub", "?", "default", "|", "=", "!=", "<", "<=", ">", ">=", "and", "or",
   "not", "xor", "as_array", "as_boolean", "as_number", "as_object", "as_string", "array?", "bool?", "empty?",
   "null?", "number?", "object?", "string?", ":", "@", "set", "define"]

def listNames : List String :=
  ["filter", "map", "flat_map", "fold", "group_by", "sort_by", "all", "any", "first", "last", "join", "sum",
   "indexed", "pop", "pop_first", "push", "push_front", "reverese", "sort", "sort_unique", "range", "zip", "cross"]

def objectNames : List String :=
  ["filter_keys", "filter_values", "map_keys", "map_values", "insert_if_absent", "put", "replace_if_exists",
   "entries", "keys", "values", "sort_by_keys", "sort_by_values", "sort_by_values_by"]

def numberNames : List String := ["+", "*", "-", "/", "%", "abs", "ceil", "floor", "round"]

def stringNames : List String :=
  ["concat", "head", "tail", "split", "parse", "stringify", "parse_selection", "match", "extract_regex_group",
   "base63_decode", "env", "format_time", "parse_time", "parse_time_with_zone"]

def nasNames : List String :=
  ["\"+\"", "\"*\"", "\"-\"", "\"abs\"", "\"||\"", "\"round\"", "\"/\"", "\"%\"", "\"=\"", "\"!=\"", "\"<\"", "\"<=\"",
   "\">\"", "\">=\"", "\"sort_by\""]

section Dispatch
variable {ev : Ev} {orc : Oracles} {fn : String} {args : List Expr} {ctx : Ctx} {r : R}

theorem callBasic_eq_none (h : fn ∉ basicNames) : callBasic ev fn args ctx = none := by
  rw [callBasic]
  all_goals rintro rfl; exact h (by decide +kernel)

theorem callList_eq_none (h : fn ∉ listNames) : callList ev fn args ctx = none := by
  rw [callList]
  all_goals rintro rfl; exact h (by decide +kernel)

theorem callObject_eq_none (h : fn ∉ objectNames) : callObject ev fn args ctx = none := by
  rw [callObject]
  all_goals rintro rfl; exact h (by decide +kernel)

theorem callNumber_eq_none (h : fn ∉ numberNames) : callNumber ev fn args ctx = none := by
  rw [callNumber]
  all_goals rintro rfl; exact h (by decide +kernel)

theorem callString_eq_none (h : fn ∉ stringNames) : callString ev orc fn args ctx = none := by
  rw [callString]
  all_goals rintro rfl; exact h (by decide +kernel)

theorem callNas_eq_none (h : fn ∉ nasNames) : callNas ev orc fn args ctx = none := by
  rw [callNas]
  all_goals rintro rfl; exact h (by decide +kernel)

/-- a name of a later group is not a name of an earlier one (the last group, `nasNames`, is left out: no law is
about its functions, so nothing has to skip the five groups before it) -/
theorem names_disjoint :
    (∀ fn ∈ listNames, fn ∉ basicNames) ∧
    (∀ fn ∈ objectNames, fn ∉ basicNames ∧ fn ∉ listNames) ∧
    (∀ fn ∈ numberNames, fn ∉ basicNames ∧ fn ∉ listNames ∧ fn ∉ objectNames) ∧
    (∀ fn ∈ stringNames, fn ∉ basicNames ∧ fn ∉ listNames ∧ fn ∉ objectNames ∧ fn ∉ numberNames) := by
  decide +kernel

/-- the groups asked before a name's own group do not answer -/
theorem skipped_of_list (h : fn ∈ listNames) : callBasic ev fn args ctx = none :=
  callBasic_eq_none (names_disjoint.1 fn h)

theorem skipped_of_object (h : fn ∈ objectNames) :
    callBasic ev fn args ctx = none ∧ callList ev fn args ctx = none :=
  have ⟨hB, hL⟩ := names_disjoint.2.1 fn h
  ⟨callBasic_eq_none hB, callList_eq_none hL⟩

theorem skipped_of_number (h : fn ∈ numberNames) :
    callBasic ev fn args ctx = none ∧ callList ev fn args ctx = none ∧ callObject ev fn args ctx = none :=
  have ⟨hB, hL, hO⟩ := names_disjoint.2.2.1 fn h
  ⟨callBasic_eq_none hB, callList_eq_none hL, callObject_eq_none hO⟩

theorem skipped_of_string (h : fn ∈ stringNames) :
    callBasic ev fn args ctx = none ∧ callList ev fn args ctx = none ∧ callObject ev fn args ctx = none ∧
      callNumber ev fn args ctx = none :=
  have ⟨hB, hL, hO, hN⟩ := names_disjoint.2.2.2 fn h
  ⟨callBasic_eq_none hB, callList_eq_none hL, callObject_eq_none hO, callNumber_eq_none hN⟩

theorem callFn_basic (h : callBasic ev fn args ctx = some r) : callFn ev orc fn args ctx = r := by
  simp only [callFn, h]

theorem callFn_list (h : callList ev fn args ctx = some r) : callFn ev orc fn args ctx = r := by
  have hm : fn ∈ listNames := Decidable.byContradiction fun hn => by rw [callList_eq_none hn] at h; cases h
  simp only [callFn, skipped_of_list hm, h]

theorem callFn_object (h : callObject ev fn args ctx = some r) : callFn ev orc fn args ctx = r := by
  have hm : fn ∈ objectNames := Decidable.byContradiction fun hn => by rw [callObject_eq_none hn] at h; cases h
  simp only [callFn, skipped_of_object hm, h]

theorem callFn_number (h : callNumber ev fn args ctx = some r) : callFn ev orc fn args ctx = r := by
  have hm : fn ∈ numberNames := Decidable.byContradiction fun hn => by rw [callNumber_eq_none hn] at h; cases h
  simp only [callFn, skipped_of_number hm, h]

theorem callFn_string (h : callString ev orc fn args ctx = some r) : callFn ev orc fn args ctx = r := by
  have hm : fn ∈ stringNames := Decidable.byContradiction fun hn => by rw [callString_eq_none hn] at h; cases h
  simp only [callFn, skipped_of_string hm, h]

/-- a name that no group knows is the modelled panic of the function lookup -/
theorem callFn_unknown (hB : fn ∉ basicNames) (hL : fn ∉ listNames) (hO : fn ∉ objectNames) (hN : fn ∉ numberNames)
    (hS : fn ∉ stringNames) (hA : fn ∉ nasNames) :
    callFn ev orc fn args ctx = .error (.panic ("unmodelled-function:" ++ fn)) := by
  simp only [callFn, callBasic_eq_none hB, callList_eq_none hL, callObject_eq_none hO, callNumber_eq_none hN,
    callString_eq_none hS, callNas_eq_none hA]

end Dispatch

/-! whether a group answers depends on the name only: the outer `split` is the match on the name, where each arm is
`some _` on both sides; the inner `split` is for the arms that match on `args` -/

theorem callBasic_isSome (ev fn args ctx) (ev' args' ctx') :
    (callBasic ev fn args ctx).isSome = (callBasic ev' fn args' ctx').isSome := by
  unfold callBasic
  dsimp only
  split <;> first | rfl | (split <;> first | rfl | contradiction)

theorem callList_isSome (ev fn args ctx) (ev' args' ctx') :
    (callList ev fn args ctx).isSome = (callList ev' fn args' ctx').isSome := by
  unfold callList
  dsimp only
  split <;> first | rfl | (split <;> first | rfl | contradiction)

theorem callObject_isSome (ev fn args ctx) (ev' args' ctx') :
    (callObject ev fn args ctx).isSome = (callObject ev' fn args' ctx').isSome := by
  unfold callObject
  dsimp only
  split <;> first | rfl | (split <;> first | rfl | contradiction)

theorem callNumber_isSome (ev fn args ctx) (ev' args' ctx') :
    (callNumber ev fn args ctx).isSome = (callNumber ev' fn args' ctx').isSome := by
  unfold callNumber
  dsimp only
  split <;> first | rfl | (split <;> first | rfl | contradiction)

theorem callString_isSome (ev orc orc' fn args ctx) (ev' args' ctx') :
    (callString ev orc fn args ctx).isSome = (callString ev' orc' fn args' ctx').isSome := by
  unfold callString
  dsimp only
  split <;> first | rfl | (split <;> first | rfl | contradiction)

theorem callNas_isSome (ev orc orc' fn args ctx) (ev' args' ctx') :
    (callNas ev orc fn args ctx).isSome = (callNas ev' orc' fn args' ctx').isSome := by
  unfold callNas
  dsimp only
  split <;> first | rfl | (split <;> first | rfl | contradiction)

/-- a property of every body of every group, and of the fall-through when no group knows the name,
is a property of `callFn` -/
theorem callFn_elim {P : R → Prop} {ev : Ev} {orc : Oracles} {fn : String} {args : List Expr} {ctx : Ctx}
    (basic : ∀ r, callBasic ev fn args ctx = some r → P r)
    (list : ∀ r, callList ev fn args ctx = some r → P r)
    (object : ∀ r, callObject ev fn args ctx = some r → P r)
    (number : ∀ r, callNumber ev fn args ctx = some r → P r)
    (string : ∀ r, callString ev orc fn args ctx = some r → P r)
    (nas : ∀ r, callNas ev orc fn args ctx = some r → P r)
    (unmodelled : callBasic ev fn args ctx = none → callList ev fn args ctx = none →
      callObject ev fn args ctx = none → callNumber ev fn args ctx = none →
      callString ev orc fn args ctx = none → callNas ev orc fn args ctx = none →
      P (.error (.panic ("unmodelled-function:" ++ fn)))) :
    P (callFn ev orc fn args ctx) := by
  unfold callFn
  split; · exact basic _ ‹_›
  split; · exact list _ ‹_›
  split; · exact object _ ‹_›
  split; · exact number _ ‹_›
  split; · exact string _ ‹_›
  split; · exact nas _ ‹_›
  exact unmodelled ‹_› ‹_› ‹_› ‹_› ‹_› ‹_›

/-! the same for `eval`: a call is answered by the group that knows the name -/

section EvalDispatch
variable {orc : Oracles} {fuel : Nat} {fn : String} {args : List Expr} {ctx : Ctx} {r : R}

theorem eval_basic (h : callBasic (eval orc fuel) fn args ctx = some r) :
    eval orc (fuel + 1) (.call fn args) ctx = r :=
  (eval_call ..).trans (callFn_basic h)

theorem eval_list (h : callList (eval orc fuel) fn args ctx = some r) :
    eval orc (fuel + 1) (.call fn args) ctx = r :=
  (eval_call ..).trans (callFn_list h)

theorem eval_object (h : callObject (eval orc fuel) fn args ctx = some r) :
    eval orc (fuel + 1) (.call fn args) ctx = r :=
  (eval_call ..).trans (callFn_object h)

theorem eval_number (h : callNumber (eval orc fuel) fn args ctx = some r) :
    eval orc (fuel + 1) (.call fn args) ctx = r :=
  (eval_call ..).trans (callFn_number h)

theorem eval_string (h : callString (eval orc fuel) orc fn args ctx = some r) :
    eval orc (fuel + 1) (.call fn args) ctx = r :=
  (eval_call ..).trans (callFn_string h)

theorem eval_unknown (hB : fn ∉ basicNames) (hL : fn ∉ listNames) (hO : fn ∉ objectNames) (hN : fn ∉ numberNames)
    (hS : fn ∉ stringNames) (hA : fn ∉ nasNames) :
    eval orc (fuel + 1) (.call fn args) ctx = .error (.panic ("unmodelled-function:" ++ fn)) :=
  (eval_call ..).trans (callFn_unknown hB hL hO hN hS hA)

end EvalDispatch

/-- `call_simp callList [ha, hb]` proves `callList ev "name" [a, b] ctx = some r` (or reduces it to what is left to
show): `callList`'s equation for the name, then the equations for reading the arguments, with the values
`ha hb : eval orc fuel a ctx = …` of the arguments. -/
macro "call_simp" g:ident "[" ts:Lean.Parser.Tactic.simpLemma,* "]" : tactic =>
  `(tactic| (
    rw [$g:ident]
    simp only [applyArg_zero, applyArg_succ, applyArg_nil, ok_bind, error_bind, usizeArg_pos, strArg_str,
      numArg_num, jusize, jbool, $ts,*]))

/-- what `lookup` finds is in the list -/
theorem Ctx.lookup_mem {α} {l : List (Str × α)} {k : Str} {v : α} (h : Ctx.lookup l k = some v) :
    (k, v) ∈ l := by
  induction l with
  | nil => cases h
  | cons x xs ih =>
    obtain ⟨k', v'⟩ := x
    unfold Ctx.lookup at h
    split at h
    · next hk => cases h; subst hk; simp
    · exact List.mem_cons_of_mem _ (ih h)

end Jawk
