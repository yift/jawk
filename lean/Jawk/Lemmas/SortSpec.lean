/-
  The specification sort `SortSpec.sortDir` (stable insertion sort by a key under a total preorder,
  ascending or descending): permutation, sorted, stable; and where an insertion lands in a list
  that is cut to a prefix or split in two.  Core Lean only.
-/
import Jawk.Spec.Sort
import Jawk.Lemmas.Order

namespace Jawk

namespace SortSpec
variable {α κ : Type} {cmp : κ → κ → Ordering} {key : α → κ}

/-- descending insertion is ascending insertion for the flipped comparison -/
theorem insertDesc_eq_flip (H : TotalPreorderCmp cmp) (x : α) (l : List α) :
    insertDesc cmp key x l = insertAsc (fun a b => cmp b a) key x l := by
  induction l with
  | nil => rfl
  | cons y ys ih =>
    simp only [insertDesc, insertAsc, ih, (H.lt_iff_gt (a := key y) (b := key x)).symm]

theorem insertDir_true_eq_flip (H : TotalPreorderCmp cmp) (x : α) (l : List α) :
    insertDir cmp key true x l = insertDir (fun a b => cmp b a) key false x l := by
  simp [insertDir, insertDesc_eq_flip H]

theorem sortDir_true_eq_flip (H : TotalPreorderCmp cmp) (l : List α) :
    sortDir cmp key true l = sortDir (fun a b => cmp b a) key false l := by
  unfold sortDir
  congr 1
  funext acc x
  exact insertDir_true_eq_flip H x acc

theorem sortedDir_true_iff_flip (H : TotalPreorderCmp cmp) (l : List α) :
    SortedDir cmp key true l ↔ SortedDir (fun a b => cmp b a) key false l := by
  unfold SortedDir
  simp only [if_true, Bool.false_eq_true, if_false]
  constructor
  · intro h
    refine h.imp ?_
    intro a b hab hgt
    exact hab (H.lt_iff_gt.mpr hgt)
  · intro h
    refine h.imp ?_
    intro a b hab hlt
    exact hab (H.lt_iff_gt.mp hlt)

/-! ### ascending insertion -/

theorem insertAsc_perm (cmp : κ → κ → Ordering) (key : α → κ) (x : α) (l : List α) :
    (insertAsc cmp key x l).Perm (x :: l) := by
  induction l with
  | nil => exact List.Perm.refl _
  | cons y ys ih =>
    simp only [insertAsc]
    split
    · exact List.Perm.refl _
    · exact (List.Perm.cons y ih).trans (List.Perm.swap x y ys)

theorem insertAsc_length (cmp : κ → κ → Ordering) (key : α → κ) (x : α) (l : List α) :
    (insertAsc cmp key x l).length = l.length + 1 := by
  simpa using (insertAsc_perm cmp key x l).length_eq

theorem insertAsc_sorted (H : TotalPreorderCmp cmp) (x : α) (l : List α)
    (hl : SortedDir cmp key false l) : SortedDir cmp key false (insertAsc cmp key x l) := by
  unfold SortedDir at *
  simp only [Bool.false_eq_true, if_false] at *
  induction l with
  | nil => simp [insertAsc]
  | cons y ys ih =>
    rw [List.pairwise_cons] at hl
    simp only [insertAsc]
    split
    next hlt =>
      rw [List.pairwise_cons]
      refine ⟨?_, List.pairwise_cons.mpr hl⟩
      intro z hz
      rcases List.mem_cons.mp hz with rfl | hz
      · rw [hlt]; decide
      · rw [H.lt_of_lt_of_le hlt (hl.1 z hz)]; decide
    next hnlt =>
      rw [List.pairwise_cons]
      refine ⟨?_, ih hl.2⟩
      intro z hz
      have hz' := (insertAsc_perm cmp key x ys).mem_iff.mp hz
      rcases List.mem_cons.mp hz' with rfl | hz'
      · intro hgt; exact hnlt (H.lt_iff_gt.mpr hgt)
      · exact hl.1 z hz'

/-- stability core: inserting `x` into a sorted list puts it after all rows of its class -/
theorem insertAsc_filter (H : TotalPreorderCmp cmp) (p : α → Bool)
    (hp : ∀ a b, p a = true → p b = true → cmp (key a) (key b) = .eq)
    (x : α) (l : List α) (hl : SortedDir cmp key false l) :
    (insertAsc cmp key x l).filter p = l.filter p ++ (if p x then [x] else []) := by
  unfold SortedDir at hl
  simp only [Bool.false_eq_true, if_false] at hl
  induction l with
  | nil => cases hx : p x <;> simp [insertAsc, hx]
  | cons y ys ih =>
    rw [List.pairwise_cons] at hl
    simp only [insertAsc]
    split
    next hlt =>
      cases hx : p x with
      | false => simp [List.filter_cons, hx]
      | true =>
        have hnone : (y :: ys).filter p = [] := by
          rw [List.filter_eq_nil_iff]
          intro z hz hpz
          have hxz : cmp (key x) (key z) = .lt := by
            rcases List.mem_cons.mp hz with rfl | hz
            · exact hlt
            · exact H.lt_of_lt_of_le hlt (hl.1 z hz)
          rw [hp x z hx hpz] at hxz
          exact Ordering.noConfusion hxz
        rw [List.filter_cons, hx, hnone]; simp
    next hnlt =>
      rw [List.filter_cons, List.filter_cons, ih hl.2]
      split <;> simp

/-! ### the fold -/

theorem foldl_insertAsc_perm (cmp : κ → κ → Ordering) (key : α → κ) (l acc : List α) :
    (l.foldl (fun acc x => insertDir cmp key false x acc) acc).Perm (acc ++ l) := by
  induction l generalizing acc with
  | nil => simp
  | cons x xs ih =>
    rw [List.foldl_cons]
    refine (ih _).trans ?_
    have h1 : (insertDir cmp key false x acc).Perm (x :: acc) := by
      simpa [insertDir] using insertAsc_perm cmp key x acc
    refine (List.Perm.append_right xs h1).trans ?_
    simpa using (List.perm_middle (l₁ := acc) (l₂ := xs) (a := x)).symm

theorem foldl_insertAsc_sorted (H : TotalPreorderCmp cmp) (l acc : List α)
    (hacc : SortedDir cmp key false acc) :
    SortedDir cmp key false (l.foldl (fun acc x => insertDir cmp key false x acc) acc) := by
  induction l generalizing acc with
  | nil => simpa using hacc
  | cons x xs ih =>
    rw [List.foldl_cons]
    apply ih
    simpa [insertDir] using insertAsc_sorted H x acc hacc

theorem foldl_insertAsc_filter (H : TotalPreorderCmp cmp) (p : α → Bool)
    (hp : ∀ a b, p a = true → p b = true → cmp (key a) (key b) = .eq)
    (l acc : List α) (hacc : SortedDir cmp key false acc) :
    (l.foldl (fun acc x => insertDir cmp key false x acc) acc).filter p
      = acc.filter p ++ l.filter p := by
  induction l generalizing acc with
  | nil => simp
  | cons x xs ih =>
    rw [List.foldl_cons, ih]
    · have : insertDir cmp key false x acc = insertAsc cmp key x acc := by simp [insertDir]
      rw [this, insertAsc_filter H p hp x acc hacc, List.filter_cons]
      cases p x <;> simp
    · simpa [insertDir] using insertAsc_sorted H x acc hacc

theorem sortedDir_nil (cmp : κ → κ → Ordering) (key : α → κ) (desc : Bool) :
    SortedDir cmp key desc [] := List.Pairwise.nil

/-! ### permutation, sorted, stable -/

theorem sortDir_perm (H : TotalPreorderCmp cmp) (key : α → κ) (desc : Bool) (l : List α) :
    (sortDir cmp key desc l).Perm l := by
  cases desc with
  | false => simpa [sortDir] using foldl_insertAsc_perm cmp key l []
  | true =>
    rw [sortDir_true_eq_flip H]
    simpa [sortDir] using foldl_insertAsc_perm (fun a b => cmp b a) key l []

theorem sortDir_length (H : TotalPreorderCmp cmp) (key : α → κ) (desc : Bool) (l : List α) :
    (sortDir cmp key desc l).length = l.length :=
  (sortDir_perm H key desc l).length_eq

theorem sortDir_sorted (H : TotalPreorderCmp cmp) (key : α → κ) (desc : Bool) (l : List α) :
    SortedDir cmp key desc (sortDir cmp key desc l) := by
  cases desc with
  | false => exact foldl_insertAsc_sorted H l [] (sortedDir_nil _ _ _)
  | true =>
    rw [sortedDir_true_iff_flip H, sortDir_true_eq_flip H]
    exact foldl_insertAsc_sorted H.flip l [] (sortedDir_nil _ _ _)

/-- ties keep arrival order -/
theorem sortDir_stable (H : TotalPreorderCmp cmp) (key : α → κ) (desc : Bool) (l : List α) (k : κ) :
    (sortDir cmp key desc l).filter (fun x => cmp (key x) k = .eq)
      = l.filter (fun x => cmp (key x) k = .eq) := by
  -- the rows selected by the filter form one class
  have hp : ∀ a b, decide (cmp (key a) k = .eq) = true → decide (cmp (key b) k = .eq) = true →
      cmp (key a) (key b) = .eq := fun a b ha hb =>
    H.eq_trans (of_decide_eq_true ha) (H.eq_symm (of_decide_eq_true hb))
  cases desc with
  | false => simpa [sortDir] using foldl_insertAsc_filter H _ hp l [] (sortedDir_nil _ _ _)
  | true =>
    rw [sortDir_true_eq_flip H]
    simpa [sortDir] using foldl_insertAsc_filter H.flip (key := key) _ (fun a b ha hb => hp b a hb ha)
      l [] (sortedDir_nil _ _ _)

/-! ### the pure list core of the top-N shortcut -/

theorem insertAsc_take (cmp : κ → κ → Ordering) (key : α → κ) (x : α) (l : List α) (n : Nat) :
    (insertAsc cmp key x (l.take n)).take n = (insertAsc cmp key x l).take n := by
  induction l generalizing n with
  | nil => simp
  | cons y ys ih =>
    cases n with
    | zero => simp
    | succ n =>
      simp only [List.take_succ_cons, insertAsc]
      split
      · simp only [List.take_succ_cons]
        congr 1
        rw [← List.take_succ_cons, List.take_take]
        simp
      · simp only [List.take_succ_cons, ih]

/-- inserting into the first `n` rows and cutting again = inserting into all rows and cutting
(no sortedness needed: insertion only looks at a prefix) -/
theorem insertDir_take (H : TotalPreorderCmp cmp) (key : α → κ) (desc : Bool) (x : α) (l : List α)
    (n : Nat) :
    (insertDir cmp key desc x (l.take n)).take n = (insertDir cmp key desc x l).take n := by
  cases desc
  · exact insertAsc_take cmp key x l n
  · rw [insertDir_true_eq_flip H, insertDir_true_eq_flip H]
    exact insertAsc_take _ key x l n

theorem insertDir_length (H : TotalPreorderCmp cmp) (key : α → κ) (desc : Bool) (x : α)
    (l : List α) : (insertDir cmp key desc x l).length = l.length + 1 := by
  cases desc
  · exact insertAsc_length cmp key x l
  · rw [insertDir_true_eq_flip H]
    exact insertAsc_length _ key x l

/-! ### where an insertion lands, given bounds on a prefix / the whole list -/

theorem insertAsc_of_all_lt (cmp : κ → κ → Ordering) (key : α → κ) (x : α) (l : List α)
    (h : ∀ y ∈ l, cmp (key x) (key y) = .lt) : insertAsc cmp key x l = x :: l := by
  cases l with
  | nil => rfl
  | cons y ys => simp [insertAsc, h y (List.mem_cons_self ..)]

theorem insertAsc_append_of_not_lt (cmp : κ → κ → Ordering) (key : α → κ) (x : α) (A B : List α)
    (h : ∀ y ∈ A, cmp (key x) (key y) ≠ .lt) :
    insertAsc cmp key x (A ++ B) = A ++ insertAsc cmp key x B := by
  induction A with
  | nil => rfl
  | cons y ys ih =>
    have hy := h y (List.mem_cons_self ..)
    simp only [List.cons_append, insertAsc, if_neg hy]
    rw [ih (fun z hz => h z (List.mem_cons_of_mem _ hz))]

theorem insertAsc_of_not_lt (cmp : κ → κ → Ordering) (key : α → κ) (x : α) (l : List α)
    (h : ∀ y ∈ l, cmp (key x) (key y) ≠ .lt) : insertAsc cmp key x l = l ++ [x] := by
  simpa [insertAsc] using insertAsc_append_of_not_lt cmp key x l [] h

theorem insertAsc_append_of_all_lt (cmp : κ → κ → Ordering) (key : α → κ) (x : α) (L A : List α)
    (h : ∀ y ∈ A, cmp (key x) (key y) = .lt) :
    insertAsc cmp key x (L ++ A) = insertAsc cmp key x L ++ A := by
  induction L with
  | nil => exact insertAsc_of_all_lt cmp key x A h
  | cons y ys ih =>
    simp only [List.cons_append, insertAsc]
    split
    · rfl
    · rw [ih]; rfl

/-! ### sorting commutes with a map that keeps the keys -/

theorem insertAsc_map {α κ : Type} (cmp : κ → κ → Ordering) (key : α → κ) (g : α → α)
    (hg : ∀ a, key (g a) = key a) (x : α) (l : List α) :
    insertAsc cmp key (g x) (l.map g) = (insertAsc cmp key x l).map g := by
  induction l with
  | nil => rfl
  | cons y ys ih =>
    simp only [List.map_cons, insertAsc, hg]
    split
    · rfl
    · simp only [List.map_cons, ih]

theorem insertDesc_map {α κ : Type} (cmp : κ → κ → Ordering) (key : α → κ) (g : α → α)
    (hg : ∀ a, key (g a) = key a) (x : α) (l : List α) :
    insertDesc cmp key (g x) (l.map g) = (insertDesc cmp key x l).map g := by
  induction l with
  | nil => rfl
  | cons y ys ih =>
    simp only [List.map_cons, insertDesc, hg]
    split
    · rfl
    · simp only [List.map_cons, ih]

theorem sortDir_map {α κ : Type} (cmp : κ → κ → Ordering) (key : α → κ) (g : α → α)
    (hg : ∀ a, key (g a) = key a) (desc : Bool) (l : List α) :
    sortDir cmp key desc (l.map g) = (sortDir cmp key desc l).map g := by
  have gen : ∀ (acc : List α),
      (l.map g).foldl (fun acc x => insertDir cmp key desc x acc) (acc.map g)
        = (l.foldl (fun acc x => insertDir cmp key desc x acc) acc).map g := by
    induction l with
    | nil => intro acc; rfl
    | cons x l ih =>
      intro acc
      simp only [List.map_cons, List.foldl_cons]
      have : insertDir cmp key desc (g x) (acc.map g)
          = (insertDir cmp key desc x acc).map g := by
        unfold insertDir
        split
        · exact insertDesc_map cmp key g hg x acc
        · exact insertAsc_map cmp key g hg x acc
      rw [this, ih]
  exact gen []

end SortSpec

end Jawk
