/-
  Property C10: `--unique` removes exactly the later duplicates, and on the
  interoperable domain `Hash` and `Eq` of `JsonValue` are coherent
  (`a == b → hash a = hash b`), so that the `HashSet` lookup of the
  duplication remover (`CtxKey.same`) coincides with `==` (`CtxKey.beq`).

  Outside the domain coherence fails; the three witnesses are theorems below.
-/
import Jawk.Model.Stages
import Jawk.Lemmas.Obj
namespace Jawk.HashEq
open Jawk

/-! ### The domain -/

/-- a number as the JSON reader / `From<f64>` produce it for a value in the interoperable
range: integers are integers (zero is `pos 0`), a float is finite, canonical and non-integral
(hence non-zero, hence not `-0`). -/
def NumKey : Num → Prop
  | .pos n => n < 2 ^ 53
  | .neg i => -(2 ^ 53 : Int) < i ∧ i < 0
  | .flt f => f.isFinite = true ∧ f.Canonical ∧ f.fractIsZero = false ∧ f ≠ F64.negZero

instance : DecidablePred NumKey := fun n => by
  cases n <;> unfold NumKey <;> infer_instance

mutual
/-- every number inside is normalised and interoperable, member names of every object are distinct -/
def Key : JV → Prop
  | .null => True
  | .bool _ => True
  | .str _ => True
  | .num n => NumKey n
  | .arr vs => KeyList vs
  | .obj kvs => (kvs.map (·.1)).Nodup ∧ KeyMembers kvs
def KeyList : List JV → Prop
  | [] => True
  | v :: vs => Key v ∧ KeyList vs
def KeyMembers : List (Str × JV) → Prop
  | [] => True
  | (_, v) :: kvs => Key v ∧ KeyMembers kvs
end

mutual
def decKey : (v : JV) → Decidable (Key v)
  | .null => by unfold Key; infer_instance
  | .bool _ => by unfold Key; infer_instance
  | .str _ => by unfold Key; infer_instance
  | .num n => by unfold Key; infer_instance
  | .arr vs => by unfold Key; exact decKeyList vs
  | .obj kvs => by
    unfold Key
    exact @instDecidableAnd _ _ inferInstance (decKeyMembers kvs)
def decKeyList : (vs : List JV) → Decidable (KeyList vs)
  | [] => by unfold KeyList; infer_instance
  | v :: vs => by
    unfold KeyList
    exact @instDecidableAnd _ _ (decKey v) (decKeyList vs)
def decKeyMembers : (kvs : List (Str × JV)) → Decidable (KeyMembers kvs)
  | [] => by unfold KeyMembers; infer_instance
  | (_, v) :: kvs => by
    unfold KeyMembers
    exact @instDecidableAnd _ _ (decKey v) (decKeyMembers kvs)
end

instance : DecidablePred Key := decKey
instance : DecidablePred KeyList := decKeyList
instance : DecidablePred KeyMembers := decKeyMembers

mutual
/-- the two values list the members of corresponding objects in the same order -/
def SameOrder : JV → JV → Prop
  | .arr a, .arr b => SameOrderList a b
  | .obj a, .obj b => a.map (·.1) = b.map (·.1) ∧ SameOrderMembers a b
  | _, _ => True
def SameOrderList : List JV → List JV → Prop
  | x :: xs, y :: ys => SameOrder x y ∧ SameOrderList xs ys
  | _, _ => True
def SameOrderMembers : List (Str × JV) → List (Str × JV) → Prop
  | (_, x) :: xs, (_, y) :: ys => SameOrder x y ∧ SameOrderMembers xs ys
  | _, _ => True
end

example : Key (JV.obj [("k".toList, JV.arr [JV.num (.pos 1), JV.str "x".toList])]) := by
  decide

example : Key (JV.num (.flt (.fin false 6755399441055744 (-52)))) := by decide   -- 1.5

/-! ### Numbers -/

theorem F64.eq_of_eq_nonzero {s1 s2 : Bool} {m1 m2 : Nat} {e1 e2 : Int}
    (h1 : m1 ≠ 0) (h : F64.eq (.fin s1 m1 e1) (.fin s2 m2 e2) = true) :
    F64.fin s1 m1 e1 = F64.fin s2 m2 e2 := by
  simp only [F64.eq] at h
  split at h
  · rename_i hh; exact absurd hh.1 h1
  · simp only [Bool.and_eq_true, beq_iff_eq] at h
    obtain ⟨⟨rfl, rfl⟩, rfl⟩ := h
    rfl

theorem fract_ne_zero {s : Bool} {m : Nat} {e : Int}
    (h : F64.fractIsZero (.fin s m e) = false) : m ≠ 0 := by
  intro hm
  simp [F64.fractIsZero, hm] at h

/-- on the domain, `==` of numbers is syntactic equality -/
theorem num_coherent {a b : Num} (ha : NumKey a) (hb : NumKey b) (h : Num.beq a b = true) : a = b := by
  cases a with
  | pos n =>
    cases b with
    | pos m => simp only [Num.beq, beq_iff_eq] at h; rw [h]
    | neg j =>
      simp only [Num.beq, Bool.and_eq_true, beq_iff_eq] at h
      have := hb.2; omega
    | flt g => simp [Num.beq, hb.2.2.1] at h
  | neg i =>
    cases b with
    | pos m =>
      simp only [Num.beq, Bool.and_eq_true, beq_iff_eq] at h
      have := ha.2; omega
    | neg j => simp only [Num.beq, beq_iff_eq] at h; rw [h]
    | flt g => simp [Num.beq, hb.2.2.1] at h
  | flt f =>
    cases b with
    | pos m => simp [Num.beq, ha.2.2.1] at h
    | neg j => simp [Num.beq, ha.2.2.1] at h
    | flt g =>
      simp only [Num.beq] at h
      obtain ⟨hf, -, hz, -⟩ := ha
      obtain ⟨hg, -, -, -⟩ := hb
      cases f with
      | fin s1 m1 e1 =>
        cases g with
        | fin s2 m2 e2 => rw [F64.eq_of_eq_nonzero (fract_ne_zero hz) h]
        | inf _ => simp [F64.isFinite] at hg
        | nan => simp [F64.isFinite] at hg
      | inf _ => simp [F64.isFinite] at hf
      | nan => simp [F64.isFinite] at hf

theorem num_refl {a : Num} (ha : NumKey a) : Num.beq a a = true := by
  cases a with
  | pos n => simp [Num.beq]
  | neg i => simp [Num.beq]
  | flt f =>
    obtain ⟨hf, -, -, -⟩ := ha
    cases f with
    | fin s m e => simp [Num.beq, F64.eq]
    | inf _ => simp [F64.isFinite] at hf
    | nan => simp [F64.isFinite] at hf

/-! ### Witnesses: coherence fails outside the domain -/

theorem incoherent_member_order :
    JV.beq (.obj [("a".toList, .num (.pos 1)), ("b".toList, .num (.pos 2))])
           (.obj [("b".toList, .num (.pos 2)), ("a".toList, .num (.pos 1))]) = true ∧
    JV.hashFeed (.obj [("a".toList, .num (.pos 1)), ("b".toList, .num (.pos 2))]) ≠
    JV.hashFeed (.obj [("b".toList, .num (.pos 2)), ("a".toList, .num (.pos 1))]) := by
  constructor
  · simp [JV.beq, JV.beqMembers, JV.beqLookup, Num.beq]
  · decide

theorem incoherent_neg_zero :
    JV.beq (.num (.pos 0)) (.num (.flt F64.negZero)) = true ∧
    JV.hashFeed (.num (.pos 0)) ≠ JV.hashFeed (.num (.flt F64.negZero)) := by
  constructor
  · simp only [JV.beq]; decide
  · decide

theorem incoherent_neg_int_zero :
    JV.beq (.num (.neg 0)) (.num (.pos 0)) = true ∧
    JV.hashFeed (.num (.neg 0)) ≠ JV.hashFeed (.num (.pos 0)) := by
  constructor
  · simp only [JV.beq]; decide
  · decide

/-! ### Object equality through `objGet?` -/

theorem beqLookup_iff (k : Str) (v : JV) (b : List (Str × JV)) :
    JV.beqLookup k v b = true ↔ ∃ w, objGet? b k = some w ∧ JV.beq v w = true := by
  induction b with
  | nil => simp [JV.beqLookup, objGet?]
  | cons kv rest ih =>
    obtain ⟨k', v'⟩ := kv
    simp only [JV.beqLookup, objGet?]
    split
    · simp
    · exact ih

/-- `IndexMap` equality, one direction: every member of `a` is found in `b` with an `==` value -/
theorem beqMembers_iff (a b : List (Str × JV)) :
    JV.beqMembers a b = true ↔ ∀ kv ∈ a, ∃ w, objGet? b kv.1 = some w ∧ JV.beq kv.2 w = true := by
  induction a with
  | nil => simp [JV.beqMembers]
  | cons kv rest ih =>
    obtain ⟨k, v⟩ := kv
    simp [JV.beqMembers, ih, beqLookup_iff]

/-- `==` with an array on the left: the other side is an array -/
theorem beq_arr_inv {xs : List JV} {b : JV} (h : JV.beq (.arr xs) b = true) :
    ∃ ys, b = .arr ys ∧ JV.beqList xs ys = true := by
  cases b <;> simp only [JV.beq, Bool.false_eq_true] at h
  exact ⟨_, rfl, h⟩

/-- `==` with an object on the left: the other side is an object of the same size -/
theorem beq_obj_inv {xs : List (Str × JV)} {b : JV} (h : JV.beq (.obj xs) b = true) :
    ∃ ys, b = .obj ys ∧ xs.length = ys.length ∧ JV.beqMembers xs ys = true := by
  cases b <;> simp only [JV.beq, Bool.false_eq_true, Bool.and_eq_true, beq_iff_eq] at h
  exact ⟨_, rfl, h⟩

theorem KeyMembers_mem {kvs : List (Str × JV)} (h : KeyMembers kvs) {k : Str} {v : JV}
    (hm : (k, v) ∈ kvs) : Key v := by
  induction kvs with
  | nil => simp at hm
  | cons kv rest ih =>
    obtain ⟨k', v'⟩ := kv
    simp only [KeyMembers] at h
    rcases List.mem_cons.mp hm with hm | hm
    · cases hm; exact h.1
    · exact ih h.2 hm

/-- member-by-member comparison of two member lists in the listed order -/
def beqPointwise : List (Str × JV) → List (Str × JV) → Bool
  | [], [] => true
  | (_, v) :: as, (_, w) :: bs => JV.beq v w && beqPointwise as bs
  | _, _ => false

theorem beqMembers_cons_ne {k : Str} {w : JV} {as bs : List (Str × JV)}
    (h : k ∉ as.map (·.1)) : JV.beqMembers as ((k, w) :: bs) = JV.beqMembers as bs := by
  induction as with
  | nil => simp [JV.beqMembers]
  | cons kv rest ih =>
    obtain ⟨k', v'⟩ := kv
    simp only [List.map_cons, List.mem_cons, not_or] at h
    simp only [JV.beqMembers, JV.beqLookup, ih h.2]
    have : ¬ k = k' := h.1
    simp [this]

/-- with the same distinct names in the same order, `IndexMap` equality is member-by-member -/
theorem beqMembers_eq_pointwise {a b : List (Str × JV)} (hk : a.map (·.1) = b.map (·.1))
    (hn : (a.map (·.1)).Nodup) : JV.beqMembers a b = beqPointwise a b := by
  induction a generalizing b with
  | nil =>
    cases b with
    | nil => simp [JV.beqMembers, beqPointwise]
    | cons _ _ => simp at hk
  | cons kv rest ih =>
    obtain ⟨k, v⟩ := kv
    cases b with
    | nil => simp at hk
    | cons kw bs =>
      obtain ⟨k', w⟩ := kw
      simp only [List.map_cons, List.cons.injEq] at hk
      obtain ⟨rfl, hk⟩ := hk
      simp only [List.map_cons, List.nodup_cons] at hn
      simp only [JV.beqMembers, JV.beqLookup, beqPointwise, if_true, beqMembers_cons_ne hn.1,
        ih hk hn.2]

/-! ### Coherence on the domain, same member order -/

mutual
/-- on the domain, two `==` values that list their members in the same order are identical -/
theorem beq_eq_of_sameOrder : (a b : JV) → Key a → Key b → SameOrder a b → JV.beq a b = true → a = b
  | .null, b, _, _, _, h => by cases b <;> simp [JV.beq] at h; rfl
  | .bool x, b, _, _, _, h => by
    cases b <;> simp [JV.beq] at h
    rw [h]
  | .str x, b, _, _, _, h => by
    cases b <;> simp [JV.beq] at h
    rw [h]
  | .num x, b, ha, hb, _, h => by
    cases b with
    | num y =>
      simp only [JV.beq] at h
      simp only [Key] at ha hb
      rw [num_coherent ha hb h]
    | _ => simp [JV.beq] at h
  | .arr xs, b, ha, hb, ho, h => by
    obtain ⟨ys, rfl, hl⟩ := beq_arr_inv h
    simp only [Key] at ha hb
    simp only [SameOrder] at ho
    rw [beqList_eq_of_sameOrder xs ys ha hb ho hl]
  | .obj xs, b, ha, hb, ho, h => by
    obtain ⟨ys, rfl, -, hm⟩ := beq_obj_inv h
    simp only [Key] at ha hb
    simp only [SameOrder] at ho
    rw [beqMembers_eq_pointwise ho.1 ha.1] at hm
    rw [beqPointwise_eq_of_sameOrder xs ys ha.2 hb.2 ho.2 ho.1 hm]
theorem beqList_eq_of_sameOrder : (a b : List JV) → KeyList a → KeyList b → SameOrderList a b →
    JV.beqList a b = true → a = b
  | [], b, _, _, _, h => by cases b <;> simp [JV.beqList] at h; rfl
  | x :: xs, b, ha, hb, ho, h => by
    cases b with
    | nil => simp [JV.beqList] at h
    | cons y ys =>
      simp only [JV.beqList, Bool.and_eq_true] at h
      simp only [KeyList] at ha hb
      simp only [SameOrderList] at ho
      rw [beq_eq_of_sameOrder x y ha.1 hb.1 ho.1 h.1, beqList_eq_of_sameOrder xs ys ha.2 hb.2 ho.2 h.2]
theorem beqPointwise_eq_of_sameOrder : (a b : List (Str × JV)) → KeyMembers a → KeyMembers b →
    SameOrderMembers a b → a.map (·.1) = b.map (·.1) → beqPointwise a b = true → a = b
  | [], b, _, _, _, _, h => by cases b <;> simp [beqPointwise] at h; rfl
  | (k, x) :: xs, b, ha, hb, ho, hk, h => by
    cases b with
    | nil => simp [beqPointwise] at h
    | cons ky ys =>
      obtain ⟨k', y⟩ := ky
      simp only [beqPointwise, Bool.and_eq_true] at h
      simp only [KeyMembers] at ha hb
      simp only [SameOrderMembers] at ho
      simp only [List.map_cons, List.cons.injEq] at hk
      rw [hk.1, beq_eq_of_sameOrder x y ha.1 hb.1 ho.1 h.1,
        beqPointwise_eq_of_sameOrder xs ys ha.2 hb.2 ho.2 hk.2 h.2]
end

/-- C10 (value level): on the domain and with the same member order, `==` implies the same hash feed -/
theorem beq_coherent_ordered {a b : JV} (ha : Key a) (hb : Key b) (ho : SameOrder a b)
    (h : JV.beq a b = true) : JV.hashFeed a = JV.hashFeed b := by
  rw [beq_eq_of_sameOrder a b ha hb ho h]

mutual
theorem SameOrder_refl : (a : JV) → SameOrder a a
  | .null => by simp [SameOrder]
  | .bool _ => by simp [SameOrder]
  | .str _ => by simp [SameOrder]
  | .num _ => by simp [SameOrder]
  | .arr xs => by simp only [SameOrder]; exact SameOrderList_refl xs
  | .obj xs => by simp only [SameOrder]; exact ⟨trivial, SameOrderMembers_refl xs⟩
theorem SameOrderList_refl : (a : List JV) → SameOrderList a a
  | [] => by simp [SameOrderList]
  | x :: xs => by simp only [SameOrderList]; exact ⟨SameOrder_refl x, SameOrderList_refl xs⟩
theorem SameOrderMembers_refl : (a : List (Str × JV)) → SameOrderMembers a a
  | [] => by simp [SameOrderMembers]
  | (_, x) :: xs => by
    simp only [SameOrderMembers]; exact ⟨SameOrder_refl x, SameOrderMembers_refl xs⟩
end

/-! ### `==` is an equivalence relation on the domain -/

mutual
/-- reflexivity (false in general: `NaN`) -/
theorem beq_refl : (a : JV) → Key a → JV.beq a a = true
  | .null, _ => by simp [JV.beq]
  | .bool _, _ => by simp [JV.beq]
  | .str _, _ => by simp [JV.beq]
  | .num x, ha => by simp only [Key] at ha; simp only [JV.beq]; exact num_refl ha
  | .arr xs, ha => by simp only [Key] at ha; simp only [JV.beq]; exact beqList_refl xs ha
  | .obj xs, ha => by
    simp only [Key] at ha
    simp only [JV.beq, beqMembers_eq_pointwise rfl ha.1, beqPointwise_refl xs ha.2, beq_self_eq_true,
      Bool.and_self]
theorem beqList_refl : (a : List JV) → KeyList a → JV.beqList a a = true
  | [], _ => by simp [JV.beqList]
  | x :: xs, ha => by
    simp only [KeyList] at ha
    simp only [JV.beqList, beq_refl x ha.1, beqList_refl xs ha.2, Bool.and_self]
theorem beqPointwise_refl : (a : List (Str × JV)) → KeyMembers a → beqPointwise a a = true
  | [], _ => by simp [beqPointwise]
  | (_, x) :: xs, ha => by
    simp only [KeyMembers] at ha
    simp only [beqPointwise, beq_refl x ha.1, beqPointwise_refl xs ha.2, Bool.and_self]
end

/-- pigeonhole: a duplicate-free list contained in a list that is not longer contains it -/
theorem subset_of_nodup_subset_length {α} [DecidableEq α] {l₁ l₂ : List α} (hn : l₁.Nodup)
    (hs : ∀ x ∈ l₁, x ∈ l₂) (hl : l₂.length ≤ l₁.length) : ∀ y ∈ l₂, y ∈ l₁ := by
  induction l₁ generalizing l₂ with
  | nil =>
    intro y hy
    cases l₂ with
    | nil => simp at hy
    | cons _ _ => simp at hl
  | cons x xs ih =>
    simp only [List.nodup_cons] at hn
    have hx : x ∈ l₂ := hs x List.mem_cons_self
    have hs' : ∀ z ∈ xs, z ∈ l₂.erase x := by
      intro z hz
      have hne : z ≠ x := by intro h; subst h; exact hn.1 hz
      exact (List.mem_erase_of_ne hne).mpr (hs z (List.mem_cons_of_mem _ hz))
    have hl' : (l₂.erase x).length ≤ xs.length := by
      rw [List.length_erase_of_mem hx]
      simp only [List.length_cons] at hl
      omega
    intro y hy
    by_cases hyx : y = x
    · subst hyx; exact List.mem_cons_self
    · exact List.mem_cons_of_mem _ (ih hn.2 hs' hl' y ((List.mem_erase_of_ne hyx).mpr hy))

mutual
/-- `==` is Euclidean on the domain: two values `==` to the same value are `==`.  With reflexivity
this gives symmetry and transitivity from one induction.  (Both are false in general:
`pos (2^53+1) == flt 2^53 == pos (2^53)`.)  The recursion is named structural on `a`: left to
itself Lean settles on well-founded recursion here, which is several times slower to check. -/
theorem beq_euclid : (a b c : JV) → Key a → Key b → Key c → JV.beq a b = true → JV.beq a c = true →
    JV.beq b c = true
  | .null, b, c, ha, hb, _, h1, h2 => by rw [← beq_eq_of_sameOrder _ b ha hb trivial h1]; exact h2
  | .bool _, b, c, ha, hb, _, h1, h2 => by rw [← beq_eq_of_sameOrder _ b ha hb trivial h1]; exact h2
  | .str _, b, c, ha, hb, _, h1, h2 => by rw [← beq_eq_of_sameOrder _ b ha hb trivial h1]; exact h2
  | .num _, b, c, ha, hb, _, h1, h2 => by rw [← beq_eq_of_sameOrder _ b ha hb trivial h1]; exact h2
  | .arr xs, b, c, ha, hb, hc, h1, h2 => by
    obtain ⟨ys, rfl, l1⟩ := beq_arr_inv h1
    obtain ⟨zs, rfl, l2⟩ := beq_arr_inv h2
    simp only [Key] at ha hb hc
    simp only [JV.beq]
    exact beqList_euclid xs ys zs ha hb hc l1 l2
  | .obj xs, b, c, ha, hb, hc, h1, h2 => by
    obtain ⟨ys, rfl, hl1, m1⟩ := beq_obj_inv h1
    obtain ⟨zs, rfl, hl2, m2⟩ := beq_obj_inv h2
    simp only [Key] at ha hb hc
    rw [beqMembers_iff] at m1 m2
    simp only [JV.beq, Bool.and_eq_true, beq_iff_eq, beqMembers_iff]
    refine ⟨hl1.symm.trans hl2, ?_⟩
    -- the names of `xs` are distinct and among those of `ys`, which are as many: they are all
    have hsub : ∀ k ∈ xs.map (·.1), k ∈ ys.map (·.1) := by
      intro k hk
      obtain ⟨kv, hkv, rfl⟩ := List.mem_map.mp hk
      obtain ⟨w, hw, -⟩ := m1 _ hkv
      exact mem_keys_of_objGet? hw
    have hsup := subset_of_nodup_subset_length ha.1 hsub (by simp [hl1])
    rintro ⟨k, w⟩ hkw
    obtain ⟨⟨k', v⟩, hkv, hkk⟩ := List.mem_map.mp (hsup k (List.mem_map.mpr ⟨(k, w), hkw, rfl⟩))
    simp only at hkk; subst hkk
    -- `v` is `==` to the member `w` of `ys` and to a member `u` of `zs`
    obtain ⟨w', hw', hvw⟩ := m1 _ hkv
    rw [objGet?_of_mem hb.1 hkw] at hw'
    cases hw'
    obtain ⟨u, hu, hvu⟩ := m2 _ hkv
    exact ⟨u, hu, beqMember_euclid xs ha.2 k' v hkv w u (KeyMembers_mem hb.2 hkw)
      (KeyMembers_mem hc.2 (objGet?_mem hu)) hvw hvu⟩
termination_by structural a => a
theorem beqList_euclid : (a b c : List JV) → KeyList a → KeyList b → KeyList c →
    JV.beqList a b = true → JV.beqList a c = true → JV.beqList b c = true
  | [], b, c, _, _, _, h1, h2 => by
    cases b <;> cases c <;> simp only [JV.beqList, Bool.false_eq_true] at h1 h2 ⊢
  | x :: xs, b, c, ha, hb, hc, h1, h2 => by
    cases b <;> cases c <;> simp only [JV.beqList, Bool.false_eq_true, Bool.and_eq_true] at h1 h2 ⊢
    simp only [KeyList] at ha hb hc
    exact ⟨beq_euclid x _ _ ha.1 hb.1 hc.1 h1.1 h2.1, beqList_euclid xs _ _ ha.2 hb.2 hc.2 h1.2 h2.2⟩
termination_by structural a => a
theorem beqMember_euclid : (a : List (Str × JV)) → KeyMembers a → ∀ k v, (k, v) ∈ a →
    ∀ w u, Key w → Key u → JV.beq v w = true → JV.beq v u = true → JV.beq w u = true
  | [], _, _, _, hm, _, _, _, _, _, _ => by simp at hm
  | (k', x) :: xs, ha, k, v, hm, w, u, hw, hu, h1, h2 => by
    simp only [KeyMembers] at ha
    rcases List.mem_cons.mp hm with hm | hm
    · cases hm; exact beq_euclid x w u ha.1 hw hu h1 h2
    · exact beqMember_euclid xs ha.2 k v hm w u hw hu h1 h2
termination_by structural a => a
end

theorem beq_symm (a b : JV) (ha : Key a) (hb : Key b) (h : JV.beq a b = true) : JV.beq b a = true :=
  beq_euclid a b a ha hb ha h (beq_refl a ha)

theorem beq_trans (a b c : JV) (ha : Key a) (hb : Key b) (hc : Key c) (h1 : JV.beq a b = true)
    (h2 : JV.beq b c = true) : JV.beq a c = true :=
  beq_euclid b a c hb ha hc (beq_symm a b ha hb h1) h2

theorem beqList_symm : (a b : List JV) → KeyList a → KeyList b → JV.beqList a b = true →
    JV.beqList b a = true :=
  fun a b ha hb h => beqList_euclid a b a ha hb ha h (beqList_refl a ha)

theorem beqList_trans : (a b c : List JV) → KeyList a → KeyList b → KeyList c →
    JV.beqList a b = true → JV.beqList b c = true → JV.beqList a c = true :=
  fun a b c ha hb hc h1 h2 => beqList_euclid b a c hb ha hc (beqList_symm a b ha hb h1) h2

theorem beqMember_symm : (a : List (Str × JV)) → KeyMembers a → ∀ k v, (k, v) ∈ a →
    ∀ w, Key w → JV.beq v w = true → JV.beq w v = true :=
  fun _ ha _ v hm w hw h => beq_symm v w (KeyMembers_mem ha hm) hw h

theorem beqMember_trans : (a : List (Str × JV)) → KeyMembers a → ∀ k v, (k, v) ∈ a →
    ∀ w u, Key w → Key u → JV.beq v w = true → JV.beq w u = true → JV.beq v u = true :=
  fun _ ha _ v hm w u hw hu h1 h2 => beq_trans v w u (KeyMembers_mem ha hm) hw hu h1 h2

/-- outside the domain `==` is not even transitive -/
theorem beq_not_transitive_outside :
    JV.beq (.num (.pos (2 ^ 53 + 1))) (.num (.flt (.fin false (2 ^ 52) 1))) = true ∧
    JV.beq (.num (.flt (.fin false (2 ^ 52) 1))) (.num (.pos (2 ^ 53))) = true ∧
    JV.beq (.num (.pos (2 ^ 53 + 1))) (.num (.pos (2 ^ 53))) = false := by
  refine ⟨?_, ?_, ?_⟩ <;> simp only [JV.beq] <;> decide +kernel

/-! ### The keys of the duplication remover -/

/-- the domain, for a `ContextKey` -/
def KeyC : CtxKey → Prop
  | .value v => Key v
  | .results rs => ∀ v, some v ∈ rs → Key v

def SameOrderOpts : List (Option JV) → List (Option JV) → Prop
  | some a :: as, some b :: bs => SameOrder a b ∧ SameOrderOpts as bs
  | _ :: as, _ :: bs => SameOrderOpts as bs
  | _, _ => True

def SameOrderC : CtxKey → CtxKey → Prop
  | .value a, .value b => SameOrder a b
  | .results a, .results b => SameOrderOpts a b
  | _, _ => True

theorem listOptBeq_eq_of_sameOrder {a b : List (Option JV)} (ha : ∀ v, some v ∈ a → Key v)
    (hb : ∀ v, some v ∈ b → Key v) (ho : SameOrderOpts a b) (h : listOptBeq a b = true) : a = b := by
  induction a generalizing b with
  | nil => cases b <;> simp [listOptBeq] at h; rfl
  | cons x xs ih =>
    cases b with
    | nil => simp [listOptBeq] at h
    | cons y ys =>
      simp only [listOptBeq, Bool.and_eq_true] at h
      have hxs : xs = ys := by
        apply ih (fun v hv => ha v (List.mem_cons_of_mem _ hv))
          (fun v hv => hb v (List.mem_cons_of_mem _ hv)) _ h.2
        cases x <;> cases y <;> simp only [SameOrderOpts] at ho <;> first | exact ho | exact ho.2
      have hxy : x = y := by
        cases x with
        | none => cases y <;> simp [optBeq] at h; rfl
        | some v =>
          cases y with
          | none => simp [optBeq] at h
          | some w =>
            simp only [SameOrderOpts] at ho
            simp only [optBeq] at h
            rw [beq_eq_of_sameOrder v w (ha v List.mem_cons_self) (hb w List.mem_cons_self) ho.1 h.1]
      rw [hxs, hxy]

/-- on the domain and with the same member order, `==` of keys is identity -/
theorem ctxkey_beq_eq {a b : CtxKey} (ha : KeyC a) (hb : KeyC b) (ho : SameOrderC a b)
    (h : CtxKey.beq a b = true) : a = b := by
  cases a with
  | value x =>
    cases b with
    | value y =>
      simp only [CtxKey.beq] at h
      rw [beq_eq_of_sameOrder x y ha hb ho h]
    | results _ => simp [CtxKey.beq] at h
  | results xs =>
    cases b with
    | value _ => simp [CtxKey.beq] at h
    | results ys =>
      simp only [CtxKey.beq] at h
      rw [listOptBeq_eq_of_sameOrder ha hb ho h]

/-- C10 (key level): `k1 == k2 → hash(k1) = hash(k2)` -/
theorem ctxkey_coherent {a b : CtxKey} (ha : KeyC a) (hb : KeyC b) (ho : SameOrderC a b)
    (h : CtxKey.beq a b = true) : a.feed = b.feed := by
  rw [ctxkey_beq_eq ha hb ho h]

/-- where coherence applies, the `HashSet` lookup is exactly `==` -/
theorem same_eq_beq {a b : CtxKey} (ha : KeyC a) (hb : KeyC b) (ho : SameOrderC a b) :
    CtxKey.same a b = CtxKey.beq a b := by
  unfold CtxKey.same
  cases h : CtxKey.beq a b with
  | false => simp
  | true => simp [ctxkey_coherent ha hb ho h]

/-- the value-level form of `same_eq_beq` -/
theorem same_value_eq_beq {a b : JV} (ha : Key a) (hb : Key b) (ho : SameOrder a b) :
    CtxKey.same (.value a) (.value b) = JV.beq a b :=
  same_eq_beq (a := .value a) (b := .value b) ha hb ho

example : KeyC (.results [some (.num (.pos 1)), none, some (.obj [("a".toList, .null)])]) ∧
    SameOrderC (.results [some (.num (.pos 1)), none, some (.obj [("a".toList, .null)])])
      (.results [some (.num (.pos 1)), none, some (.obj [("a".toList, .bool true)])]) := by
  constructor
  · intro v hv
    simp at hv
    rcases hv with rfl | rfl <;> decide
  · simp [SameOrderC, SameOrderOpts, SameOrder, SameOrderMembers]

/-- outside the domain the lookup misses an `==` element: `{"a":1,"b":2}` then `{"b":2,"a":1}` -/
theorem same_ne_beq_member_order :
    CtxKey.beq (.value (.obj [("a".toList, .num (.pos 1)), ("b".toList, .num (.pos 2))]))
      (.value (.obj [("b".toList, .num (.pos 2)), ("a".toList, .num (.pos 1))])) = true ∧
    CtxKey.same (.value (.obj [("a".toList, .num (.pos 1)), ("b".toList, .num (.pos 2))]))
      (.value (.obj [("b".toList, .num (.pos 2)), ("a".toList, .num (.pos 1))])) = false := by
  constructor
  · simp only [CtxKey.beq]; exact incoherent_member_order.1
  · have := incoherent_member_order.2
    simp only [CtxKey.same, CtxKey.feed, List.cons.injEq, true_and, Bool.and_eq_false_imp,
      decide_eq_true_eq]
    intro h; exact absurd h this

/-! ### List-level specification of `--unique` -/

section Dedup
variable {α : Type} (same : α → α → Bool)

/-- the stage with its set `seen` spelled out: an element is dropped iff an element of `seen`
is `same` to it, otherwise it is emitted and remembered -/
def dedupAux : List α → List α → List α
  | _, [] => []
  | seen, x :: xs =>
    if seen.any (fun s => same s x) then dedupAux seen xs else x :: dedupAux (seen ++ [x]) xs

/-- keep an element iff no earlier kept element is `same` to it -/
def dedupFirst (l : List α) : List α := dedupAux same [] l

theorem dedupAux_sublist (seen l : List α) : (dedupAux same seen l).Sublist l := by
  induction l generalizing seen with
  | nil => simp [dedupAux]
  | cons x xs ih =>
    simp only [dedupAux]
    split
    · exact (ih seen).cons x
    · exact (ih _).cons_cons x

theorem dedupFirst_sublist (l : List α) : (dedupFirst same l).Sublist l := dedupAux_sublist same [] l

/-- the first element is always kept -/
theorem dedupFirst_head (x : α) (xs : List α) :
    dedupFirst same (x :: xs) = x :: dedupAux same [x] xs := by
  simp [dedupFirst, dedupAux]

theorem dedupFirst_head? (l : List α) : (dedupFirst same l).head? = l.head? := by
  cases l with
  | nil => simp [dedupFirst, dedupAux]
  | cons x xs => simp [dedupFirst_head]

/-- nothing emitted is `same` to a remembered element -/
theorem dedupAux_not_seen (seen l : List α) :
    ∀ s ∈ seen, ∀ y ∈ dedupAux same seen l, same s y = false := by
  induction l generalizing seen with
  | nil => simp [dedupAux]
  | cons x xs ih =>
    intro s hs y hy
    simp only [dedupAux] at hy
    split at hy
    · exact ih seen s hs y hy
    · rename_i hany
      rcases List.mem_cons.mp hy with rfl | hy
      · simp only [List.any_eq_true, not_exists, not_and, Bool.not_eq_true] at hany
        exact hany s hs
      · exact ih _ s (List.mem_append_left _ hs) y hy

theorem dedupAux_pairwise (seen l : List α) :
    (dedupAux same seen l).Pairwise (fun a b => same a b = false) := by
  induction l generalizing seen with
  | nil => simp [dedupAux]
  | cons x xs ih =>
    simp only [dedupAux]
    split
    · exact ih seen
    · refine List.pairwise_cons.mpr ⟨?_, ih _⟩
      intro y hy
      exact dedupAux_not_seen same (seen ++ [x]) xs x (by simp) y hy

/-- no kept element is `same` to an earlier kept element -/
theorem dedupFirst_no_dups (l : List α) :
    (dedupFirst same l).Pairwise (fun a b => same a b = false) := dedupAux_pairwise same [] l

/-- every input element is either kept itself or `same` to an element that was seen or kept -/
theorem dedupAux_complete (seen l : List α) (x : α) (hx : x ∈ l) :
    (∃ s ∈ seen, same s x = true) ∨ ∃ y ∈ dedupAux same seen l, same y x = true ∨ y = x := by
  induction l generalizing seen with
  | nil => simp at hx
  | cons z zs ih =>
    simp only [dedupAux]
    rcases List.mem_cons.mp hx with rfl | hx
    · split
      · rename_i hany
        exact .inl (by simpa using hany)
      · exact .inr ⟨x, List.mem_cons_self, .inr rfl⟩
    · split
      · exact ih seen hx
      · rcases ih (seen ++ [z]) hx with ⟨s, hs, hsx⟩ | ⟨y, hy, h⟩
        · rcases List.mem_append.mp hs with hs | hs
          · exact .inl ⟨s, hs, hsx⟩
          · simp only [List.mem_singleton] at hs; subst hs
            exact .inr ⟨s, List.mem_cons_self, .inl hsx⟩
        · exact .inr ⟨y, List.mem_cons_of_mem _ hy, h⟩

theorem dedupFirst_complete (l : List α) (x : α) (hx : x ∈ l) :
    ∃ y ∈ dedupFirst same l, same y x = true ∨ y = x := by
  rcases dedupAux_complete same [] l x hx with ⟨s, hs, _⟩ | h
  · simp at hs
  · exact h

/-- for a reflexive `same`: every input element is `same` to a kept one -/
theorem dedupFirst_complete_refl (hrefl : ∀ a, same a a = true) (l : List α) (x : α) (hx : x ∈ l) :
    ∃ y ∈ dedupFirst same l, same y x = true := by
  obtain ⟨y, hy, h | rfl⟩ := dedupFirst_complete same l x hx
  · exact ⟨y, hy, h⟩
  · exact ⟨y, hy, hrefl y⟩

/-- the set `seen` at any moment is the initial set plus what was emitted so far -/
theorem dedupAux_append (seen l₁ l₂ : List α) :
    dedupAux same seen (l₁ ++ l₂) =
      dedupAux same seen l₁ ++ dedupAux same (seen ++ dedupAux same seen l₁) l₂ := by
  induction l₁ generalizing seen with
  | nil => simp [dedupAux]
  | cons x xs ih =>
    simp only [List.cons_append, dedupAux]
    split
    · exact ih seen
    · simp [ih]

theorem dedupAux_snoc (seen l : List α) (x : α) :
    dedupAux same seen (l ++ [x]) =
      if (seen ++ dedupAux same seen l).any (fun s => same s x) then dedupAux same seen l
      else dedupAux same seen l ++ [x] := by
  rw [dedupAux_append]
  simp only [dedupAux]
  split <;> simp

/-- the exact rule: the element at any position is kept iff no element kept before it is `same`
to it (a dropped element therefore has an EARLIER kept element `same` to it) -/
theorem dedupFirst_snoc (l : List α) (x : α) :
    dedupFirst same (l ++ [x]) =
      if (dedupFirst same l).any (fun s => same s x) then dedupFirst same l
      else dedupFirst same l ++ [x] := by
  unfold dedupFirst
  rw [dedupAux_snoc]
  simp only [List.nil_append]

theorem dedupFirst_append (l₁ l₂ : List α) :
    dedupFirst same (l₁ ++ l₂) = dedupFirst same l₁ ++ dedupAux same (dedupFirst same l₁) l₂ := by
  simp [dedupFirst, dedupAux_append]

/-- a dropped occurrence has an earlier kept element that is `same` to it; a kept one has none -/
theorem dedupFirst_split (l₁ l₂ : List α) (x : α) :
    ((∃ y ∈ dedupFirst same l₁, same y x = true) ∧
      dedupFirst same (l₁ ++ x :: l₂) = dedupFirst same l₁ ++ dedupAux same (dedupFirst same l₁) l₂) ∨
    ((∀ y ∈ dedupFirst same l₁, same y x = false) ∧
      dedupFirst same (l₁ ++ x :: l₂) =
        dedupFirst same l₁ ++ x :: dedupAux same (dedupFirst same l₁ ++ [x]) l₂) := by
  rw [dedupFirst_append]
  simp only [dedupAux]
  by_cases h : (dedupFirst same l₁).any (fun s => same s x) = true
  · left
    rw [if_pos h]
    exact ⟨by simpa using h, rfl⟩
  · right
    rw [if_neg h]
    exact ⟨by simpa using h, rfl⟩

theorem dedupAux_eq_self (seen d : List α) (hs : ∀ s ∈ seen, ∀ y ∈ d, same s y = false)
    (hp : d.Pairwise (fun a b => same a b = false)) : dedupAux same seen d = d := by
  induction d generalizing seen with
  | nil => simp [dedupAux]
  | cons x xs ih =>
    have hany : ¬ (seen.any (fun s => same s x) = true) := by
      simp only [List.any_eq_true, not_exists, not_and, Bool.not_eq_true]
      intro s h; exact hs s h x List.mem_cons_self
    simp only [dedupAux]
    rw [if_neg hany, List.pairwise_cons] at *
    congr 1
    apply ih _ _ hp.2
    intro s h y hy
    rcases List.mem_append.mp h with h | h
    · exact hs s h y (List.mem_cons_of_mem _ hy)
    · simp only [List.mem_singleton] at h; subst h
      exact hp.1 y hy

/-- idempotent (no assumption on `same` is needed) -/
theorem dedupFirst_idempotent (l : List α) :
    dedupFirst same (dedupFirst same l) = dedupFirst same l :=
  dedupAux_eq_self same [] _ (by simp) (dedupFirst_no_dups same l)

theorem dedupAux_congr (same' : α → α → Bool) (seen l : List α)
    (h : ∀ a ∈ seen ++ l, ∀ b ∈ l, same a b = same' a b) :
    dedupAux same seen l = dedupAux same' seen l := by
  induction l generalizing seen with
  | nil => simp [dedupAux]
  | cons x xs ih =>
    have hany : seen.any (fun s => same s x) = seen.any (fun s => same' s x) := by
      rw [Bool.eq_iff_iff]
      simp only [List.any_eq_true]
      exact exists_congr fun s => and_congr_right fun hs => by
        rw [h s (List.mem_append_left _ hs) x List.mem_cons_self]
    simp only [dedupAux, hany]
    split
    · apply ih
      intro a ha b hb
      refine h a ?_ b (List.mem_cons_of_mem _ hb)
      rcases List.mem_append.mp ha with ha | ha
      · exact List.mem_append_left _ ha
      · exact List.mem_append_right _ (List.mem_cons_of_mem _ ha)
    · congr 1
      apply ih
      intro a ha b hb
      refine h a ?_ b (List.mem_cons_of_mem _ hb)
      simp only [List.append_assoc, List.singleton_append] at ha
      exact ha

/-- two lookups that agree on the elements of the stream remove the same duplicates -/
theorem dedupFirst_congr (same' : α → α → Bool) (l : List α)
    (h : ∀ a ∈ l, ∀ b ∈ l, same a b = same' a b) : dedupFirst same l = dedupFirst same' l :=
  dedupAux_congr same same' [] l (by simpa using h)

/-- one step of the stage's set -/
def seenStep (seen : List α) (x : α) : List α :=
  if seen.any (fun s => same s x) then seen else seen ++ [x]

theorem foldl_seenStep (seen l : List α) :
    l.foldl (seenStep same) seen = seen ++ dedupAux same seen l := by
  induction l generalizing seen with
  | nil => simp [dedupAux]
  | cons x xs ih =>
    simp only [List.foldl_cons, ih, seenStep, dedupAux]
    split <;> simp

/-- the set after a stream of keys, starting empty, is `dedupFirst` of the stream -/
theorem foldl_seenStep_nil (l : List α) : l.foldl (seenStep same) [] = dedupFirst same l := by
  simp [foldl_seenStep, dedupFirst]

/-- `dedupAux` on rows `β` that are compared through a key -/
def dedupOnAux {β : Type} (key : β → α) : List α → List β → List β
  | _, [] => []
  | seen, x :: xs =>
    if seen.any (fun s => same s (key x)) then dedupOnAux key seen xs
    else x :: dedupOnAux key (seen ++ [key x]) xs

theorem dedupOnAux_map {β : Type} (key : β → α) (seen : List α) (l : List β) :
    (dedupOnAux same key seen l).map key = dedupAux same seen (l.map key) := by
  induction l generalizing seen with
  | nil => simp [dedupOnAux, dedupAux]
  | cons x xs ih =>
    simp only [dedupOnAux, List.map_cons, dedupAux]
    split
    · exact ih seen
    · simp [ih]

theorem dedupOnAux_sublist {β : Type} (key : β → α) (seen : List α) (l : List β) :
    (dedupOnAux same key seen l).Sublist l := by
  induction l generalizing seen with
  | nil => simp [dedupOnAux]
  | cons x xs ih =>
    simp only [dedupOnAux]
    split
    · exact (ih seen).cons x
    · exact (ih _).cons_cons x

end Dedup

/-! ### The stage is `dedupFirst` -/

section Stage
variable (orc : Oracles) (sink : SinkCfg) (sinkLen : Nat)

/-- a row whose key is found in the set is dropped: nothing reaches the rest of the chain -/
theorem process_unique_dup (cs : List StageCfg) (seen : List CtxKey) (sts : List StageSt) (w : Writer)
    (ctx : Ctx) (h : seen.any (fun s => CtxKey.same s ctx.key) = true) :
    process orc sink sinkLen (.unique :: cs) (.unique seen :: sts) w ctx =
      .ok (⟨.unique seen :: sts, w⟩, .cont) := by
  simp only [process, h, if_true]

/-- a row whose key is not found is forwarded unchanged and its key is remembered -/
theorem process_unique_new (cs : List StageCfg) (seen : List CtxKey) (sts : List StageSt) (w : Writer)
    (ctx : Ctx) (h : seen.any (fun s => CtxKey.same s ctx.key) = false) :
    process orc sink sinkLen (.unique :: cs) (.unique seen :: sts) w ctx =
      match process orc sink sinkLen cs sts w ctx with
      | .ok (p, d) => .ok (⟨.unique (seen ++ [ctx.key]) :: p.sts, p.w⟩, d)
      | .error e => .error e := by
  simp only [process, h]
  cases process orc sink sinkLen cs sts w ctx with
  | ok pd => rfl
  | error e => rfl

/-- a whole stream through the stage: downstream sees exactly the rows `dedupFirst` keeps, the set
ends as the initial set plus the kept keys -/
theorem feedAll_unique (cs : List StageCfg) (seen : List CtxKey) (sts : List StageSt) (w : Writer)
    (ctxs : List Ctx) :
    feedAllIgnoring (process orc sink sinkLen (.unique :: cs)) (.unique seen :: sts) w ctxs =
      match feedAllIgnoring (process orc sink sinkLen cs) sts w
          (dedupOnAux CtxKey.same Ctx.key seen ctxs) with
      | .ok p => .ok ⟨.unique (seen ++ dedupAux CtxKey.same seen (ctxs.map Ctx.key)) :: p.sts, p.w⟩
      | .error e => .error e := by
  induction ctxs generalizing seen sts w with
  | nil => simp [feedAllIgnoring, dedupOnAux, dedupAux]
  | cons c rest ih =>
    cases h : seen.any (fun s => CtxKey.same s c.key) with
    | true =>
      simp only [feedAllIgnoring, process_unique_dup orc sink sinkLen cs seen sts w c h, dedupOnAux,
        List.map_cons, dedupAux, h, if_true]
      exact ih seen sts w
    | false =>
      have e1 : dedupOnAux CtxKey.same Ctx.key seen (c :: rest) =
          c :: dedupOnAux CtxKey.same Ctx.key (seen ++ [c.key]) rest := by simp [dedupOnAux, h]
      have e2 : dedupAux CtxKey.same seen ((c :: rest).map Ctx.key) =
          c.key :: dedupAux CtxKey.same (seen ++ [c.key]) (rest.map Ctx.key) := by simp [dedupAux, h]
      rw [e1, e2]
      simp only [feedAllIgnoring, process_unique_new orc sink sinkLen cs seen sts w c h]
      cases process orc sink sinkLen cs sts w c with
      | error e => rfl
      | ok pd =>
        obtain ⟨p, d⟩ := pd
        simp only [bind, Except.bind]
        rw [ih (seen ++ [c.key]) p.sts p.w]
        simp

end Stage

/-! ### C10 assembled -/

theorem listOptBeq_refl {a : List (Option JV)} (ha : ∀ v, some v ∈ a → Key v) : listOptBeq a a = true := by
  induction a with
  | nil => simp [listOptBeq]
  | cons x xs ih =>
    simp only [listOptBeq, Bool.and_eq_true]
    refine ⟨?_, ih (fun v hv => ha v (List.mem_cons_of_mem _ hv))⟩
    cases x with
    | none => simp [optBeq]
    | some v => simp only [optBeq]; exact beq_refl v (ha v List.mem_cons_self)

theorem ctxkey_beq_refl {a : CtxKey} (ha : KeyC a) : CtxKey.beq a a = true := by
  cases a with
  | value v => simp only [CtxKey.beq]; exact beq_refl v ha
  | results rs => simp only [CtxKey.beq]; exact listOptBeq_refl ha

theorem ctxkey_same_refl {a : CtxKey} (ha : KeyC a) : CtxKey.same a a = true := by
  simp [CtxKey.same, ctxkey_beq_refl ha]

/-- C10: on a stream of keys inside the domain that list object members in the same order,
`--unique` (hash lookup, then `==`) keeps exactly the first element of every `==` class:
it is `dedupFirst` for `==` alone -/
theorem unique_dedup_by_eq (ks : List CtxKey) (hk : ∀ k ∈ ks, KeyC k)
    (ho : ∀ a ∈ ks, ∀ b ∈ ks, SameOrderC a b) :
    dedupFirst CtxKey.same ks = dedupFirst CtxKey.beq ks :=
  dedupFirst_congr _ _ ks (fun a ha b hb => same_eq_beq (hk a ha) (hk b hb) (ho a ha b hb))

/-- and then every dropped row is `==` to an earlier kept row, no two kept rows are `==` -/
theorem unique_spec (ks : List CtxKey) (hk : ∀ k ∈ ks, KeyC k)
    (ho : ∀ a ∈ ks, ∀ b ∈ ks, SameOrderC a b) :
    (dedupFirst CtxKey.same ks).Sublist ks ∧
    (dedupFirst CtxKey.same ks).Pairwise (fun a b => CtxKey.beq a b = false) ∧
    ∀ x ∈ ks, ∃ y ∈ dedupFirst CtxKey.same ks, CtxKey.beq y x = true := by
  refine ⟨dedupFirst_sublist _ ks, ?_, ?_⟩
  · rw [unique_dedup_by_eq ks hk ho]; exact dedupFirst_no_dups _ ks
  · intro x hx
    rw [unique_dedup_by_eq ks hk ho]
    obtain ⟨y, hy, h | rfl⟩ := dedupFirst_complete CtxKey.beq ks x hx
    · exact ⟨y, hy, h⟩
    · exact ⟨y, hy, ctxkey_beq_refl (hk y hx)⟩

/-! ### Non-vacuity of the hypotheses, and small sanity checks -/

example : dedupFirst (fun a b : Nat => a == b) [1, 2, 1, 3, 2, 1] = [1, 2, 3] := by decide

example : NumKey (.flt (.fin false 6755399441055744 (-52))) ∧
    Num.beq (.flt (.fin false 6755399441055744 (-52))) (.flt (.fin false 6755399441055744 (-52))) = true := by
  constructor <;> decide

/-- `{"k":[1,"x"]}` with itself satisfies all hypotheses of `beq_coherent_ordered` -/
example : let a := JV.obj [("k".toList, JV.arr [JV.num (.pos 1), JV.str "x".toList])]
    Key a ∧ SameOrder a a ∧ JV.beq a a = true := by
  intro a
  have h : Key a := by decide
  exact ⟨h, SameOrder_refl a, beq_refl a h⟩

/-- a stream satisfying the hypotheses of `unique_dedup_by_eq` / `unique_spec` -/
example : let ks : List CtxKey := [.value (.num (.pos 1)), .value (.str "a".toList), .value (.num (.pos 1))]
    (∀ k ∈ ks, KeyC k) ∧ (∀ a ∈ ks, ∀ b ∈ ks, SameOrderC a b) := by
  intro ks
  constructor
  · intro k hk
    simp only [ks, List.mem_cons, List.not_mem_nil, or_false] at hk
    rcases hk with rfl | rfl | rfl <;> simp only [KeyC] <;> decide
  · intro a ha b hb
    simp only [ks, List.mem_cons, List.not_mem_nil, or_false] at ha hb
    rcases ha with rfl | rfl | rfl <;> rcases hb with rfl | rfl | rfl <;> simp [SameOrderC, SameOrder]

end Jawk.HashEq
