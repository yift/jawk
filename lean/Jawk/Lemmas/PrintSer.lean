/-
  Property C02, printer side: what jawk prints is a conforming RFC 8259 text (in the sense of the
  independent grammar `Jawk.Ser.Ser` of `Jawk/Spec/Json.lean`) whose value is the printed value.

  Main theorems: `printJson_ser_printable` (for `RT.Printable`), `printJson_ser` (for `Ser.Parsed`),
  `printJson_ser_styles`, `display_is_ser`.
-/
import Jawk.Lemmas.ParseSer
namespace Jawk.PrintSer
open Jawk Reader Jawk.RT Jawk.Ser Jawk.F64 Jawk.F64RT

/-! ### White space -/

theorem ws_of_isWs {w : List Byte} (h : ∀ b ∈ w, isWs b = true) : Ws w :=
  fun b hb => IsWs_of_isWs (h b hb)

theorem ws_nil : Ws [] := by intro b hb; cases hb

theorem ws_append' {a b : List Byte} (ha : Ws a) (hb : Ws b) : Ws (a ++ b) := by
  intro x hx
  rcases List.mem_append.1 hx with h | h
  · exact ha x h
  · exact hb x h

/-- the indentation of the pretty style (nothing in the other styles) is white space -/
theorem indent_Ws (o : JsonOpts) (ind : Nat) : Ws (utf8 (indentText o ind)) :=
  ws_of_isWs (indent_ws o ind)

/-- what follows the comma (a blank in the one-line style) is white space -/
theorem commaWs_Ws (o : JsonOpts) : Ws (commaWs o) := ws_of_isWs (commaWs_ws o)

/-- what follows the colon (a blank except in the `consise` style) is white space -/
theorem colonWs_Ws (o : JsonOpts) : Ws (colonWs o) := ws_of_isWs (colonWs_ws o)

/-! ### Strings -/

/-- the two-character escapes the printer writes are escapes of the grammar, denoting the character -/
theorem printEscape_esc (c e : Char) (h : printEscape c = some e) :
    utf8 ['\\', e] = [92, byteOf e] ∧ escapeChar? (byteOf e) = some c := by
  unfold printEscape at h
  iterate 8 (rcases ite_some_cases h with ⟨rfl, rfl⟩ | h; · exact ⟨rfl, rfl⟩)
  cases h

theorem utf8_single (c : Char) : utf8 [c] = String.utf8EncodeChar c := by
  rw [utf8_cons, utf8_nil, List.append_nil]

/-- `\u` + `{:04x}` as bytes -/
theorem utf8_uni (n : Nat) (h : n < 65536) :
    utf8 ('\\' :: 'u' :: hex4 n) =
      [92, 117, byteOf (Nat.digitChar (n / 4096)), byteOf (Nat.digitChar (n / 256 % 16)),
        byteOf (Nat.digitChar (n / 16 % 16)), byteOf (Nat.digitChar (n % 16))] := by
  have e1 := (hexVal_digitChar (n / 4096) (by omega)).1
  have e2 := (hexVal_digitChar (n / 256 % 16) (by omega)).1
  have e3 := (hexVal_digitChar (n / 16 % 16) (by omega)).1
  have e4 := (hexVal_digitChar (n % 16) (by omega)).1
  have hb : String.utf8EncodeChar '\\' = [92] := rfl
  have hu : String.utf8EncodeChar 'u' = [117] := rfl
  rw [hex4_eq n h]
  simp only [utf8_cons, utf8_nil, e1, e2, e3, e4, hb, hu, List.cons_append, List.nil_append]

/-- every character is printed as one item of the string grammar denoting it -/
theorem printChar_item (o : JsonOpts) (c : Char) (hc : CharOK o c) :
    StrItem c (utf8 (printChar o c)) := by
  unfold printChar
  split
  · rename_i e he
    obtain ⟨h1, h2⟩ := printEscape_esc c e he
    rw [h1]
    exact StrItem.esc _ _ h2
  · rename_i he
    obtain ⟨hq, hb⟩ := printEscape_none c he
    split
    · rename_i hraw
      rw [utf8_single]
      refine StrItem.raw c hq hb ?_
      rcases hraw with ⟨h1, _⟩ | ⟨_, h2⟩
      · have := (char_le_iff _ _).1 h1
        have e : (' ' : Char).toNat = 32 := rfl
        omega
      · have := (char_lt_iff _ _).1 h2
        have e : ('~' : Char).toNat = 126 := rfl
        omega
    · rename_i hraw
      have hlt : c.toNat < 65536 := by
        rcases hc with h | h
        · omega
        · have hnot : ¬ ' ' ≤ c := by
            intro h1
            by_cases h2 : c ≤ '~'
            · exact hraw (Or.inl ⟨h1, h2⟩)
            · apply hraw
              refine Or.inr ⟨h, ?_⟩
              rw [char_lt_iff]
              rw [char_le_iff] at h2
              omega
          rw [char_le_iff] at hnot
          have e : (' ' : Char).toNat = 32 := rfl
          omega
      rw [utf8_uni c.toNat hlt]
      have d1 := (hexVal_digitChar (c.toNat / 4096) (by omega)).2
      have d2 := (hexVal_digitChar (c.toNat / 256 % 16) (by omega)).2
      have d3 := (hexVal_digitChar (c.toNat / 16 % 16) (by omega)).2
      have d4 := (hexVal_digitChar (c.toNat % 16) (by omega)).2
      rw [← hexDigit_eq_hexVal] at d1 d2 d3 d4
      have hsum : ((c.toNat / 4096 * 16 + c.toNat / 256 % 16) * 16 + c.toNat / 16 % 16) * 16 + c.toNat % 16
          = c.toNat := by omega
      have hv : c.toNat.isValidChar := c.valid
      have := StrItem.uni _ _ _ _ _ _ _ _ d1 d2 d3 d4 (by
        rw [hsum]
        rcases hv with h | h
        · exact Or.inl (by omega)
        · exact Or.inr (by omega))
      rw [hsum, Char.ofNat_toNat] at this
      exact this

/-- the printed characters of a string form a string body denoting the string -/
theorem strBody_ser (o : JsonOpts) (s : Str) (hs : StrOK o s) : StrBody s (strBody o s) := by
  induction s with
  | nil => exact StrBody.nil
  | cons c s ih =>
    rw [strBody_cons]
    exact StrBody.cons (printChar_item o c (hs c (by simp))) (ih (fun d hd => hs d (by simp [hd])))

/-- strings: the printed string is a conforming string text denoting the string -/
theorem printString_ser (o : JsonOpts) (s : Str) (hs : StrOK o s) :
    Ser.Ser (.str s) (utf8 (printString o s)) := by
  rw [utf8_printString]
  exact Ser.str (strBody_ser o s hs)

/-! ### Numbers -/

/-- the number text `[-]ip[.fp]` (no exponent) given by its characters -/
def numTextOf (neg : Bool) (ip : Str) (fp : Option Str) : NumText :=
  ⟨neg, utf8 ip, fp.map utf8, none⟩

/-- the characters of `[-]ip[.fp]` -/
def numStr (neg : Bool) (ip : Str) (fp : Option Str) : Str := signChars neg ++ ip ++ fracChars fp

theorem numTextOf_bytes (neg : Bool) (ip : Str) (fp : Option Str) :
    (numTextOf neg ip fp).bytes = utf8 (numStr neg ip fp) := by
  have hm : String.utf8EncodeChar '-' = [45] := rfl
  have hd : String.utf8EncodeChar '.' = [46] := rfl
  cases neg <;> cases fp <;>
    simp [NumText.bytes, numTextOf, numStr, signChars, fracChars, fracBytes, utf8_append, utf8_cons,
      hm, hd]

theorem numTextOf_norm (neg : Bool) (ip : Str) (fp : Option Str) :
    (numTextOf neg ip fp).norm = (numTextOf neg ip fp).bytes := rfl

theorem asciiStr_utf8 (s : Str) (h : ∀ c ∈ s, c.toNat < 128) : asciiStr (utf8 s) = s := by
  rw [utf8_ascii s h, asciiStr_eq, bytesToStr_map_byteOf s h]

theorem allDigits_ascii {ds : Str} (h : AllDigits ds) : ∀ c ∈ ds, c.toNat < 128 :=
  fun c hc => isDigit_ascii c (h c hc)

theorem numStr_ascii (neg : Bool) (ip : Str) (fp : Option Str) (hip : AllDigits ip)
    (hfp : ∀ d, fp = some d → AllDigits d) : ∀ c ∈ numStr neg ip fp, c.toNat < 128 := by
  intro c hc
  simp only [numStr, List.mem_append] at hc
  rcases hc with (hc | hc) | hc
  · cases neg
    · simp [signChars] at hc
    · simp only [signChars, if_true, List.mem_cons, List.not_mem_nil, or_false] at hc
      subst hc; decide
  · exact allDigits_ascii hip c hc
  · cases fp with
    | none => simp [fracChars] at hc
    | some d =>
      simp only [fracChars, List.mem_cons] at hc
      rcases hc with rfl | hc
      · decide
      · exact allDigits_ascii (hfp d rfl) c hc

/-- the grammar side conditions, from the character-level shape -/
theorem numTextOf_wf (neg : Bool) (ip : Str) (fp : Option Str) (hip : AllDigits ip) (hne : ip ≠ [])
    (hz : NoLeadingZero ip) (hfp : ∀ d, fp = some d → AllDigits d ∧ d ≠ []) :
    (numTextOf neg ip fp).WF := by
  have run : ∀ ds : Str, AllDigits ds → ds ≠ [] → DigitRun (utf8 ds) := by
    intro ds h1 h2
    obtain ⟨e1, e2, _⟩ := digits_bytes ds h1
    rw [e1]
    exact ⟨by simpa using h2, fun b hb => (isDigit_iff b).1 (e2 b hb)⟩
  refine ⟨⟨run ip hip hne, ?_⟩, ?_, True.intro⟩
  · show (utf8 ip).head? = some 48 → utf8 ip = [48]
    rw [(digits_bytes ip hip).1]
    rcases hz with rfl | hz
    · intro _; rfl
    · intro h
      exfalso
      cases ip with
      | nil => exact hne rfl
      | cons c r =>
        simp only [List.map_cons, List.head?_cons, Option.some.injEq] at h
        apply hz
        have hc := isDigit_ascii c (hip c (by simp))
        have := toNat_of_byteOf_eq c hc 48 (by decide) h
        rw [List.head?_cons, char_eq_of_toNat c 48 this]
  · show OptAll DigitRun (fp.map utf8)
    cases fp with
    | none => exact True.intro
    | some d => exact run d (hfp d rfl).1 (hfp d rfl).2

/-- the value of an integer text in range -/
theorem numTextOf_value_int (neg : Bool) (ip : Str) (hip : AllDigits ip)
    (hr : if neg then digitsToNat ip ≤ 2 ^ 63 else digitsToNat ip < 2 ^ 64) :
    (numTextOf neg ip none).value? =
      some (if neg then .neg (-(digitsToNat ip : Int)) else .pos (digitsToNat ip)) := by
  have e : asciiStr (numTextOf neg ip none).int = ip := asciiStr_utf8 ip (allDigits_ascii hip)
  unfold NumText.value?
  simp only [e]
  rw [if_pos ⟨rfl, rfl, hr⟩]
  rfl

/-- the value of a text with a fraction, or whose integer is out of range: through `str::parse::<f64>` -/
theorem numTextOf_value_flt (neg : Bool) (ip : Str) (fp : Option Str) (hip : AllDigits ip)
    (hfp : ∀ d, fp = some d → AllDigits d)
    (hr : fp = none → ¬ (if neg then digitsToNat ip ≤ 2 ^ 63 else digitsToNat ip < 2 ^ 64))
    (f : F64) (hp : parseDecimal (numStr neg ip fp) = some f) (hfin : f.isFinite = true) :
    (numTextOf neg ip fp).value? = some (Num.ofF64 f) := by
  have e : asciiStr (numTextOf neg ip fp).int = ip := asciiStr_utf8 ip (allDigits_ascii hip)
  have e2 : asciiStr (numTextOf neg ip fp).norm = numStr neg ip fp := by
    rw [numTextOf_norm, numTextOf_bytes, asciiStr_utf8 _ (numStr_ascii neg ip fp hip hfp)]
  unfold NumText.value?
  simp only [e, e2, hp, hfin, if_true]
  rw [if_neg]
  rintro ⟨h1, _, h3⟩
  apply hr _ h3
  cases fp with
  | none => rfl
  | some d => simp [numTextOf] at h1

/-! #### integers -/

theorem noLeadingZero_toDigits (n : Nat) : NoLeadingZero (Nat.toDigits 10 n) := by
  by_cases h : n = 0
  · subst h; exact Or.inl rfl
  · exact Or.inr (head_toDigits_ne_zero n h)

/-- `[-]digits` of an integer in range is a number text denoting that integer -/
theorem digits_ser (neg : Bool) (n : Nat) (hr : if neg then n ≤ 2 ^ 63 else n < 2 ^ 64) :
    Ser.Ser (.num (if neg then .neg (-(n : Int)) else .pos n)) (utf8 (signChars neg ++ Nat.toDigits 10 n)) := by
  have hd : AllDigits (Nat.toDigits 10 n) := allDigits_toDigits n
  have hv := numTextOf_value_int neg (Nat.toDigits 10 n) hd
    (by rw [digitsToNat_toDigits]; exact hr)
  rw [digitsToNat_toDigits] at hv
  have hwf := numTextOf_wf neg _ none hd Nat.toDigits_ne_nil (noLeadingZero_toDigits n)
    (by intro d h; cases h)
  have := Ser.num hwf hv
  rw [numTextOf_bytes] at this
  simpa [numStr, fracChars] using this

/-! #### floats -/

theorem unsignedJson_split {b : Str} (h : UnsignedJsonShape b) :
    ∃ (ip : Str) (fp : Option Str), b = ip ++ fracChars fp ∧ AllDigits ip ∧ ip ≠ [] ∧ NoLeadingZero ip ∧
      (∀ d, fp = some d → AllDigits d ∧ d ≠ []) := by
  rcases h with ⟨h1, h2, h3⟩ | ⟨ip, fp, rfl, h2, h3, h4, h5, h6⟩
  · exact ⟨b, none, by simp [fracChars], h1, h2, h3, by intro d hd; cases hd⟩
  · exact ⟨ip, some fp, rfl, h2, h3, h4, by intro d hd; cases hd; exact ⟨h5, h6⟩⟩

/-- a text of the JSON number shape, split into sign, integer part and fraction -/
theorem json_split {t : Str} (h : JsonNumberShape t) :
    ∃ (neg : Bool) (ip : Str) (fp : Option Str), t = numStr neg ip fp ∧ AllDigits ip ∧ ip ≠ [] ∧
      NoLeadingZero ip ∧ (∀ d, fp = some d → AllDigits d ∧ d ≠ []) := by
  rcases h with h | ⟨b, rfl, h⟩
  · obtain ⟨ip, fp, h1, h2⟩ := unsignedJson_split h
    exact ⟨false, ip, fp, by simpa [numStr, signChars] using h1, h2⟩
  · obtain ⟨ip, fp, h1, h2⟩ := unsignedJson_split h
    exact ⟨true, ip, fp, by simp [numStr, signChars, h1], h2⟩

theorem noDigitHead_frac (fp : Option Str) : NoDigitHead (fracChars fp) := by
  cases fp with
  | none => exact True.intro
  | some d => show ('.' : Char).isDigit = false; rfl

/-- the split of a text without fraction is unique -/
theorem split_unique_int {neg neg' : Bool} {ip ip' : Str} {fp' : Option Str}
    (h : numStr neg ip none = numStr neg' ip' fp') (hip : AllDigits ip) (hne : ip ≠ [])
    (hip' : AllDigits ip') (hne' : ip' ≠ []) : neg = neg' ∧ ip = ip' ∧ fp' = none := by
  have core : ip ++ fracChars none = ip' ++ fracChars fp' → ip = ip' ∧ fp' = none := by
    intro h
    have := congrArg takeDigits h
    rw [takeDigits_append _ _ hip (noDigitHead_frac _), takeDigits_append _ _ hip' (noDigitHead_frac _)] at this
    simp only [Prod.mk.injEq] at this
    refine ⟨this.1, ?_⟩
    cases fp' with
    | none => rfl
    | some d => simp [fracChars] at this
  obtain ⟨c, r, rfl⟩ := List.exists_cons_of_ne_nil hne
  obtain ⟨c', r', rfl⟩ := List.exists_cons_of_ne_nil hne'
  have hc : c.isDigit = true := hip c (by simp)
  have hc' : c'.isDigit = true := hip' c' (by simp)
  cases neg <;> cases neg' <;>
    simp only [numStr, signChars, if_true, if_false, Bool.false_eq_true, List.nil_append, List.cons_append,
      List.cons.injEq] at h
  · obtain ⟨h1, h2⟩ := core (by simpa using h)
    exact ⟨rfl, h1, h2⟩
  · obtain ⟨rfl, _⟩ := h
    exact absurd hc (by decide)
  · obtain ⟨rfl, _⟩ := h
    exact absurd hc' (by decide)
  · obtain ⟨h1, h2⟩ := core (by simpa using h.2)
    exact ⟨rfl, h1, h2⟩

/-- the digit search succeeded on a float satisfying `FloatRT` (its display text is not the `<?>` of the model) -/
theorem floatRT_display {f : F64} (hf : FloatRT f) : ∃ t, toDisplay? f = some t ∧ toDisplay f = t := by
  cases h : toDisplay? f with
  | some t => exact ⟨t, rfl, by simp [toDisplay, h]⟩
  | none =>
    exfalso
    obtain ⟨neg, ip, fp, h1, h2, h3, _⟩ := hf.shape
    have e : toDisplay f = ['<', '?', '>'] := by simp [toDisplay, h]
    rw [e] at h1
    obtain ⟨c, r, rfl⟩ := List.exists_cons_of_ne_nil h2
    have hc : c.isDigit = true := h3 c (by simp)
    cases neg <;>
      simp only [signChars, if_true, if_false, Bool.false_eq_true, List.nil_append, List.cons_append,
        List.cons.injEq] at h1
    · obtain ⟨rfl, _⟩ := h1
      exact absurd hc (by decide)
    · exact absurd h1.1 (by decide)

/-- floats: the display text of a float satisfying `FloatRT` is a number text denoting that float -/
theorem float_ser (f : F64) (hf : FloatRT f) : Ser.Ser (.num (.flt f)) (utf8 (toDisplay f)) := by
  obtain ⟨t, ht, hdisp⟩ := floatRT_display hf
  have hfin := hf.finite
  cases f with
  | nan => simp [isFinite] at hfin
  | inf s => simp [isFinite] at hfin
  | fin s m e =>
    have hm : m ≠ 0 := flt_stable_ne_zero hf.stays
    have hparse : parseDecimal t = some (fin s m e) := display_parse rfl hm ht
    obtain ⟨neg, ip, fp, rfl, h2, h3, h4, h5⟩ := json_split (toDisplay_jsonShape ht)
    have hfp : ∀ d, fp = some d → AllDigits d := fun d hd => (h5 d hd).1
    have hrange : fp = none → ¬ (if neg then digitsToNat ip ≤ 2 ^ 63 else digitsToNat ip < 2 ^ 64) := by
      intro hnone
      subst hnone
      obtain ⟨neg', ip', fp', g1, g2, g3, _, g5⟩ := hf.shape
      rw [hdisp] at g1
      obtain ⟨rfl, rfl, rfl⟩ := split_unique_int g1 h2 h3 g3 g2
      have := g5 rfl
      cases neg <;> simp only [if_true, if_false, Bool.false_eq_true] at this ⊢ <;> omega
    have hv := numTextOf_value_flt neg ip fp h2 hfp hrange _ hparse hfin
    rw [hf.stays] at hv
    have := Ser.num (numTextOf_wf neg ip fp h2 h3 h4 h5) hv
    rw [numTextOf_bytes] at this
    rw [hdisp]
    exact this

/-- numbers: the printed number is a number text denoting the number (a non-negative `neg i`, printed
without sign, denotes `pos i`) -/
theorem printNum_ser (n : Num) (hn : NumPrintable n) : Ser.Ser (.num (normNum n)) (utf8 (printNum n)) := by
  cases n with
  | pos n =>
    have := digits_ser false n hn
    simpa [signChars, normNum, printNum] using this
  | neg i =>
    obtain ⟨h1, h2⟩ := hn
    simp only [normNum, printNum]
    by_cases hi : i < 0
    · rw [if_pos hi, if_pos hi]
      have := digits_ser true i.natAbs (by simp only [if_true]; omega)
      have e : -(i.natAbs : Int) = i := by omega
      simpa [signChars, e] using this
    · rw [if_neg hi, if_neg hi]
      have := digits_ser false i.natAbs (by simp only [Bool.false_eq_true, if_false]; omega)
      have e : i.natAbs = i.toNat := by omega
      simpa [signChars, e] using this
  | flt f => exact float_ser f hn

/-! ### Arrays and objects -/

/-- the claim for one value, at every indentation depth -/
def ValSer (o : JsonOpts) (ind : Nat) (v : JV) : Prop :=
  Printable o v → Ser.Ser (norm v) (utf8 (printJsonAt o ind v))

/-- the elements (without the indentation of the first one), followed by any white space, form an element list -/
def ElemsSer (o : JsonOpts) (ind : Nat) (vs : List JV) : Prop :=
  vs ≠ [] → PrintableList o vs → ∀ trail, Ws trail → Elems (normList vs) (utf8 (elemsTail o ind vs) ++ trail)

/-- the members (without the indentation of the first one), followed by any white space, form a member list -/
def MembersSer (o : JsonOpts) (ind : Nat) (kvs : List (Str × JV)) : Prop :=
  kvs ≠ [] → PrintableMembers o kvs → ∀ trail, Ws trail →
    Members (normMembers kvs) (utf8 (membersTail o ind kvs) ++ trail)

theorem elems_cons (o : JsonOpts) (ind : Nat) (v : JV) (vs : List JV)
    (hv : ValSer o ind v) (hvs : ElemsSer o ind vs) : ElemsSer o ind (v :: vs) := by
  intro _ hp trail htrail
  rw [PrintableList] at hp
  cases vs with
  | nil =>
    rw [elemsTail, normList, normList]
    exact Elems.one (hv hp.1) htrail
  | cons w vs =>
    have hrest := hvs (by simp) hp.2 trail htrail
    rw [elemsTail, normList]
    have := Elems.cons (w1 := []) (w2 := commaWs o ++ utf8 (indentText o ind)) (hv hp.1) ws_nil
      (ws_append' (commaWs_Ws o) (indent_Ws o ind)) hrest
    simpa only [utf8_append, utf8_commaText, List.append_assoc, List.cons_append, List.nil_append] using this

theorem members_cons (o : JsonOpts) (ind : Nat) (k : Str) (v : JV) (kvs : List (Str × JV))
    (hv : ValSer o ind v) (hkvs : MembersSer o ind kvs) : MembersSer o ind ((k, v) :: kvs) := by
  intro _ hp trail htrail
  rw [PrintableMembers] at hp
  have hk := printString_ser o k hp.1
  cases kvs with
  | nil =>
    rw [membersTail, normMembers, normMembers]
    have := Members.one (w1 := []) (w2 := colonWs o) hk ws_nil (colonWs_Ws o) (hv hp.2.1) htrail
    simpa only [utf8_append, utf8_colonText, List.append_assoc, List.cons_append, List.nil_append] using this
  | cons kv kvs =>
    have hrest := hkvs (by simp) hp.2.2 trail htrail
    rw [membersTail, normMembers]
    have := Members.cons (w1 := []) (w2 := colonWs o) (w3 := []) (w4 := commaWs o ++ utf8 (indentText o ind))
      hk ws_nil (colonWs_Ws o) (hv hp.2.1) ws_nil (ws_append' (commaWs_Ws o) (indent_Ws o ind)) hrest
    simpa only [utf8_append, utf8_colonText, utf8_commaText, List.append_assoc, List.cons_append,
      List.nil_append] using this

theorem ser_arr (o : JsonOpts) (ind : Nat) (vs : List JV) (hvs : ElemsSer o (ind + 1) vs) :
    ValSer o ind (.arr vs) := by
  intro hp
  rw [Printable] at hp
  rw [norm]
  cases vs with
  | nil =>
    rw [normList, printJsonAt]
    exact Ser.arrEmpty (w := []) ws_nil
  | cons v vs =>
    have hb := hvs (by simp) hp _ (indent_Ws o ind)
    have := Ser.arr (indent_Ws o (ind + 1)) hb
    rw [printJsonAt, printElems_eq o (ind + 1) (v :: vs) (by simp)]
    have e1 : utf8 [']'] = [93] := rfl
    have e2 : String.utf8EncodeChar '[' = [91] := rfl
    simpa only [utf8_cons, utf8_append, e1, e2, List.append_assoc, List.cons_append, List.nil_append]
      using this

theorem ser_obj (o : JsonOpts) (ind : Nat) (kvs : List (Str × JV)) (hkvs : MembersSer o (ind + 1) kvs) :
    ValSer o ind (.obj kvs) := by
  intro hp
  rw [Printable] at hp
  rw [norm]
  cases kvs with
  | nil =>
    rw [normMembers, printJsonAt]
    exact Ser.objEmpty (w := []) ws_nil
  | cons kv kvs =>
    have hb := hkvs (by simp) hp.1 _ (indent_Ws o ind)
    have := Ser.obj (indent_Ws o (ind + 1)) hb (by rw [normMembers_keys]; exact hp.2)
    rw [printJsonAt, printMembers_eq o (ind + 1) (kv :: kvs) (by simp)]
    have e1 : utf8 ['}'] = [125] := rfl
    have e2 : String.utf8EncodeChar '{' = [123] := rfl
    simpa only [utf8_cons, utf8_append, e1, e2, List.append_assoc, List.cons_append, List.nil_append]
      using this

mutual
theorem value_ser (o : JsonOpts) : ∀ (ind : Nat) (v : JV), ValSer o ind v
  | _, .null => fun _ => by rw [norm, printJsonAt]; exact Ser.null
  | _, .bool true => fun _ => by rw [norm, printJsonAt]; exact Ser.true
  | _, .bool false => fun _ => by rw [norm, printJsonAt]; exact Ser.false
  | _, .num n => fun h => by
    rw [Printable] at h; rw [norm, printJsonAt]; exact printNum_ser n h
  | _, .str s => fun h => by
    rw [Printable] at h; rw [norm, printJsonAt]; exact printString_ser o s h
  | ind, .arr vs => ser_arr o ind vs (elems_ser o (ind + 1) vs)
  | ind, .obj kvs => ser_obj o ind kvs (members_ser o (ind + 1) kvs)
theorem elems_ser (o : JsonOpts) : ∀ (ind : Nat) (vs : List JV), ElemsSer o ind vs
  | _, [] => fun h => absurd rfl h
  | ind, v :: vs => elems_cons o ind v vs (value_ser o ind v) (elems_ser o ind vs)
theorem members_ser (o : JsonOpts) : ∀ (ind : Nat) (kvs : List (Str × JV)), MembersSer o ind kvs
  | _, [] => fun h => absurd rfl h
  | ind, (k, v) :: kvs => members_cons o ind k v kvs (value_ser o ind v) (members_ser o ind kvs)
end

/-! ### Main theorems -/

/-- the printed text of a printable value is a conforming JSON text whose value is the value (up to `RT.norm`:
a `neg i` with `i ≥ 0`, which prints without sign, denotes `pos i`), in every style and both string modes -/
theorem printJson_ser_printable (o : JsonOpts) (v : JV) (hv : Printable o v) :
    Ser.Ser (RT.norm v) (utf8 (printJson o v)) :=
  value_ser o 0 v hv

/-- the same for the values the parser produces -/
theorem printJson_ser (o : JsonOpts) (v : JV) (hv : Parsed o v) :
    Ser.Ser (RT.norm v) (utf8 (printJson o v)) :=
  printJson_ser_printable o v (printable_of_parsed o v hv)

/-! ### Corollaries -/

theorem strOK_opts {o o' : JsonOpts} (h : o.utf8Strings = o'.utf8Strings) {s : Str} (hs : StrOK o s) :
    StrOK o' s := by
  intro c hc
  rcases hs c hc with h1 | h1
  · exact Or.inl h1
  · exact Or.inr (h ▸ h1)

mutual
/-- `Printable` depends on the options only through the string mode -/
theorem printable_opts (o o' : JsonOpts) (h : o.utf8Strings = o'.utf8Strings) :
    ∀ (v : JV), Printable o v → Printable o' v
  | .null, _ => by rw [Printable]; exact True.intro
  | .bool _, _ => by rw [Printable]; exact True.intro
  | .num n, hv => by rw [Printable] at hv ⊢; exact hv
  | .str s, hv => by rw [Printable] at hv ⊢; exact strOK_opts h hv
  | .arr vs, hv => by rw [Printable] at hv ⊢; exact printableList_opts o o' h vs hv
  | .obj kvs, hv => by rw [Printable] at hv ⊢; exact ⟨printableMembers_opts o o' h kvs hv.1, hv.2⟩
theorem printableList_opts (o o' : JsonOpts) (h : o.utf8Strings = o'.utf8Strings) :
    ∀ (vs : List JV), PrintableList o vs → PrintableList o' vs
  | [], _ => by rw [PrintableList]; exact True.intro
  | v :: vs, hv => by
    rw [PrintableList] at hv ⊢
    exact ⟨printable_opts o o' h v hv.1, printableList_opts o o' h vs hv.2⟩
theorem printableMembers_opts (o o' : JsonOpts) (h : o.utf8Strings = o'.utf8Strings) :
    ∀ (kvs : List (Str × JV)), PrintableMembers o kvs → PrintableMembers o' kvs
  | [], _ => by rw [PrintableMembers]; exact True.intro
  | (k, v) :: kvs, hv => by
    rw [PrintableMembers] at hv ⊢
    exact ⟨strOK_opts h hv.1, printable_opts o o' h v hv.2.1, printableMembers_opts o o' h kvs hv.2.2⟩
end

/-- the three styles (same string mode) give conforming texts of the SAME value -/
theorem printJson_ser_styles (o : JsonOpts) (v : JV) (hv : Parsed o v) (st : JsonStyle) :
    Ser.Ser (RT.norm v) (utf8 (printJson { o with style := st } v)) :=
  printJson_ser_printable _ v (printable_opts o { o with style := st } rfl v (printable_of_parsed o v hv))

/-- `Display for JsonValue`: a row printed with the default options (one line, ASCII strings) -/
theorem display_is_ser (v : JV) (hv : Parsed {} v) : Ser.Ser (RT.norm v) (utf8 (JV.display v)) :=
  printJson_ser {} v hv

/-- the reader model reads the printed text back as the value THROUGH the independent grammar
(`Ser.nextJson_ser` applied to `printJson_ser`): after any white space, before any `rest` that does not
extend a number -/
theorem nextJson_printed (o : JsonOpts) (v : JV) (hv : Parsed o v) (rest : List Byte)
    (hd : Delimited (RT.norm v) rest) (ws : List Byte) (hws : Ws ws) (r : Reader)
    (hr : Ready r (ws ++ utf8 (printJson o v) ++ rest)) :
    ∃ r', r.nextJson = (.ok (some (RT.norm v)), r') ∧ Ready r' rest :=
  nextJson_ser (printJson_ser o v hv) rest hd ws hws r hr

/-! ### Non-vacuity -/

/-- a nested value with a float (`0.1`), integers of both signs, two-character escapes (`\n`, `\"`, `\/`),
a non-ASCII character, a control character, an empty object and an empty array -/
def sample : JV :=
  .obj [(['a', '/'], .arr [.num (.flt (.fin false 7205759403792794 (-56))), .num (.pos 7), .num (.neg (-12)),
          .str ['x', '\n', '"', 'é', '\x7f', '\x01'], .obj [], .arr [], .null]),
        (['é'], .bool true)]

theorem sample_parsed (o : JsonOpts) : Parsed o sample := by
  have hs : ∀ s : Str, (∀ c ∈ s, c.toNat ≤ 0xFFFF) → StrOK o s := fun s h c hc => Or.inl (h c hc)
  have hf : Parsed o (.num (.flt (.fin false 7205759403792794 (-56)))) := by
    rw [Parsed]
    exact ⟨⟨rfl, by decide +kernel⟩, by intro f hf; cases hf; decide +kernel⟩
  have h7 : Parsed o (.num (.pos 7)) := by
    rw [Parsed]; exact ⟨(by decide : (7 : Nat) < 2 ^ 64), by intro f hf; cases hf⟩
  have h12 : Parsed o (.num (.neg (-12))) := by
    rw [Parsed]
    exact ⟨(by decide : -(2 ^ 63 : Int) ≤ -12 ∧ (-12 : Int) ≤ 0), by intro f hf; cases hf⟩
  have hstr : Parsed o (.str ['x', '\n', '"', 'é', '\x7f', '\x01']) := by
    rw [Parsed]; exact hs _ (by decide)
  have hobj : Parsed o (.obj []) := by
    rw [Parsed, ParsedMembers]; exact ⟨True.intro, by decide⟩
  have harr : Parsed o (.arr []) := by rw [Parsed, ParsedList]; exact True.intro
  have hnull : Parsed o .null := by rw [Parsed]; exact True.intro
  have htrue : Parsed o (.bool true) := by rw [Parsed]; exact True.intro
  have hin : Parsed o (.arr [.num (.flt (.fin false 7205759403792794 (-56))), .num (.pos 7), .num (.neg (-12)),
      .str ['x', '\n', '"', 'é', '\x7f', '\x01'], .obj [], .arr [], .null]) := by
    rw [Parsed]
    simp only [ParsedList]
    exact ⟨hf, h7, h12, hstr, hobj, harr, hnull, True.intro⟩
  rw [sample, Parsed]
  simp only [ParsedMembers]
  exact ⟨⟨hs _ (by decide), hin, hs _ (by decide), htrue, True.intro⟩, by decide⟩

theorem sample_norm : RT.norm sample = sample := by
  simp [sample, norm, normList, normMembers, normNum]

/-- the pretty-printed sample, ASCII mode (`é` is written `\u00e9`) -/
theorem sample_pretty_ascii : printJson { style := .pretty } sample =
    "{\n  \"a\\/\": [\n    0.1,\n    7,\n    -12,\n    \"x\\n\\\"\\u00e9\\u007f\\u0001\",\n    {},\n    [],\n    null\n  ],\n  \"\\u00e9\": true\n}".toList := by
  -- the literal is `String.ofList` of its characters; evaluating `toList` on it instead is quadratic
  rw [String.toList_ofList]
  decide +kernel

/-- the pretty-printed sample, UTF-8 mode (`é` and DEL are written raw) -/
theorem sample_pretty_utf8 : printJson { style := .pretty, utf8Strings := true } sample =
    "{\n  \"a\\/\": [\n    0.1,\n    7,\n    -12,\n    \"x\\n\\\"é\x7f\\u0001\",\n    {},\n    [],\n    null\n  ],\n  \"é\": true\n}".toList := by
  rw [String.toList_ofList]
  decide +kernel

/-- the main theorem on the sample, pretty style: that concrete text is a conforming text of the sample -/
example : Ser.Ser sample (utf8 "{\n  \"a\\/\": [\n    0.1,\n    7,\n    -12,\n    \"x\\n\\\"\\u00e9\\u007f\\u0001\",\n    {},\n    [],\n    null\n  ],\n  \"\\u00e9\": true\n}".toList) := by
  have := printJson_ser { style := .pretty } sample (sample_parsed _)
  rwa [sample_norm, sample_pretty_ascii] at this

example : Ser.Ser sample (utf8 (printJson { style := .pretty, utf8Strings := true } sample)) := by
  have := printJson_ser { style := .pretty, utf8Strings := true } sample (sample_parsed _)
  rwa [sample_norm] at this

/-- the `Printable` version on the sample, `consise` style -/
example : Ser.Ser sample (utf8 (printJson { style := .consise } sample)) := by
  have := printJson_ser_printable { style := .consise } sample (printable_of_parsed _ _ (sample_parsed _))
  rwa [sample_norm] at this

/-- `nextJson_printed` on the sample: a fresh reader over the pretty-printed text yields the sample -/
example : ∃ r', (Reader.ofBytes (utf8 (printJson { style := .pretty } sample))).nextJson
    = (.ok (some sample), r') ∧ Ready r' [] := by
  have := nextJson_printed { style := .pretty } sample (sample_parsed _) []
    (delimited_of_delim (Delim.of_numDelim numDelim_nil)) [] ws_nil _
    (by rw [List.nil_append, List.append_nil]; exact ready_ofBytes _ none)
  rwa [sample_norm] at this

/-- `neg 0` is printed `0`, which denotes `pos 0`: the reason for `RT.norm` in the statement -/
example : Ser.Ser (.num (.pos 0)) (utf8 (printJson {} (.num (.neg 0)))) :=
  printJson_ser {} (.num (.neg 0)) (by
    rw [Parsed]; exact ⟨(by decide : -(2 ^ 63 : Int) ≤ 0 ∧ (0 : Int) ≤ 0), by intro f hf; cases hf⟩)

/-- Outside the hypothesis (`StrOK`): in ASCII mode a character above the Basic Multilingual Plane is printed
as `\u` + FIVE hex digits (`{:04x}`), which is still a conforming text, but of a DIFFERENT string
(U+1F600 comes out as the text of U+1F60 followed by `0`). With `utf8Strings` it is written raw. -/
theorem astral_ascii_differs :
    Ser.Ser (.str [Char.ofNat 0x1F60, '0']) (utf8 (printJson {} (.str [Char.ofNat 0x1F600]))) := by
  have e : utf8 (printJson {} (.str [Char.ofNat 0x1F600])) =
      34 :: (([92, 117, 49, 102, 54, 48] ++ ([48] ++ [])) ++ [34]) := by decide +kernel
  rw [e]
  exact Ser.str (StrBody.cons (StrItem.uni 49 102 54 48 1 15 6 0 rfl rfl rfl rfl (Or.inl (by decide)))
    (StrBody.cons (StrItem.raw '0' (by decide) (by decide) (by decide)) StrBody.nil))

end Jawk.PrintSer
