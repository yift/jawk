/-
  Property C02 (computed values): expressions never produce a number that JSON cannot spell.

  JSON has no spelling for `NaN` / `inf` / `-inf`.  Values read from the input are finite (the parser rejects
  numbers that overflow); this file is about COMPUTED values: for every expression, every function of the
  evaluator, every depth, a finite context gives a finite result.

  Statements
  * `eval_finite`          MAIN, with one added hypothesis `hrep` (below)
  * `evalRep_finite`       the same for the 64-bit evaluator `evalRep`, no added hypothesis
  * `eval_finite_partial`  no added hypothesis, for expressions without `% abs ceil floor round parse_selection`
  * `eval_finite_false`    the statement without `hrep` is FALSE in the model (counter-example, proved)
  * `selected_rows_finite`, `withResult_finite`, `build_finite`   the selection stage and the row it builds
  * `jnumFinite_finite`, `ofF64_finite`, `nextJson_finite`, `parser_fin`   helper facts
  * `callFn_fin` / `evalNode_fin`   the generic induction step (every function body), parametric in what is
      known about evaluated sub-expressions (`S`) and in the set of allowed function names (`allow`)

  Why `hrep`.  Arithmetic goes through `jnumFinite` (`from_finite`): `+ * - / sum` return nothing instead of a
  non-finite double whatever their arguments are.  Five functions return `jnum` (`From<f64>`) unguarded:
  `% abs ceil floor round`.  They are finite on finite binary64 arguments (`rem_finite`, `abs_finite`, …), but
  the model is more generous than Rust in two places: `.pos n` is an unbounded `Nat` (`size` of a list with
  `2^1024` elements is `.pos (2^1024)`, whose `f64` is `inf`), and `F64.fin` allows mantissas/exponents outside
  binary64.  `evalRep` is `eval` with one check added after every evaluation: a returned number has to be a
  Rust `NumberValue` (`Num.WF`: `u64`, `i64`, canonical binary64); otherwise it stops with `.overflow`.
  `evalRep_le` / `evalRep_eq`: the two evaluators agree unless that check fails.  `hrep` says it did not fail.
  No list that long fits a machine, so this is a gap of the model, not a finding about jawk.
-/
import Jawk.Model.Eval
import Jawk.Lemmas.F64RoundTrip
import Jawk.Lemmas.FloatBridge
import Jawk.Lemmas.Fixpoint
import Jawk.Lemmas.Subst
import Jawk.Lemmas.NoPanic
import Jawk.Lemmas.SortFns
namespace Jawk.Finite
open Jawk Jawk.F64 Jawk.F64RT

/-! ## `f64` facts: which operations keep a double finite -/

theorem isFinite_withSign (s : Bool) (f : F64) : (withSign s f).isFinite = f.isFinite := by
  cases f <;> rfl

/-- finiteness of a rounding does not depend on the sign -/
theorem roundRat_isFinite_sign (s s' : Bool) (n d : Nat) :
    (roundRat s n d).isFinite = (roundRat s' n d).isFinite := by
  rw [roundRat_sign s s', isFinite_withSign]

theorem ite_ne_nan (c : Prop) [Decidable c] {a b : F64} (ha : a ≠ nan) (hb : b ≠ nan) :
    (if c then a else b) ≠ nan := by
  split <;> assumption

theorem finish_ne_nan (s : Bool) (e : Int) (x : Nat × Nat × Nat) : finish s e x ≠ nan := by
  rw [show x = (x.1, x.2.1, x.2.2) from rfl, finish_roundUp]
  have h (c : Prop) [Decidable c] (m : Nat) (x : Int) : (if c then inf s else fin s m x) ≠ nan :=
    ite_ne_nan _ (fun h => by cases h) (fun h => by cases h)
  exact ite_ne_nan _ (h _ _ _) (h _ _ _)

theorem roundRat_ne_nan (s : Bool) (n d : Nat) : roundRat s n d ≠ nan := by
  rw [roundRat_eq]
  split
  · intro h; cases h
  · exact finish_ne_nan _ _ _

theorem toBits_canonical_lt {m : Nat} {e : Int} (hc : Canonical (fin false m e)) :
    toBits (fin false m e) < 2047 * 2 ^ 52 := by
  obtain ⟨h1, h2, h3, h4⟩ := hc
  simp only [toBits, Bool.false_eq_true, if_false, Nat.zero_add]
  split
  · omega
  · have : (e + 1075).toNat ≤ 2046 := by omega
    have := Nat.mul_le_mul_right (2 ^ 52) this
    omega

/-- a rational not above a (canonical, non-zero) double rounds to a finite double -/
theorem roundRat_finite_of_le (s : Bool) {n d m : Nat} {e : Int} (hc : Canonical (fin false m e)) (hm : m ≠ 0)
    (hd : d ≠ 0) (h : n * (toRat (fin false m e)).2 ≤ (toRat (fin false m e)).1 * d) :
    (roundRat s n d).isFinite = true := by
  rw [roundRat_isFinite_sign s false]
  have hd' := (toRat_ne_zero false e hm).2
  have h1 := roundRat_mono hd hd' h
  rw [roundRat_toRat hc hm] at h1
  have h2 := toBits_canonical_lt hc
  cases hr : roundRat false n d with
  | fin s' m' e' => rfl
  | nan => exact absurd hr (roundRat_ne_nan _ _ _)
  | inf s' =>
    rw [hr] at h1
    have hs : roundRat false n d = withSign false (roundRat false n d) := roundRat_sign false false n d
    rw [hr] at hs
    simp only [withSign] at hs
    cases hs
    have : toBits (inf false) = 2047 * 2 ^ 52 := by decide
    omega

/-- the largest finite double -/
def maxNat : Nat := (2 ^ 53 - 1) * 2 ^ 971

theorem maxF_canonical : Canonical (fin false (2 ^ 53 - 1) 971) := by decide
theorem maxF_toRat : toRat (fin false (2 ^ 53 - 1) 971) = (maxNat, 1) := by decide +kernel
theorem u64_le_maxNat : (2 : Nat) ^ 64 ≤ maxNat := by decide +kernel

/-- every natural number up to the largest double (in particular every `u64`) converts to a finite double -/
theorem roundRat_nat_finite (s : Bool) {n : Nat} (h : n ≤ maxNat) : (roundRat s n 1).isFinite = true := by
  refine roundRat_finite_of_le s maxF_canonical (by decide) (by decide) ?_
  rw [maxF_toRat]
  simpa using h

theorem ofNat_finite {n : Nat} (h : n ≤ maxNat) : (F64.ofNat n).isFinite = true :=
  roundRat_nat_finite false h

theorem ofNat_finite_u64 {n : Nat} (h : n < 2 ^ 64) : (F64.ofNat n).isFinite = true := by
  apply ofNat_finite
  have := u64_le_maxNat
  omega

theorem ofInt_finite_i64 {i : Int} (h1 : -(2 ^ 63 : Int) ≤ i) (h2 : i < 2 ^ 63) : (F64.ofInt i).isFinite = true := by
  have hb := u64_le_maxNat
  unfold F64.ofInt
  split
  · exact roundRat_nat_finite true (by omega)
  · exact roundRat_nat_finite false (by omega)


theorem toRat_den_ne_zero (s : Bool) (m : Nat) (e : Int) : (toRat (fin s m e)).2 ≠ 0 := by
  simp only [toRat]
  split
  · exact Nat.one_ne_zero
  · exact Nat.ne_of_gt (Nat.pow_pos (by decide))

theorem two53_le_maxNat : (2 : Nat) ^ 53 + 1 ≤ maxNat := by decide +kernel

theorem abs_finite {x : F64} (h : x.isFinite = true) : x.abs.isFinite = true := by
  cases x <;> first | rfl | cases h

/-- the integer part of a double with a fractional part is below `2^53` -/
theorem toRat_frac {s : Bool} {m : Nat} {e : Int} (hc : Canonical (fin s m e))
    (hf : (fin s m e).fractIsZero = false) :
    (toRat (fin s m e)).1 < 2 ^ 53 ∧ (toRat (fin s m e)).2 ≠ 0 := by
  refine ⟨?_, toRat_den_ne_zero s m e⟩
  simp only [fractIsZero] at hf
  simp only [toRat]
  split at hf
  · cases hf
  · split at hf
    · cases hf
    · rename_i h
      rw [if_neg h]
      exact hc.1

theorem floor_finite {x : F64} (hc : x.Canonical) (h : x.isFinite = true) : x.floor.isFinite = true := by
  cases x with
  | nan => cases h
  | inf s => cases h
  | fin s m e =>
    have hb := two53_le_maxNat
    simp only [F64.floor]
    split
    · rfl
    · rename_i hf
      obtain ⟨h1, h2⟩ := toRat_frac hc (by simpa using hf)
      have hq : (toRat (fin s m e)).1 / (toRat (fin s m e)).2 ≤ (toRat (fin s m e)).1 := Nat.div_le_self _ _
      split
      · exact roundRat_nat_finite true (by omega)
      · split
        · rfl
        · exact roundRat_nat_finite false (by omega)

theorem ceil_finite {x : F64} (hc : x.Canonical) (h : x.isFinite = true) : x.ceil.isFinite = true := by
  cases x with
  | nan => cases h
  | inf s => cases h
  | fin s m e =>
    have hb := two53_le_maxNat
    simp only [F64.ceil]
    split
    · rfl
    · rename_i hf
      obtain ⟨h1, h2⟩ := toRat_frac hc (by simpa using hf)
      have hq : (toRat (fin s m e)).1 / (toRat (fin s m e)).2 ≤ (toRat (fin s m e)).1 := Nat.div_le_self _ _
      split
      · split
        · rfl
        · exact roundRat_nat_finite true (by omega)
      · exact roundRat_nat_finite false (by omega)

theorem round_finite {x : F64} (hc : x.Canonical) (h : x.isFinite = true) : x.round.isFinite = true := by
  cases x with
  | nan => cases h
  | inf s => cases h
  | fin s m e =>
    have hb := two53_le_maxNat
    simp only [F64.round]
    split
    · rfl
    · rename_i hf
      obtain ⟨h1, h2⟩ := toRat_frac hc (by simpa using hf)
      generalize (toRat (fin s m e)).1 = n at h1
      generalize (toRat (fin s m e)).2 = d at h2
      have hq : (2 * n + d) / (2 * d) < n + 2 := by
        rw [Nat.div_lt_iff_lt_mul (by omega)]
        have h3 : n * 1 ≤ n * d := Nat.mul_le_mul_left n (by omega)
        have h4 : (n + 2) * (2 * d) = 2 * (n * d) + 4 * d := by
          rw [Nat.add_mul, Nat.mul_left_comm]; omega
        omega
      split
      · rfl
      · exact roundRat_nat_finite s (by omega)

/-- `fmod` of finite doubles with a non-zero divisor is finite -/
theorem rem_finite {x y : F64} (hcx : x.Canonical) (hx : x.isFinite = true) (hy : y.isFinite = true)
    (hz : y.isZero = false) : (F64.rem x y).isFinite = true := by
  cases x with
  | nan => cases hx
  | inf s => cases hx
  | fin s1 m1 e1 =>
  cases y with
  | nan => cases hy
  | inf s => cases hy
  | fin s2 m2 e2 =>
    unfold F64.rem
    simp only
    split
    · rename_i h0; subst h0; simp [isZero] at hz
    · split
      · rfl
      · rename_i hr
        have hm1 : m1 ≠ 0 := by
          intro h0
          subst h0
          apply hr
          have : (toRat (fin s1 0 e1)).1 = 0 := by simp only [toRat]; split <;> simp
          rw [this]; simp
        have hd1 := toRat_den_ne_zero s1 m1 e1
        have hd2 := toRat_den_ne_zero s2 m2 e2
        refine roundRat_finite_of_le s1 (m := m1) (e := e1) hcx hm1 (Nat.mul_ne_zero hd1 hd2) ?_
        show _ * (toRat (fin s1 m1 e1)).2 ≤ (toRat (fin s1 m1 e1)).1 * _
        generalize (toRat (fin s1 m1 e1)).1 = n1
        generalize (toRat (fin s1 m1 e1)).2 = d1
        generalize (toRat (fin s2 m2 e2)).1 = n2
        generalize (toRat (fin s2 m2 e2)).2 = d2
        have : n1 * d2 % (n2 * d1) ≤ n1 * d2 := Nat.mod_le _ _
        calc n1 * d2 % (n2 * d1) * d1 ≤ n1 * d2 * d1 := Nat.mul_le_mul_right _ this
          _ = n1 * (d1 * d2) := by rw [Nat.mul_assoc, Nat.mul_comm d2 d1]

/-! ## The predicates -/

mutual
/-- every number inside the value is finite (integers always are; a float must be `F64.isFinite`) -/
def FiniteV : JV → Prop
  | .null => True
  | .bool _ => True
  | .str _ => True
  | .num (.pos _) => True
  | .num (.neg _) => True
  | .num (.flt f) => f.isFinite = true
  | .arr vs => FiniteVs vs
  | .obj kvs => FiniteKVs kvs
def FiniteVs : List JV → Prop
  | [] => True
  | v :: vs => FiniteV v ∧ FiniteVs vs
def FiniteKVs : List (Str × JV) → Prop
  | [] => True
  | (_, v) :: kvs => FiniteV v ∧ FiniteKVs kvs
end

theorem finiteVs_iff (l : List JV) : FiniteVs l ↔ ∀ x ∈ l, FiniteV x := by
  induction l with
  | nil => simp [FiniteVs]
  | cons x xs ih => simp [FiniteVs, ih]

theorem finiteKVs_iff (m : List (Str × JV)) : FiniteKVs m ↔ ∀ kv ∈ m, FiniteV kv.2 := by
  induction m with
  | nil => simp [FiniteKVs]
  | cons x xs ih => obtain ⟨k, v⟩ := x; simp [FiniteKVs, ih]

@[simp] theorem finiteV_null : FiniteV .null := by simp [FiniteV]
@[simp] theorem finiteV_bool (b : Bool) : FiniteV (.bool b) := by simp [FiniteV]
@[simp] theorem finiteV_str (s : Str) : FiniteV (.str s) := by simp [FiniteV]
@[simp] theorem finiteV_pos (n : Nat) : FiniteV (.num (.pos n)) := by simp [FiniteV]
@[simp] theorem finiteV_neg (i : Int) : FiniteV (.num (.neg i)) := by simp [FiniteV]
@[simp] theorem finiteV_flt (f : F64) : FiniteV (.num (.flt f)) ↔ f.isFinite = true := by simp [FiniteV]
@[simp] theorem finiteV_arr (l : List JV) : FiniteV (.arr l) ↔ ∀ x ∈ l, FiniteV x := by
  rw [FiniteV, finiteVs_iff]
@[simp] theorem finiteV_obj (m : List (Str × JV)) : FiniteV (.obj m) ↔ ∀ kv ∈ m, FiniteV kv.2 := by
  rw [FiniteV, finiteKVs_iff]
@[simp] theorem finiteV_jusize (n : Nat) : FiniteV (jusize n) := by simp [jusize]

mutual
/-- the literals of an expression are finite (the expression parser reads them with the JSON parser,
which rejects non-finite numbers) -/
def FiniteE : Expr → Prop
  | .const v => FiniteV v
  | .call _ args => FiniteEs args
  | .extract _ _ => True
  | .var _ => True
  | .macro _ => True
  | .selected _ => True
  | .ictx _ => True
def FiniteEs : List Expr → Prop
  | [] => True
  | e :: es => FiniteE e ∧ FiniteEs es
end

theorem finiteEs_iff (l : List Expr) : FiniteEs l ↔ ∀ e ∈ l, FiniteE e := by
  induction l with
  | nil => simp [FiniteEs]
  | cons x xs ih => simp [FiniteEs, ih]

/-- a context whose input, enclosing inputs, variables, selected values are finite and whose macro
bodies have finite literals -/
structure FiniteCtx (c : Ctx) : Prop where
  input : FiniteV c.input
  parents : ∀ v ∈ c.parents, FiniteV v
  vars : ∀ kv ∈ c.vars, FiniteV kv.2
  results : ∀ tr ∈ c.results, ∀ v, tr.2 = some v → FiniteV v
  defs : ∀ nd ∈ c.defs, FiniteE nd.2

/-- the library oracles (regex, time, base64, decimal division) answer with finite values -/
def FiniteOrc (orc : Oracles) : Prop := ∀ ent ∈ orc.table, ∀ v, ent.2.2 = some v → FiniteV v

/-! ## Results of evaluations -/

/-- every value `r` can return satisfies `P` -/
def FR (P : JV → Prop) (r : R) : Prop := ∀ v, r = .ok (some v) → P v

theorem FR.nil {P} : FR P (.ok none) := by intro v h; cases h
theorem FR.val {P} {v : JV} (h : P v) : FR P (.ok (some v)) := by intro w hw; cases hw; exact h
theorem FR.opt {P} {o : Option JV} (h : ∀ v, o = some v → P v) : FR P (.ok o) := by
  intro w hw; cases hw; exact h w rfl
theorem FR.err {P} {a : Abort} : FR P (.error a) := by intro v h; cases h
theorem FR.bind {α P} {m : Except Abort α} {f : α → R} (h : ∀ a, m = .ok a → FR P (f a)) : FR P (m >>= f) := by
  cases m with
  | error e => exact FR.err
  | ok a => exact h a rfl
theorem FR.mono {P Q : JV → Prop} {r : R} (h : ∀ v, P v → Q v) (hr : FR P r) : FR Q r :=
  fun v hv => h v (hr v hv)
theorem FR.jbool {P} {b : Bool} (h : ∀ b, P (.bool b)) : FR P (.ok (jbool b)) := FR.val (h b)

/-- the functions whose result goes through `From<f64>` without the `from_finite` guard -/
def unguarded : List String := ["%", "abs", "ceil", "floor", "round"]

/-- finite literals, and only function names from `allow` -/
def GoodE (allow : String → Bool) (e : Expr) : Prop := FiniteE e ∧ NoPanic.allCalls allow e = true

/-- a finite context whose macro bodies only use function names from `allow` -/
structure GoodCtx (allow : String → Bool) (c : Ctx) : Prop where
  fin : FiniteCtx c
  defs : ∀ nd ∈ c.defs, NoPanic.allCalls allow nd.2 = true

theorem GoodCtx.withInput {allow c} (h : GoodCtx allow c) {v : JV} (hv : FiniteV v) :
    GoodCtx allow (c.withInput v) := by
  refine ⟨⟨hv, ?_, h.fin.vars, ?_, h.fin.defs⟩, h.defs⟩
  · intro w hw
    simp only [Ctx.withInput, List.mem_cons] at hw
    rcases hw with rfl | hw
    · exact h.fin.input
    · exact h.fin.parents w hw
  · intro tr htr; simp [Ctx.withInput] at htr

theorem GoodCtx.withVariable {allow c} (h : GoodCtx allow c) (n : Str) {v : JV} (hv : FiniteV v) :
    GoodCtx allow (c.withVariable n v) := by
  refine ⟨⟨h.fin.input, h.fin.parents, ?_, h.fin.results, h.fin.defs⟩, h.defs⟩
  intro kv hkv
  simp only [Ctx.withVariable, List.mem_cons] at hkv
  rcases hkv with rfl | hkv
  · exact hv
  · exact h.fin.vars kv hkv

theorem GoodCtx.withDefinition {allow c} (h : GoodCtx allow c) (n : Str) {d : Expr} (hd : GoodE allow d) :
    GoodCtx allow (c.withDefinition n d) := by
  refine ⟨⟨h.fin.input, h.fin.parents, h.fin.vars, h.fin.results, ?_⟩, ?_⟩
  · intro nd hnd
    simp only [Ctx.withDefinition, List.mem_cons] at hnd
    rcases hnd with rfl | hnd
    · exact hd.1
    · exact h.fin.defs nd hnd
  · intro nd hnd
    simp only [Ctx.withDefinition, List.mem_cons] at hnd
    rcases hnd with rfl | hnd
    · exact hd.2
    · exact h.defs nd hnd

theorem GoodCtx.getDefinition {allow c} (h : GoodCtx allow c) {n : Str} {d : Expr}
    (hd : c.getDefinition n = some d) : GoodE allow d :=
  ⟨h.fin.defs _ (Ctx.lookup_mem hd), h.defs _ (Ctx.lookup_mem hd)⟩

theorem GoodCtx.getVariable {allow c} (h : GoodCtx allow c) {n : Str} {v : JV}
    (hv : c.getVariable n = some v) : FiniteV v := h.fin.vars _ (Ctx.lookup_mem hv)

/-- local hypotheses about the evaluator handed to a function body -/
structure Hyp (S : JV → Prop) (allow : String → Bool) (ev : Ev) (orc : Oracles) (fn : String)
    (args : List Expr) (ctx : Ctx) : Prop where
  ctx : GoodCtx allow ctx
  args : ∀ e ∈ args, GoodE allow e
  ev : ∀ e c, GoodE allow e → GoodCtx allow c → FR (fun v => FiniteV v ∧ S v) (ev e c)
  parsed : fn = "parse_selection" → ∀ n, allow n = true
  orc : FiniteOrc orc
  five : fn ∈ unguarded → ∀ n, S (.num n) → Num.WF n

theorem foldArgs_fr {σ} {P Q : JV → Prop} {ev : Ev} {ctx : Ctx}
    {step : σ → Option JV → Except Abort (Sum (Option JV) σ)} {fin : σ → Option JV} (args : List Expr) (s : σ)
    (hev : ∀ e ∈ args, FR Q (ev e ctx))
    (hstep : ∀ s v r, (∀ w, v = some w → Q w) → step s v = .ok (.inl r) → ∀ w, r = some w → P w)
    (hfin : ∀ s w, fin s = some w → P w) : FR P (foldArgs ev ctx step fin args s) := by
  induction args generalizing s with
  | nil => exact FR.opt (hfin s)
  | cons e es ih =>
    unfold foldArgs
    refine FR.bind ?_
    intro v hv
    refine FR.bind ?_
    intro r hr
    split
    · next r' => exact FR.opt (hstep s v r' (fun w hw => by subst hw; exact hev e (by simp) _ hv) hr)
    · exact ih _ (fun e he => hev e (by simp [he]))

section
variable {S : JV → Prop} {allow : String → Bool} {ev : Ev} {orc : Oracles} {fn : String}
  {args : List Expr} {ctx : Ctx}

theorem Hyp.ev' (H : Hyp S allow ev orc fn args ctx) {e c} (he : GoodE allow e) (hc : GoodCtx allow c) :
    FR FiniteV (ev e c) := (H.ev e c he hc).mono (fun _ h => h.1)

theorem Hyp.app (H : Hyp S allow ev orc fn args ctx) {c : Ctx} (hc : GoodCtx allow c) (i : Nat) :
    FR (fun v => FiniteV v ∧ S v) (applyArg ev args c i) := by
  unfold applyArg
  split
  · next e h => exact H.ev e c (H.args e (List.mem_of_getElem? h)) hc
  · exact FR.nil

theorem Hyp.app' (H : Hyp S allow ev orc fn args ctx) {c : Ctx} (hc : GoodCtx allow c) (i : Nat) :
    FR FiniteV (applyArg ev args c i) := (H.app hc i).mono (fun _ h => h.1)

/-- what is known about an evaluated argument -/
theorem Hyp.a (H : Hyp S allow ev orc fn args ctx) {i : Nat} {x : Option JV}
    (h : applyArg ev args ctx i = .ok x) : ∀ v, x = some v → FiniteV v := by
  intro v hv; subst hv; exact (H.app H.ctx i _ h).1

theorem Hyp.aS (H : Hyp S allow ev orc fn args ctx) {i : Nat} {x : Option JV}
    (h : applyArg ev args ctx i = .ok x) : ∀ v, x = some v → S v := by
  intro v hv; subst hv; exact (H.app H.ctx i _ h).2

theorem Hyp.foldArgs (H : Hyp S allow ev orc fn args ctx) {σ} {P : JV → Prop}
    {step : σ → Option JV → Except Abort (Sum (Option JV) σ)} {fin : σ → Option JV} (s : σ)
    (hstep : ∀ s v r, (∀ w, v = some w → FiniteV w ∧ S w) → step s v = .ok (.inl r) → ∀ w, r = some w → P w)
    (hfin : ∀ s w, fin s = some w → P w) : FR P (foldArgs ev ctx step fin args s) :=
  foldArgs_fr args s (fun e he => H.ev e ctx (H.args e he) H.ctx) hstep hfin

theorem pipeGo_fr (H : Hyp S allow ev orc fn args ctx) :
    ∀ (es : List Expr), (∀ e ∈ es, e ∈ args) → ∀ c : Ctx, GoodCtx allow c → FR FiniteV (callBasic.go ev c es) := by
  intro es
  induction es with
  | nil => intro _ c hc; unfold callBasic.go; exact FR.val hc.fin.input
  | cons e es ih =>
    intro hsub c hc
    unfold callBasic.go
    refine FR.bind ?_
    intro v hv
    split
    · next w =>
      exact ih (fun e he => hsub e (by simp [he])) _
        (hc.withInput (H.ev e c (H.args e (hsub e (by simp))) hc w hv).1)
    · exact FR.nil

theorem mapM'_mem {α β} {f : α → Except Abort β} {l : List α} {ys : List β} (h : mapM' f l = .ok ys) :
    ∀ y ∈ ys, ∃ x ∈ l, f x = .ok y := by
  induction l generalizing ys with
  | nil => unfold mapM' at h; cases h; simp
  | cons x xs ih =>
    unfold mapM' at h
    cases hx : f x with
    | error e => simp [hx, bind, Except.bind] at h
    | ok y =>
      cases hxs : mapM' f xs with
      | error e => simp [hx, hxs, bind, Except.bind] at h
      | ok ys' =>
        simp only [hx, hxs, bind, Except.bind, Except.ok.injEq] at h
        subst h
        intro y' hy'
        simp only [List.mem_cons] at hy'
        rcases hy' with rfl | hy'
        · exact ⟨x, by simp, hx⟩
        · obtain ⟨x', hx', hf⟩ := ih hxs y' hy'
          exact ⟨x', by simp [hx'], hf⟩

/-- results of evaluating an argument once per element -/
theorem Hyp.mapSub (H : Hyp S allow ev orc fn args ctx) {α} {g : α → JV} {l : List α} {i : Nat}
    {rs : List (Option JV)} (h : mapM' (fun a => applyArg ev args (ctx.withInput (g a)) i) l = .ok rs) :
    (∀ a ∈ l, FiniteV (g a)) → ∀ r ∈ rs, ∀ v, r = some v → FiniteV v := by
  intro hl r hr v hv
  subst hv
  obtain ⟨a, ha, hf⟩ := mapM'_mem h _ hr
  exact H.app' (H.ctx.withInput (hl a ha)) i _ hf

/-- results of evaluating some of the arguments -/
theorem Hyp.mapArgs (H : Hyp S allow ev orc fn args ctx) {es : List Expr} {rs : List (Option JV)}
    (h : mapM' (fun e => ev e ctx) es = .ok rs) (hes : ∀ e ∈ es, e ∈ args) :
    ∀ r ∈ rs, ∀ v, r = some v → FiniteV v := by
  intro r hr v hv
  subst hv
  obtain ⟨e, he, hf⟩ := mapM'_mem h _ hr
  exact H.ev' (H.args e (hes e he)) H.ctx _ hf

theorem finiteKVs_insert {m : List (Str × JV)} {k : Str} {v : JV} (hm : ∀ kv ∈ m, FiniteV kv.2) (hv : FiniteV v) :
    ∀ kv ∈ objInsert m k v, FiniteV kv.2 := by
  intro kv hkv
  rcases objInsert_mem hkv with rfl | h
  · exact hv
  · exact hm kv h

theorem ofF64_finite {f : F64} (h : f.isFinite = true) : FiniteV (.num (Num.ofF64 f)) := by
  unfold Num.ofF64
  split
  · split
    · simp
    · split
      · simp
      · simpa using h
  · simpa using h

theorem jnum_finite {f : F64} (h : f.isFinite = true) : ∀ v, jnum f = some v → FiniteV v := by
  intro v hv; cases hv; exact ofF64_finite h

theorem jnumFinite_finite {f : F64} {v : JV} (h : jnumFinite f = some v) : FiniteV v := by
  unfold jnumFinite at h
  split at h
  · exact jnum_finite ‹_› v h
  · cases h

theorem foldGo_fr (H : Hyp S allow ev orc fn args ctx) {f : Expr} (hf : f ∈ args) :
    ∀ (l : List JV) (cur : Option JV) (idx : Nat), (∀ x ∈ l, FiniteV x) → (∀ w, cur = some w → FiniteV w) →
      FR FiniteV (callList.foldGo ev ctx f cur idx l) := by
  intro l
  induction l with
  | nil => intro cur idx _ hc; unfold callList.foldGo; exact FR.opt hc
  | cons v vs ih =>
    intro cur idx hl hc
    unfold callList.foldGo
    dsimp only
    refine FR.bind ?_
    intro next hnext
    refine ih _ _ (fun x hx => hl x (by simp [hx])) ?_
    intro w hw
    subst hw
    refine H.ev' (H.args f hf) (H.ctx.withInput ?_) _ hnext
    rw [finiteV_obj]
    refine finiteKVs_insert (finiteKVs_insert ?_ (hl v (by simp))) (finiteV_jusize _)
    split
    · next c => intro kv hkv; simp only [List.mem_singleton] at hkv; subst hkv; exact hc c rfl
    · intro kv hkv; cases hkv

theorem groupGo_fin : ∀ (items : List (JV × Option JV)) (groups : List (Str × List JV)) (res : List (Str × List JV)),
    (∀ it ∈ items, FiniteV it.1) → (∀ g ∈ groups, ∀ x ∈ g.2, FiniteV x) →
    callList.groupGo groups items = some res → ∀ g ∈ res, ∀ x ∈ g.2, FiniteV x := by
  intro items
  induction items with
  | nil => intro groups res _ hg h; unfold callList.groupGo at h; cases h; exact hg
  | cons it rest ih =>
    intro groups res hit hg h
    obtain ⟨item, k⟩ := it
    unfold callList.groupGo at h
    split at h
    · next key =>
      refine ih _ res (fun it h => hit it (by simp [h])) ?_ h
      have hitem : FiniteV item := hit (item, some (.str key)) (by simp)
      split
      · intro g hg' x hx
        simp only [List.mem_map] at hg'
        obtain ⟨g0, hg0, rfl⟩ := hg'
        split at hx
        · simp only [List.mem_append, List.mem_singleton] at hx
          rcases hx with hx | rfl
          · exact hg g0 hg0 x hx
          · exact hitem
        · exact hg g0 hg0 x hx
      · intro g hg' x hx
        simp only [List.mem_append, List.mem_singleton] at hg'
        rcases hg' with hg' | rfl
        · exact hg g hg' x hx
        · simp only [List.mem_singleton] at hx; subst hx; exact hitem
    · cases h

theorem lists_fin {vs : List (Option JV)} {l : List JV}
    (hl : l ∈ vs.filterMap (fun v => match v with
      | some (.arr l) => some l
      | _ => none))
    (hvs : ∀ r ∈ vs, ∀ v, r = some v → FiniteV v) : ∀ x ∈ l, FiniteV x := by
  simp only [List.mem_filterMap] at hl
  obtain ⟨r, hr, h⟩ := hl
  split at h
  · next l' => cases h; exact (finiteV_arr _).1 (hvs _ hr _ rfl)
  · cases h

theorem crossFold_fin : ∀ (ls : List (List JV × Nat)) (joined : List (List (Str × JV))),
    (∀ p ∈ ls, ∀ v ∈ p.1, FiniteV v) → (∀ o ∈ joined, ∀ kv ∈ o, FiniteV kv.2) →
    ∀ o ∈ ls.foldl (fun joined (x : List JV × Nat) =>
        x.1.flatMap (fun v => joined.map (fun sofar => objInsert sofar ('.' :: Nat.toDigits 10 x.2) v))) joined,
      ∀ kv ∈ o, FiniteV kv.2 := by
  intro ls
  induction ls with
  | nil => intro joined _ hj; exact hj
  | cons p ps ih =>
    intro joined hls hj
    simp only [List.foldl_cons]
    refine ih _ (fun q hq => hls q (by simp [hq])) ?_
    intro o ho
    simp only [List.mem_flatMap, List.mem_map] at ho
    obtain ⟨v, hv, sofar, hs, rfl⟩ := ho
    exact finiteKVs_insert (hj sofar hs) (hls p (by simp) v hv)

theorem toF64_fin {n : Num} (hf : FiniteV (.num n)) (hw : Num.WF n) :
    n.toF64.isFinite = true ∧ n.toF64.Canonical := by
  cases n with
  | pos n => exact ⟨ofNat_finite_u64 hw, roundRat_canonical _ _ _⟩
  | neg i =>
    refine ⟨ofInt_finite_i64 hw.1 hw.2, ?_⟩
    simp only [Num.toF64, F64.ofInt]
    split <;> exact roundRat_canonical _ _ _
  | flt f => exact ⟨(finiteV_flt f).1 hf, hw⟩

theorem numArg_fin {S : JV → Prop} {r : Option JV} {x : F64} (hf : ∀ v, r = some v → FiniteV v)
    (hs : ∀ v, r = some v → S v) (h5 : ∀ n, S (.num n) → Num.WF n) (h : numArg r = some x) :
    x.isFinite = true ∧ x.Canonical := by
  unfold numArg at h
  split at h
  · next n => cases h; exact toF64_fin (hf _ rfl) (h5 n (hs _ rfl))
  · cases h

theorem ask_fin {orc : Oracles} (ho : FiniteOrc orc) (fn : String) (args : List JV) :
    FR FiniteV (orc.ask fn args) := by
  unfold Oracles.ask
  dsimp only
  split
  · next ent hf =>
    exact FR.opt (fun v hv => ho _ (List.mem_of_find?_eq_some hf) v hv)
  · exact FR.err

/-! ### the JSON parser and the expression parser only produce finite literals -/

mutual
theorem pv_finite : ∀ (v : JV), Fix.PV v → FiniteV v
  | .null, _ => finiteV_null
  | .bool _, _ => finiteV_bool _
  | .str _, _ => finiteV_str _
  | .num (.pos _), _ => finiteV_pos _
  | .num (.neg _), _ => finiteV_neg _
  | .num (.flt f), h => by
    rw [Fix.PV] at h
    exact (finiteV_flt f).2 h.1.1
  | .arr vs, h => by
    rw [Fix.PV] at h; rw [FiniteV]
    exact pvList_finite vs h
  | .obj kvs, h => by
    rw [Fix.PV] at h; rw [FiniteV]
    exact pvMembers_finite kvs h.1
theorem pvList_finite : ∀ (vs : List JV), Fix.PVList vs → FiniteVs vs
  | [], _ => by rw [FiniteVs]; exact True.intro
  | v :: vs, h => by
    rw [Fix.PVList] at h; rw [FiniteVs]
    exact ⟨pv_finite v h.1, pvList_finite vs h.2⟩
theorem pvMembers_finite : ∀ (kvs : List (Str × JV)), Fix.PVMembers kvs → FiniteKVs kvs
  | [], _ => by rw [FiniteKVs]; exact True.intro
  | (k, v) :: kvs, h => by
    rw [Fix.PVMembers] at h; rw [FiniteKVs]
    exact ⟨pv_finite v h.1, pvMembers_finite kvs h.2⟩
end

/-- whatever the JSON parser returns is finite (it rejects numbers that overflow to infinity) -/
theorem nextJson_finite {r r' : Reader} {v : JV} (h : r.nextJson = (.ok (some v), r')) : FiniteV v :=
  pv_finite v (Fix.parsed_values h)

theorem allCalls_all (allow : String → Bool) (h : ∀ n, allow n = true) :
    ∀ e, NoPanic.allCalls allow e = true := by
  intro e
  induction e using Expr.rec (motive_2 := fun l => NoPanic.allCallsList allow l = true) with
  | call fn args ih => simp only [NoPanic.allCalls, Bool.and_eq_true]; exact ⟨h fn, ih⟩
  | nil => rfl
  | cons e es ihe ihes => simp only [NoPanic.allCallsList, Bool.and_eq_true]; exact ⟨ihe, ihes⟩
  | _ => rfl

/-- the expression parser reads its literals with the JSON parser -/
theorem parser_fin (fuel : Nat) : NoPanic.EP FiniteE (readGetter fuel) :=
  (NoPanic.parser_ind FiniteE (fun _ _ => by simp only [FiniteE]) (fun _ => by simp only [FiniteE])
    (fun _ => by simp only [FiniteE]) (fun _ => by simp only [FiniteE]) (fun _ => by simp only [FiniteE])
    (fun fuel r v r' h => by rw [FiniteE]; exact pv_finite v ((Fix.valuePV fuel).value r _ r' h v rfl))
    (fun _ _ args _ _ _ hargs => by rw [FiniteE, finiteEs_iff]; exact hargs) fuel).1

/-- Descend through a body: a bind records what is known about the value it binds (an evaluated
argument, the results of evaluating an argument once per element, the evaluated argument list) for
the leaves; values that are finite whatever went in are closed on the spot. -/
macro "fr_congr" H:ident : tactic => `(tactic| repeat' with_reducible first
  | exact FR.nil
  | exact FR.jbool finiteV_bool
  | exact FR.val (finiteV_str _)
  | exact FR.val (finiteV_jusize _)
  | exact FR.opt (fun v hv => jnumFinite_finite hv)
  | exact Hyp.app' $H (Hyp.ctx $H) _
  | exact ask_fin (Hyp.orc $H) _ _
  | (refine FR.bind ?_; intro x hx;
      first
      | (have hxx := Hyp.a $H hx)
      | (have hxx := Hyp.mapSub $H hx)
      | (have hxx := Hyp.mapArgs $H hx (fun _ h => List.mem_of_mem_drop h))
      | (have hxx := Hyp.mapArgs $H hx (fun _ h => h))
      | skip)
  | refine FR.val ?_
  | refine FR.opt ?_
  | split
  | dsimp only)

/-! What an evaluated argument is known to be comes as `∀ v, x = some v → FiniteV v`; the leaves say where
the members of a result come from. -/

theorem arr_mem {l : List JV} (h : ∀ v, some (JV.arr l) = some v → FiniteV v) {x : JV} (hx : x ∈ l) : FiniteV x :=
  (finiteV_arr l).1 (h _ rfl) x hx

theorem obj_mem {m : List (Str × JV)} (h : ∀ v, some (JV.obj m) = some v → FiniteV v) {kv : Str × JV}
    (hkv : kv ∈ m) : FiniteV kv.2 := (finiteV_obj m).1 (h _ rfl) kv hkv

/-- the members of the result are members of the argument -/
theorem arr_sub {l l' : List JV} (h : ∀ v, some (JV.arr l) = some v → FiniteV v) (hs : ∀ x ∈ l', x ∈ l) :
    FiniteV (.arr l') := (finiteV_arr l').2 fun x hx => arr_mem h (hs x hx)

theorem obj_sub {m m' : List (Str × JV)} (h : ∀ v, some (JV.obj m) = some v → FiniteV v) (hs : ∀ kv ∈ m', kv ∈ m) :
    FiniteV (.obj m') := (finiteV_obj m').2 fun kv hkv => obj_mem h (hs kv hkv)

theorem map_fin {α} {f : α → JV} (hf : ∀ a, FiniteV (f a)) (l : List α) : FiniteV (.arr (l.map f)) :=
  (finiteV_arr _).2 fun x hx => by obtain ⟨a, _, rfl⟩ := List.mem_map.1 hx; exact hf a

theorem somes_fin {rs : List (Option JV)} (h : ∀ r ∈ rs, ∀ v, r = some v → FiniteV v) :
    ∀ x ∈ rs.filterMap id, FiniteV x := fun x hx => by
  obtain ⟨r, hr, hrx⟩ := List.mem_filterMap.1 hx
  exact h r hr x hrx

theorem insert_fin {m : List (Str × JV)} {k : Str} {v : JV} (hm : ∀ w, some (JV.obj m) = some w → FiniteV w)
    (hv : ∀ w, some v = some w → FiniteV w) : FiniteV (.obj (objInsert m k v)) :=
  (finiteV_obj _).2 (finiteKVs_insert (fun _ => obj_mem hm) (hv v rfl))

theorem pair_fin {k k' : Str} {v w : JV} (hv : FiniteV v) (hw : FiniteV w) : FiniteV (.obj [(k, v), (k', w)]) :=
  (finiteV_obj _).2 fun kv hkv => by
    rcases List.mem_cons.1 hkv with rfl | hkv
    · exact hv
    · cases List.mem_singleton.1 hkv; exact hw

/-- the elements kept by a list of flags -/
theorem mem_zipFilter {α} {l : List α} {ks : List Bool} {x : α}
    (h : x ∈ (l.zip ks).filterMap (fun p => if p.2 then some p.1 else none)) : x ∈ l := by
  obtain ⟨p, hp, hx⟩ := List.mem_filterMap.1 h
  split at hx
  · cases hx; exact (List.of_mem_zip hp).1
  · cases hx

/-- sorting by computed keys permutes the elements -/
theorem mem_sortZip {α β : Type} {cmp : α × β → α × β → Ordering} {l : List α} {ks : List β} {x : α}
    (h : x ∈ (stableSortBy cmp (l.zip ks)).map (·.1)) : x ∈ l := by
  obtain ⟨p, hp, rfl⟩ := List.mem_map.1 h
  exact (List.of_mem_zip ((SortFns.stableSortBy_perm' _ _).mem_iff.1 hp)).1

/-- a unary function of a number whose result goes through `From<f64>`: finite where the function
keeps binary64 values finite -/
theorem unary_fin (H : Hyp S allow ev orc fn args ctx) (hfn : fn ∈ unguarded) {g : F64 → F64}
    (hg : ∀ x : F64, x.Canonical → x.isFinite = true → (g x).isFinite = true) :
    FR FiniteV (do
      match numArg (← applyArg ev args ctx 0) with
      | some x => .ok (jnum (g x))
      | none => .ok none) := by
  refine FR.bind (fun r0 h0 => ?_)
  split
  · next x hx =>
    obtain ⟨fx, cx⟩ := numArg_fin (H.a h0) (H.aS h0) (H.five hfn) hx
    exact FR.opt (jnum_finite (hg x cx fx))
  · exact FR.nil

theorem callBasic_fin (H : Hyp S allow ev orc fn args ctx) :
    ∀ r, callBasic ev fn args ctx = some r → FR FiniteV r := by
  intro r h
  unfold callBasic at h
  split at h
  all_goals first | cases h | skip
  all_goals try dsimp only
  case h_7 => -- `default`: the first value
    exact H.foldArgs _ (fun s v r hv hs => by
      intro w hw; subst hw; split at hs <;> cases hs; exact (hv _ rfl).1) (fun _ _ h => by cases h)
  case h_15 => -- `and`
    exact H.foldArgs _ (fun s v r hv hs => by
      intro w hw; subst hw; split at hs <;> cases hs; simp) (fun _ _ h => by cases h; simp)
  case h_16 => -- `or`
    exact H.foldArgs _ (fun s v r hv hs => by
      intro w hw; subst hw; split at hs <;> cases hs; simp) (fun _ _ h => by cases h; simp)
  case h_8 => -- `|`
    exact pipeGo_fr H _ (fun _ h => h) _ (H.ctx.withInput H.ctx.fin.input)
  case h_31 => -- `:`
    refine FR.bind (fun _ _ => ?_)
    split
    · exact FR.opt (fun v hv => H.ctx.getVariable hv)
    · exact FR.nil
  case h_32 => -- `@`
    refine FR.bind (fun _ _ => ?_)
    split
    · split
      · exact H.ev' (H.ctx.getDefinition ‹_›) H.ctx
      · exact FR.nil
    · exact FR.nil
  case h_33 => -- `set`
    refine FR.bind (fun _ _ => FR.bind (fun _ h1 => ?_))
    split
    · exact H.app' (H.ctx.withVariable _ (H.a h1 _ rfl)) _
    · exact FR.nil
  case h_34 => -- `define`
    refine FR.bind (fun _ _ => ?_)
    split
    · exact H.app' (H.ctx.withDefinition _ (H.args _ (List.mem_of_getElem? ‹_›))) _
    · exact FR.nil
  case h_1 => -- `get`: a member
    fr_congr H
    · exact fun _ hv => obj_mem ‹_› (objGet?_mem hv)
    · exact fun _ hv => arr_mem ‹_› (List.mem_of_getElem? hv)
  case h_3 => -- `take`: a prefix
    fr_congr H
    · exact obj_sub ‹_› fun _ => List.mem_of_mem_take
    · exact arr_sub ‹_› fun _ => List.mem_of_mem_take
  case h_4 => -- `take_last`: a suffix
    fr_congr H
    · exact obj_sub ‹_› fun _ => List.mem_of_mem_drop
    · exact arr_sub ‹_› fun _ => List.mem_of_mem_drop
  case h_5 => -- `sub`: a segment
    fr_congr H
    · exact obj_sub ‹_› fun _ h => List.mem_of_mem_drop (List.mem_of_mem_take h)
    · exact arr_sub ‹_› fun _ h => List.mem_of_mem_drop (List.mem_of_mem_take h)
  case h_19 | h_20 | h_21 | h_22 => -- `as_array` … `as_object`: the argument itself
    fr_congr H
    exact ‹∀ v, some _ = some v → FiniteV v› _ rfl
  all_goals fr_congr H

theorem callList_fin (H : Hyp S allow ev orc fn args ctx) :
    ∀ r, callList ev fn args ctx = some r → FR FiniteV r := by
  intro r h
  unfold callList at h
  split at h
  all_goals first | cases h | skip
  all_goals try dsimp only
  case h_3 => -- `flat_map`: members of the results that are arrays
    fr_congr H
    refine (finiteV_arr _).2 fun y hy => ?_
    obtain ⟨r, hr, hy⟩ := List.mem_flatMap.1 hy
    have hr' := ‹_ → ∀ r ∈ _, _› (fun _ => arr_mem ‹_›) r hr
    split at hy
    · exact arr_mem hr' hy
    · cases hy
  case h_4 => -- `fold`: the accumulator is the initial value or a result
    refine FR.bind ?_; intro x hx; have h0 := H.a hx
    split
    · next l =>
      have hl := (finiteV_arr _).1 (h0 _ rfl)
      refine FR.bind ?_; intro init hinit
      have hi : ∀ w, init = some w → FiniteV w := by
        split at hinit
        · exact H.a hinit
        · cases hinit; intro w hw; cases hw
      split
      · exact FR.nil
      · next f hf => exact foldGo_fr H (by split at hf <;> exact List.mem_of_getElem? hf) l _ _ hl hi
    · exact FR.nil
  case h_5 => -- `group_by`: every group is made of elements
    fr_congr H
    exact (finiteV_obj _).2 fun kv hkv => by
      obtain ⟨g, hg, rfl⟩ := List.mem_map.1 hkv
      exact (finiteV_arr _).2 (groupGo_fin _ [] _ (fun it hit => arr_mem ‹_› (List.of_mem_zip hit).1)
        (fun g hg => by cases hg) ‹_› g hg)
  case h_12 => -- `sum`: through `from_finite`
    fr_congr H
    exact fun v hv => by obtain ⟨f, _, hf⟩ := Option.bind_eq_some_iff.1 hv; exact jnumFinite_finite hf
  case h_13 => -- `indexed`: an element and its position
    fr_congr H
    exact (finiteV_arr _).2 fun y hy => by
      obtain ⟨p, hp, rfl⟩ := List.mem_map.1 hy
      exact pair_fin (arr_mem ‹_› (List.fst_mem_of_mem_zipIdx hp)) (finiteV_jusize _)
  case h_22 => -- `zip`: members of the argument lists under their positions
    fr_congr H
    exact map_fin (fun idx => (finiteV_obj _).2 fun kv hkv => by
      obtain ⟨p, hp, hv⟩ := List.mem_filterMap.1 (objOfList_mem hkv)
      obtain ⟨v, hpv, rfl⟩ := Option.map_eq_some_iff.1 hv
      exact lists_fin (List.fst_mem_of_mem_zipIdx hp) ‹_› v (List.mem_of_getElem? hpv)) _
  case h_23 => -- `cross`: members of the argument lists, inserted into the empty object
    fr_congr H
    exact (finiteV_arr _).2 fun y hy => by
      obtain ⟨o, ho, rfl⟩ := List.mem_map.1 hy
      exact (finiteV_obj _).2 (crossFold_fin _ _ (fun p hp => lists_fin (List.fst_mem_of_mem_zipIdx hp) ‹_›)
        (fun o ho kv hkv => by cases List.mem_singleton.1 ho; cases hkv) o ho)
  case h_1 => -- `filter`: the elements kept
    fr_congr H
    exact arr_sub ‹_› fun _ => mem_zipFilter
  case h_2 => -- `map`: the results
    fr_congr H
    exact (finiteV_arr _).2 (somes_fin (‹_ → ∀ r ∈ _, _› fun _ => arr_mem ‹_›))
  case h_6 => -- `sort_by`
    fr_congr H
    exact arr_sub ‹_› fun _ => mem_sortZip
  case h_9 => -- `first`
    fr_congr H
    exact fun _ hv => arr_mem ‹_› (List.mem_of_mem_head? hv)
  case h_10 => -- `last`
    fr_congr H
    exact fun _ hv => arr_mem ‹_› (List.mem_of_getLast? hv)
  case h_11 => -- `join`: a string
    fr_congr H
    exact fun v hv => by obtain ⟨s, _, rfl⟩ := Option.map_eq_some_iff.1 hv; exact finiteV_str s
  case h_14 => -- `pop`
    fr_congr H
    exact arr_sub ‹_› fun _ h => List.dropLast_subset _ h
  case h_15 => -- `pop_first`
    fr_congr H
    exact arr_sub ‹_› fun _ => List.mem_of_mem_drop
  case h_16 => -- `push`: the elements, then the values of the other arguments
    fr_congr H
    exact (finiteV_arr _).2 fun x hx => (List.mem_append.1 hx).elim (arr_mem ‹_›) (somes_fin ‹_› x)
  case h_17 => -- `push_front`
    fr_congr H
    exact (finiteV_arr _).2 fun x hx =>
      (List.mem_append.1 hx).elim (fun h => somes_fin ‹_› x (List.mem_reverse.1 h)) (arr_mem ‹_›)
  case h_18 => -- `reverese`
    fr_congr H
    exact arr_sub ‹_› fun _ h => List.mem_reverse.1 h
  case h_19 => -- `sort`: a permutation
    fr_congr H
    exact arr_sub ‹_› fun _ h => (SortFns.stableSortBy_perm' _ _).mem_iff.1 h
  case h_20 => -- `sort_unique`
    fr_congr H
    exact arr_sub ‹_› fun _ h => (SortFns.stableSortBy_perm' _ _).mem_iff.1 ((SortFns.dedupBy_sublist _ _).subset h)
  case h_21 => -- `range`: fresh integers
    fr_congr H
    exact map_fin finiteV_jusize _
  all_goals fr_congr H

theorem callObject_fin (H : Hyp S allow ev orc fn args ctx) :
    ∀ r, callObject ev fn args ctx = some r → FR FiniteV r := by
  intro r h
  unfold callObject at h
  split at h
  all_goals first | cases h | skip
  all_goals try dsimp only
  case h_3 => -- `map_keys`: the values of the argument under new keys
    fr_congr H
    exact (finiteV_obj _).2 fun kv hkv => by
      obtain ⟨p, hp, hk⟩ := List.mem_filterMap.1 (objOfList_mem hkv)
      split at hk <;> cases hk
      exact obj_mem (kv := p.1) ‹_› (List.of_mem_zip hp).1
  case h_4 => -- `map_values`: the results
    fr_congr H
    exact (finiteV_obj _).2 fun kv hkv => by
      obtain ⟨p, hp, hv⟩ := List.mem_filterMap.1 hkv
      obtain ⟨v, hpv, rfl⟩ := Option.map_eq_some_iff.1 hv
      have hr := ‹_ → ∀ r ∈ _, _› (fun _ => obj_mem ‹_›) _ (List.of_mem_zip hp).2
      exact hr v hpv
  case h_8 => -- `entries`: a value and its key
    fr_congr H
    exact (finiteV_arr _).2 fun y hy => by
      obtain ⟨p, hp, rfl⟩ := List.mem_map.1 hy
      exact pair_fin (obj_mem ‹_› hp) (finiteV_str _)
  case h_1 | h_2 => -- `filter_keys`, `filter_values`: the members kept
    fr_congr H
    exact obj_sub ‹_› fun _ => mem_zipFilter
  case h_5 => -- `insert_if_absent`
    fr_congr H
    · exact ‹∀ v, some (JV.obj _) = some v → FiniteV v› _ rfl
    · exact insert_fin ‹_› ‹_›
  case h_6 => -- `put`
    fr_congr H
    exact insert_fin ‹_› ‹_›
  case h_7 => -- `replace_if_exists`
    fr_congr H
    · exact insert_fin ‹_› ‹_›
    · exact ‹∀ v, some (JV.obj _) = some v → FiniteV v› _ rfl
  case h_9 => -- `keys`: strings
    fr_congr H
    exact map_fin (fun kv : Str × JV => finiteV_str kv.1) _
  case h_10 => -- `values`
    fr_congr H
    exact (finiteV_arr _).2 fun x hx => by obtain ⟨kv, hkv, rfl⟩ := List.mem_map.1 hx; exact obj_mem ‹_› hkv
  case h_11 | h_12 => -- `sort_by_keys`, `sort_by_values`: a permutation
    fr_congr H
    exact obj_sub ‹_› fun _ h => (SortFns.stableSortBy_perm' _ _).mem_iff.1 h
  case h_13 => -- `sort_by_values_by`
    fr_congr H
    exact obj_sub ‹_› fun _ => mem_sortZip
  all_goals fr_congr H

theorem callNumber_fin (H : Hyp S allow ev orc fn args ctx) :
    ∀ r, callNumber ev fn args ctx = some r → FR FiniteV r := by
  intro r h
  unfold callNumber at h
  split at h
  all_goals first | cases h | skip
  all_goals try dsimp only
  case h_1 => -- `+`
    exact H.foldArgs _ (fun s v r hv hs => by
      intro w hw; subst hw; split at hs <;> cases hs) (fun _ _ h => jnumFinite_finite h)
  case h_2 => -- `*`
    exact H.foldArgs _ (fun s v r hv hs => by
      intro w hw; subst hw; split at hs <;> cases hs) (fun _ _ h => jnumFinite_finite h)
  case h_5 => -- `%`
    have h5 := H.five (by decide)
    refine FR.bind ?_; intro r0 h0; refine FR.bind ?_; intro r1 h1
    split
    · next x y hx hy =>
      obtain ⟨fx, cx⟩ := numArg_fin (H.a h0) (H.aS h0) h5 hx
      obtain ⟨fy, cy⟩ := numArg_fin (H.a h1) (H.aS h1) h5 hy
      split
      · exact FR.nil
      · next hz => exact FR.opt (jnum_finite (rem_finite cx fx fy (by simpa using hz)))
    · exact FR.nil
  -- `abs`, `ceil`, `floor`, `round`
  case h_6 => exact unary_fin H (by decide) (fun _ _ h => abs_finite h)
  case h_7 => exact unary_fin H (by decide) (fun _ c h => ceil_finite c h)
  case h_8 => exact unary_fin H (by decide) (fun _ c h => floor_finite c h)
  case h_9 => exact unary_fin H (by decide) (fun _ c h => round_finite c h)
  all_goals fr_congr H

theorem callString_fin (H : Hyp S allow ev orc fn args ctx) :
    ∀ r, callString ev orc fn args ctx = some r → FR FiniteV r := by
  intro r h
  unfold callString at h
  split at h
  all_goals first | cases h | skip
  all_goals try dsimp only
  case h_1 => -- `concat`
    exact H.foldArgs _ (fun s v r hv hs => by
      intro w hw; subst hw; split at hs <;> cases hs) (fun _ _ h => by cases h; exact finiteV_str _)
  case h_5 => -- `parse`: what the JSON parser returns
    refine FR.bind (fun _ _ => ?_)
    split
    · split
      · split
        · exact FR.val (nextJson_finite ‹_›)
        · exact FR.nil
      · exact FR.nil
    · exact FR.nil
  case h_7 => -- `parse_selection`: the parsed expression has finite literals
    refine FR.bind (fun _ _ => ?_)
    split
    · split
      · next e he =>
        exact H.ev' ⟨(NoPanic.selection_ep (parser_fin _)).fst he, allCalls_all allow (H.parsed rfl) e⟩ H.ctx
      · exact FR.nil
    · exact FR.nil
  case h_4 => -- `split`: strings
    fr_congr H
    exact map_fin finiteV_str _
  all_goals fr_congr H

theorem callNas_fin (H : Hyp S allow ev orc fn args ctx) :
    ∀ r, callNas ev orc fn args ctx = some r → FR FiniteV r := by
  intro r h
  unfold callNas at h
  split at h
  all_goals first | cases h | skip
  all_goals try dsimp only
  case h_1 => -- `"+"`
    exact H.foldArgs _ (fun s v r hv hs => by
      intro w hw; subst hw; split at hs <;> cases hs) (fun _ _ h => by cases h; exact finiteV_str _)
  case h_2 => -- `"*"`
    exact H.foldArgs _ (fun s v r hv hs => by
      intro w hw; subst hw; split at hs <;> cases hs) (fun _ _ h => by cases h; exact finiteV_str _)
  case h_15 => -- `"sort_by"`
    fr_congr H
    exact arr_sub ‹_› fun _ => mem_sortZip
  all_goals fr_congr H

/-- **Every function body preserves finiteness.** -/
theorem callFn_fin (H : Hyp S allow ev orc fn args ctx) : FR FiniteV (callFn ev orc fn args ctx) := by
  unfold callFn
  split; · exact callBasic_fin H _ ‹_›
  split; · exact callList_fin H _ ‹_›
  split; · exact callObject_fin H _ ‹_›
  split; · exact callNumber_fin H _ ‹_›
  split; · exact callString_fin H _ ‹_›
  split; · exact callNas_fin H _ ‹_›
  exact FR.err
end

/-! ## The evaluator -/

/-- one node of `eval`, with the evaluator for the sub-expressions as a parameter -/
def evalNode (ev : Ev) (orc : Oracles) (e : Expr) (ctx : Ctx) : R :=
  match e with
  | .extract parents steps => .ok (extractSteps steps (ctx.parentInput parents))
  | .const v => .ok (some v)
  | .var n => .ok (ctx.getVariable n)
  | .macro n =>
    match ctx.getDefinition n with
    | some d => ev d ctx
    | none => .ok none
  | .selected n => .ok (ctx.getSelected n)
  | .ictx k => .ok (ctx.ictx.bind k.get)
  | .call fn args => callFn ev orc fn args ctx

theorem eval_succ (orc : Oracles) (fuel : Nat) (e : Expr) (ctx : Ctx) :
    eval orc (fuel + 1) e ctx = evalNode (eval orc fuel) orc e ctx := by
  cases e <;> rfl

theorem extract_fin {s : Jawk.Step} {v w : JV} (hv : FiniteV v) (h : SingleStep.extract s v = some w) : FiniteV w := by
  unfold SingleStep.extract at h
  split at h
  · exact (finiteV_arr _).1 hv w (List.mem_of_getElem? h)
  · exact (finiteV_obj _).1 hv _ (objGet?_mem h)
  · cases h

theorem extractSteps_fin (steps : List Jawk.Step) {v : JV} (hv : FiniteV v) :
    ∀ w, extractSteps steps v = some w → FiniteV w := by
  unfold extractSteps
  generalize hacc : some v = acc
  have hacc' : ∀ w, acc = some w → FiniteV w := by intro w hw; subst hacc; cases hw; exact hv
  clear hacc hv
  induction steps generalizing acc with
  | nil => exact hacc'
  | cons s ss ih =>
    simp only [List.foldl_cons]
    apply ih
    intro w hw
    split at hw
    · cases hw
    · next x => exact extract_fin (hacc' x rfl) hw

theorem parentInput_fin {c : Ctx} (hc : FiniteCtx c) (n : Nat) : FiniteV (c.parentInput n) := by
  unfold Ctx.parentInput
  split
  · exact hc.input
  · cases h : c.parents[n - 1]? with
    | none => exact hc.input
    | some v => exact hc.parents v (List.mem_of_getElem? h)

theorem getSelected_fin {c : Ctx} (hc : FiniteCtx c) (n : Str) : ∀ v, c.getSelected n = some v → FiniteV v := by
  intro v hv
  unfold Ctx.getSelected at hv
  split at hv
  · next r hr => exact hc.results _ (Ctx.lookup_mem hr) v hv
  · cases hv

theorem ictx_fin (k : ICtxKind) (ic : Option InputCtx) : ∀ v, ic.bind k.get = some v → FiniteV v := by
  intro v hv
  cases ic with
  | none => cases hv
  | some ic =>
    simp only [Option.bind_some] at hv
    cases k <;> simp only [ICtxKind.get, Option.some.injEq, Option.map_eq_some_iff] at hv
    all_goals first
      | (subst hv; exact finiteV_pos _)
      | (obtain ⟨_, _, rfl⟩ := hv; exact finiteV_str _)

theorem goodEs_of_call {allow : String → Bool} {fn : String} {args : List Expr} (h : GoodE allow (.call fn args)) :
    allow fn = true ∧ ∀ e ∈ args, GoodE allow e := by
  obtain ⟨h1, h2⟩ := h
  rw [FiniteE, finiteEs_iff] at h1
  simp only [NoPanic.allCalls, Bool.and_eq_true] at h2
  exact ⟨h2.1, fun e he => ⟨h1 e he, (NoPanic.allCallsList_iff allow args).1 h2.2 e he⟩⟩

/-- **One node.**  If the evaluator for the sub-expressions returns finite values satisfying `S`, the node
returns a finite value.  `S` has to say that a number fits the machine types for the five functions
`unguarded`; `parse_selection` needs every function name allowed. -/
theorem evalNode_fin {S : JV → Prop} {allow : String → Bool} {ev : Ev} {orc : Oracles}
    (hev : ∀ e c, GoodE allow e → GoodCtx allow c → FR (fun v => FiniteV v ∧ S v) (ev e c))
    (hpar : allow "parse_selection" = true → ∀ n, allow n = true)
    (h5 : ∀ fn, fn ∈ unguarded → allow fn = true → ∀ n, S (.num n) → Num.WF n)
    (ho : FiniteOrc orc) {e : Expr} {ctx : Ctx} (he : GoodE allow e) (hc : GoodCtx allow ctx) :
    FR FiniteV (evalNode ev orc e ctx) := by
  cases e with
  | extract parents steps => exact FR.opt (extractSteps_fin steps (parentInput_fin hc.fin parents))
  | const v => exact FR.val (by have := he.1; rwa [FiniteE] at this)
  | var n => exact FR.opt (fun v hv => hc.getVariable hv)
  | «macro» n =>
    simp only [evalNode]
    split
    · next d hd => exact (hev d ctx (hc.getDefinition hd) hc).mono (fun _ h => h.1)
    · exact FR.nil
  | selected n => exact FR.opt (getSelected_fin hc.fin n)
  | ictx k => exact FR.opt (ictx_fin k ctx.ictx)
  | call fn args =>
    obtain ⟨hfn, hargs⟩ := goodEs_of_call he
    exact callFn_fin ⟨hc, hargs, hev, fun h => hpar (h ▸ hfn), ho, fun h => h5 fn h hfn⟩

/-! ### Numbers that fit the machine types -/

instance : DecidablePred Num.WF := fun n => by
  cases n <;> unfold Num.WF <;> infer_instance

/-- the value, if it is a number, is a Rust `NumberValue`: a `u64`, an `i64`, or a binary64 in canonical form -/
def fits : JV → Bool
  | .num n => decide (Num.WF n)
  | _ => true

/-- abort (as a capacity overflow) when a returned number does not fit -/
def guardFits (r : R) : R :=
  match r with
  | .ok (some v) => if fits v then .ok (some v) else .error .overflow
  | r => r

/-- `eval` on a machine with 64-bit integers: the same evaluator, aborting as soon as an evaluation returns
a number that Rust's `NumberValue` cannot hold (the model's `.pos n` is an unbounded natural number and its
lists have unbounded length; jawk's `u64`/`usize` are not) -/
def evalRep (orc : Oracles) : Nat → Expr → Ctx → R
  | 0, _, _ => .error .overflow
  | fuel + 1, e, ctx => guardFits (evalNode (evalRep orc fuel) orc e ctx)

theorem guardFits_le {r r' : R} (h : Subst.Le r r') : Subst.Le (guardFits r) r' := by
  rcases h with h | h
  · subst h; exact Or.inl rfl
  · subst h
    unfold guardFits
    split
    · split
      · exact Or.inr rfl
      · exact Or.inl rfl
    · exact Or.inr rfl

/-- the two evaluators agree unless `evalRep` stops -/
theorem evalRep_le (orc : Oracles) : ∀ (fuel : Nat) (e : Expr) (ctx : Ctx),
    Subst.Le (evalRep orc fuel e ctx) (eval orc fuel e ctx) := by
  intro fuel
  induction fuel with
  | zero => intro e ctx; exact Or.inl rfl
  | succ fuel ih =>
    intro e ctx
    rw [eval_succ]
    unfold evalRep
    apply guardFits_le
    cases e with
    | «macro» n =>
      simp only [evalNode]
      split
      · exact ih _ _
      · exact Subst.Le.refl _
    | call fn args => exact Subst.callFn_le (Subst.Hyp.of_ev_le ih fn args ctx)
    | _ => exact Subst.Le.refl _

theorem evalRep_eq (orc : Oracles) {fuel : Nat} {e : Expr} {ctx : Ctx}
    (h : evalRep orc fuel e ctx ≠ .error .overflow) : evalRep orc fuel e ctx = eval orc fuel e ctx :=
  ((evalRep_le orc fuel e ctx).eq_of_ne h).symm

theorem guardFits_fr {P : JV → Prop} {r : R} (h : FR P r) : FR (fun v => P v ∧ fits v = true) (guardFits r) := by
  intro v hv
  unfold guardFits at hv
  split at hv
  · next w =>
    split at hv
    · next hf => cases hv; exact ⟨h _ rfl, hf⟩
    · cases hv
  · next hne => exact absurd hv (hne v)

theorem goodE_all {e : Expr} (h : FiniteE e) : GoodE (fun _ => true) e := ⟨h, allCalls_all _ (fun _ => rfl) e⟩
theorem goodCtx_all {c : Ctx} (h : FiniteCtx c) : GoodCtx (fun _ => true) c :=
  ⟨h, fun nd _ => allCalls_all _ (fun _ => rfl) nd.2⟩

/-- the 64-bit evaluator only returns finite values that fit -/
theorem evalRep_fin (orc : Oracles) (ho : FiniteOrc orc) : ∀ (fuel : Nat) (e : Expr) (ctx : Ctx),
    GoodE (fun _ => true) e → GoodCtx (fun _ => true) ctx →
    FR (fun v => FiniteV v ∧ fits v = true) (evalRep orc fuel e ctx) := by
  intro fuel
  induction fuel with
  | zero => intro e ctx _ _; exact FR.err
  | succ fuel ih =>
    intro e ctx he hc
    unfold evalRep
    apply guardFits_fr
    exact evalNode_fin ih (fun _ _ => rfl) (fun fn _ _ n hn => of_decide_eq_true hn) ho he hc

/-! ## Statements -/

/-- the 64-bit evaluator: whatever it returns is finite, and `eval` returns the same -/
theorem evalRep_finite (orc : Oracles) (fuel : Nat) (e : Expr) (ctx : Ctx) (v : JV)
    (ho : FiniteOrc orc) (he : FiniteE e) (hc : FiniteCtx ctx)
    (h : evalRep orc fuel e ctx = .ok (some v)) :
    FiniteV v ∧ eval orc fuel e ctx = .ok (some v) :=
  ⟨(evalRep_fin orc ho fuel e ctx (goodE_all he) (goodCtx_all hc) v h).1, (evalRep_le orc fuel e ctx).ok h⟩

/-- **MAIN**: evaluation preserves finiteness — whatever an expression evaluates to can be printed as JSON.
Added hypothesis `hrep`: no sub-evaluation returned a number outside `u64` / `i64` / binary64 (`evalRep` is
`eval` with that check; they agree unless the check fails, `evalRep_eq`).  Without it the statement is false
in the model, see `eval_finite_false`. -/
theorem eval_finite (orc : Oracles) (fuel : Nat) (e : Expr) (ctx : Ctx) (v : JV)
    (ho : FiniteOrc orc) (he : FiniteE e) (hc : FiniteCtx ctx)
    (hrep : evalRep orc fuel e ctx ≠ .error .overflow)
    (h : eval orc fuel e ctx = .ok (some v)) : FiniteV v :=
  (evalRep_finite orc fuel e ctx v ho he hc (by rw [evalRep_eq orc hrep]; exact h)).1

/-- function names whose result is guarded by `from_finite` or is not computed from `f64` at all, and not
`parse_selection` (which can reach any function at run time) -/
def guardedOnly (n : String) : Bool := !unguarded.contains n && n != "parse_selection"

/-- every function name in `e` is in `guardedOnly` -/
def GuardedOnly (e : Expr) : Prop := NoPanic.allCalls guardedOnly e = true
instance (e : Expr) : Decidable (GuardedOnly e) := inferInstanceAs (Decidable (_ = true))

/-- `∧ True`: the instance `S := fun _ => True` of `evalNode_fin` -/
theorem eval_fin_guarded (orc : Oracles) (ho : FiniteOrc orc) : ∀ (fuel : Nat) (e : Expr) (ctx : Ctx),
    GoodE guardedOnly e → GoodCtx guardedOnly ctx → FR (fun v => FiniteV v ∧ True) (eval orc fuel e ctx) := by
  intro fuel
  induction fuel with
  | zero => intro e ctx _ _; exact FR.err
  | succ fuel ih =>
    intro e ctx he hc
    rw [eval_succ]
    refine (evalNode_fin ih ?_ ?_ ho he hc).mono (fun v h => ⟨h, trivial⟩)
    · intro h; exact absurd h (by decide)
    · intro fn hfn hal
      simp only [guardedOnly, Bool.and_eq_true, Bool.not_eq_true', List.contains_eq_mem,
        decide_eq_false_iff_not] at hal
      exact absurd hfn hal.1

/-- **Unconditional part**: without `%`, `abs`, `ceil`, `floor`, `round` (and `parse_selection`) in the expression
and in the macro bodies, evaluation preserves finiteness with no further hypothesis — every other arithmetic
result goes through `from_finite`. -/
theorem eval_finite_partial (orc : Oracles) (fuel : Nat) (e : Expr) (ctx : Ctx) (v : JV)
    (ho : FiniteOrc orc) (he : FiniteE e) (hc : FiniteCtx ctx)
    (hg : GuardedOnly e) (hd : ∀ nd ∈ ctx.defs, GuardedOnly nd.2)
    (h : eval orc fuel e ctx = .ok (some v)) : FiniteV v :=
  (eval_fin_guarded orc ho fuel e ctx ⟨he, hg⟩ ⟨hc, hd⟩ v h).1

/-! ## Corollaries -/

/-- a selection stage keeps the row finite: the context handed to the next stage and the row it builds -/
theorem withResult_finite {c : Ctx} (hc : FiniteCtx c) (name : Str) {r : Option JV}
    (hr : ∀ v, r = some v → FiniteV v) : FiniteCtx (c.withResult name r) := by
  refine ⟨hc.input, hc.parents, hc.vars, ?_, hc.defs⟩
  intro tr htr
  simp only [Ctx.withResult, List.mem_append, List.mem_singleton] at htr
  rcases htr with htr | rfl
  · exact hc.results tr htr
  · exact hr

theorem build_finite {c : Ctx} (hc : FiniteCtx c) : FiniteV c.build := by
  unfold Ctx.build
  split
  · exact hc.input
  · rw [finiteV_obj]
    have key : ∀ (rs : List (Str × Option JV)) (acc : List (Str × JV)),
        (∀ tr ∈ rs, ∀ v, tr.2 = some v → FiniteV v) → (∀ kv ∈ acc, FiniteV kv.2) →
        ∀ kv ∈ rs.foldl (fun acc (x : Str × Option JV) => match x.2 with
          | some v => objInsert acc x.1 v
          | none => acc) acc, FiniteV kv.2 := by
      intro rs
      induction rs with
      | nil => intro acc _ ha; exact ha
      | cons x xs ih =>
        intro acc hrs ha
        simp only [List.foldl_cons]
        refine ih _ (fun tr h => hrs tr (by simp [h])) ?_
        split
        · next v hv => exact finiteKVs_insert ha (hrs x (by simp) v hv)
        · exact ha
    exact key c.results [] hc.results (fun kv h => by cases h)

/-- **Selected rows are finite.**  For a selection stage (`process` on `.select name e`: the row goes on as
`ctx.withResult name r` with `r` the value of `e`), a finite row stays finite, and so is the value
`Ctx.build` that the JSON sink prints for it. -/
theorem selected_rows_finite (orc : Oracles) (e : Expr) (ctx : Ctx) (name : Str) (r : Option JV)
    (ho : FiniteOrc orc) (he : FiniteE e) (hc : FiniteCtx ctx)
    (hrep : evalRep orc evalFuel e ctx ≠ .error .overflow)
    (h : eval orc evalFuel e ctx = .ok r) :
    FiniteCtx (ctx.withResult name r) ∧ FiniteV (ctx.withResult name r).build := by
  have hr : ∀ v, r = some v → FiniteV v := by
    intro v hv; subst hv; exact eval_finite orc evalFuel e ctx v ho he hc hrep h
  exact ⟨withResult_finite hc name hr, build_finite (withResult_finite hc name hr)⟩

/-! ## Counter-examples: why `hrep` is there -/

/-- `(abs (size .))` on an array is the absolute value of its length as a double -/
theorem abs_size_eval (l : List JV) :
    eval {} 3 (.call "abs" [.call "size" [.extract 0 []]]) { input := .arr l } =
      .ok (jnum (F64.ofNat l.length).abs) := by
  rfl

theorem ofNat_two1024 : F64.ofNat (2 ^ 1024) = .inf false := by decide +kernel

/-- **The statement without `hrep` is false in the model.**  The model's lists have unbounded length and
`size` returns the unbounded `.pos len`; an array of `2^1024` nulls is a finite input, yet `(abs (size .))`
evaluates to `inf` on it.  (No such array fits a machine: this is a gap between the model's `Nat` and Rust's
`usize`, not a behaviour of jawk.) -/
theorem eval_finite_false :
    ∃ (orc : Oracles) (fuel : Nat) (e : Expr) (ctx : Ctx) (v : JV),
      FiniteOrc orc ∧ FiniteE e ∧ FiniteCtx ctx ∧ eval orc fuel e ctx = .ok (some v) ∧ ¬ FiniteV v := by
  refine ⟨{}, 3, .call "abs" [.call "size" [.extract 0 []]],
    { input := .arr (List.replicate (2 ^ 1024) .null) }, .num (.flt (.inf false)), ?_, ?_, ?_, ?_, ?_⟩
  · intro ent h; cases h
  · simp [FiniteE, FiniteEs]
  · refine ⟨?_, ?_, ?_, ?_, ?_⟩
    · rw [finiteV_arr]; intro x hx; rw [List.eq_of_mem_replicate hx]; exact finiteV_null
    all_goals (intro x h; cases h)
  · rw [abs_size_eval, List.length_replicate, ofNat_two1024]; rfl
  · simp [F64.isFinite]

/-! ### Boolean observers for kernel-evaluated tests (`JV` has no decidable equality) -/

def returnsFlt (f : F64) : R → Bool
  | .ok (some (.num (.flt g))) => decide (g = f)
  | _ => false
def isOverflow : R → Bool
  | .error .overflow => true
  | _ => false
theorem returnsFlt_eq {f : F64} {r : R} (h : returnsFlt f r = true) : r = .ok (some (.num (.flt f))) := by
  unfold returnsFlt at h
  split at h
  · simp only [decide_eq_true_eq] at h; rw [h]
  · cases h
theorem not_overflow {r : R} (h : isOverflow r = false) : r ≠ .error .overflow := by
  intro e; rw [e] at h; cases h

/-- the same with a literal: the model's `.pos n` is not bounded by `2^64` (the parser never builds such a
literal; `FiniteE` allows it) … -/
theorem abs_big_literal :
    eval {} 2 (.call "abs" [.const (.num (.pos (2 ^ 1024)))]) {} = .ok (some (.num (.flt (.inf false)))) :=
  returnsFlt_eq (by decide +kernel)
/-- … and `evalRep` stops there -/
example : isOverflow (evalRep {} 2 (.call "abs" [.const (.num (.pos (2 ^ 1024)))]) {}) = true := by decide +kernel
/-- a double that is not in canonical form (not a binary64) is `isFinite` in the model, and `floor` of it is not -/
theorem floor_noncanonical :
    eval {} 2 (.call "floor" [.const (.num (.flt (.fin false (2 ^ 1100 + 1) (-1))))]) {} =
      .ok (some (.num (.flt (.inf false)))) :=
  returnsFlt_eq (by decide +kernel)

/-! ## Tests (kernel evaluation through the model's expression parser) -/

/-- evaluate the text of an expression on the input `null` -/
def evalText (s : String) : Option R :=
  match parseWholeExpr s.toList with
  | .ok e => some (eval {} 10 e {})
  | .error _ => none

def evalRepText (s : String) : Option R :=
  match parseWholeExpr s.toList with
  | .ok e => some (evalRep {} 10 e {})
  | .error _ => none

def isNothing : Option R → Bool
  | some (.ok none) => true
  | _ => false

def isPos (n : Nat) : Option R → Bool
  | some (.ok (some (.num (.pos m)))) => m == n
  | _ => false

-- inf · 0 is NaN: not finite, hence nothing
example : isNothing (evalText "(* 1e308 10 0)") = true := by decide +kernel
example : isNothing (evalText "(/ 0 0)") = true := by decide +kernel
example : isNothing (evalText "(% 1 0)") = true := by decide +kernel
example : isNothing (evalText "(+ 1e308 1e308)") = true := by decide +kernel
example : isNothing (evalText "(- 1e308 -1e308)") = true := by decide +kernel
example : isNothing (evalText "(/ 1e308 1e-308)") = true := by decide +kernel
example : isNothing (evalText "(* 1e308 10)") = true := by decide +kernel
example : isNothing (evalRepText "(* 1e308 10 0)") = true := by decide +kernel
-- finite results are values, and the 64-bit evaluator agrees
example : isPos 3 (evalText "(+ 1 2)") = true := by decide +kernel
example : isPos 3 (evalRepText "(+ 1 2)") = true := by decide +kernel
example : isPos 1 (evalRepText "(% 7 2)") = true := by decide +kernel
example : isPos 2 (evalRepText "(abs (round -1.5))") = true := by decide +kernel

/-! ### Non-vacuity of `eval_finite` -/

/-- `(abs (* 1.5 .a @m))` -/
def exE : Expr :=
  .call "abs" [.call "*" [.const (.num (.flt (.fin false 6755399441055744 (-52)))),
    .extract 0 [.key "a".toList], .macro "m".toList]]
/-- input `{"a": 2.5}`, macro `m` = `1` -/
def exC : Ctx :=
  { input := .obj [("a".toList, .num (.flt (.fin false 5629499534213120 (-51))))],
    defs := [("m".toList, .const (.num (.pos 1)))] }

/-- an instance of every hypothesis of `eval_finite`: a float literal, a float in the input, a macro body,
an unguarded function; the result is the double 3.75 -/
example : FiniteV (.num (.flt (.fin false 8444249301319680 (-51)))) := by
  refine eval_finite {} 6 exE exC _ ?_ ?_ ?_ (not_overflow (by decide +kernel)) (returnsFlt_eq (by decide +kernel))
  · intro ent h; cases h
  · simp [exE, FiniteE, FiniteEs, F64.isFinite]
  · refine ⟨?_, ?_, ?_, ?_, ?_⟩
    · simp [exC, F64.isFinite]
    · intro x h; cases h
    · intro x h; cases h
    · intro x h; cases h
    · intro x h; simp only [exC, List.mem_singleton] at h; subst h; simp [FiniteE]

/-- … and of `eval_finite_partial` -/
example : GuardedOnly (.call "sum" [.call "map" [.extract 0 [], .call "/" [.extract 0 [], .const (.num (.pos 3))]]]) := by
  decide +kernel

end Jawk.Finite
