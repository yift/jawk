/-
  The `--sort-by` stage (bucket map `Buckets`) emits the specification sort `SortSpec.sortDir` of
  the rows it was fed, and its bounded (top-N) variant emits `take` of it (properties C07, C08).
  Core Lean only.
-/
import Jawk.Model.Stages
import Jawk.Lemmas.SortSpec

namespace Jawk

/-! ## The bucket map -/

namespace BucketSort
open SortSpec

/-- the rows of one bucket, oldest first, each tagged with the bucket key -/
def bucketRows (b : JV × List Ctx) : List (JV × Ctx) := b.2.reverse.map (fun c => (b.1, c))

/-- `bucketsEmit`, keeping each row's bucket key -/
def emitK (desc : Bool) (data : Buckets) : List (JV × Ctx) :=
  (if desc then data.reverse else data).flatMap bucketRows

theorem emitK_map_snd (desc : Bool) (data : Buckets) :
    (emitK desc data).map (·.2) = bucketsEmit desc data := by
  simp [emitK, bucketsEmit, bucketRows, List.map_flatMap, Function.comp_def]

/-- keys strictly ascending, no bucket empty -/
def BucketsOK (data : Buckets) : Prop :=
  data.Pairwise (fun a b => JV.cmp a.1 b.1 = .lt) ∧ ∀ b ∈ data, b.2 ≠ []

theorem bucketsOK_nil : BucketsOK [] := ⟨List.Pairwise.nil, by simp⟩

theorem BucketsOK.tail {b : JV × List Ctx} {d : Buckets} (h : BucketsOK (b :: d)) : BucketsOK d :=
  ⟨(List.pairwise_cons.mp h.1).2, fun x hx => h.2 x (List.mem_cons_of_mem _ hx)⟩

theorem BucketsOK.head_lt {b : JV × List Ctx} {d : Buckets} (h : BucketsOK (b :: d)) :
    ∀ x ∈ d, JV.cmp b.1 x.1 = .lt := (List.pairwise_cons.mp h.1).1

@[simp] theorem emitK_nil (desc : Bool) : emitK desc [] = [] := by
  cases desc <;> simp [emitK]

theorem emitK_false_cons (b : JV × List Ctx) (d : Buckets) :
    emitK false (b :: d) = bucketRows b ++ emitK false d := by
  simp [emitK]

theorem emitK_true_cons (b : JV × List Ctx) (d : Buckets) :
    emitK true (b :: d) = emitK true d ++ bucketRows b := by
  simp [emitK]

theorem mem_bucketRows {x : JV × Ctx} {b : JV × List Ctx} (h : x ∈ bucketRows b) : x.1 = b.1 := by
  simp only [bucketRows, List.mem_map] at h
  obtain ⟨c, _, rfl⟩ := h
  rfl

theorem mem_emitK {x : JV × Ctx} {desc : Bool} {d : Buckets} (h : x ∈ emitK desc d) :
    ∃ b ∈ d, x.1 = b.1 := by
  simp only [emitK, List.mem_flatMap] at h
  obtain ⟨b, hb, hx⟩ := h
  refine ⟨b, ?_, mem_bucketRows hx⟩
  cases desc <;> simpa using hb

theorem bucketRows_cons (k : JV) (c : Ctx) (q : List Ctx) :
    bucketRows (k, c :: q) = bucketRows (k, q) ++ [(k, c)] := by
  simp [bucketRows]

/-- the key of the bucket in which a row with evaluated key `k` lands -/
def landKey (k : JV) : Buckets → JV
  | [] => k
  | (k0, _) :: rest =>
    match JV.cmp k k0 with
    | .lt => k
    | .eq => k0
    | .gt => landKey k rest

theorem landKey_eq (H : TotalPreorderCmp JV.cmp) (k : JV) (d : Buckets) :
    JV.cmp k (landKey k d) = .eq := by
  induction d with
  | nil => exact H.refl k
  | cons b rest ih =>
    obtain ⟨k0, q⟩ := b
    simp only [landKey]
    split
    · exact H.refl k
    · assumption
    · exact ih

theorem mem_bucketInsert {k : JV} {c : Ctx} {d : Buckets} {b : JV × List Ctx}
    (h : b ∈ bucketInsert k c d) : b.1 = k ∨ ∃ b' ∈ d, b'.1 = b.1 := by
  induction d with
  | nil => simp [bucketInsert] at h; left; rw [h]
  | cons b0 rest ih =>
    obtain ⟨k0, q⟩ := b0
    simp only [bucketInsert] at h
    split at h
    · rcases List.mem_cons.mp h with rfl | h
      · left; rfl
      · right; exact ⟨b, h, rfl⟩
    · rcases List.mem_cons.mp h with rfl | h
      · right; exact ⟨(k0, q), List.mem_cons_self .., rfl⟩
      · right; exact ⟨b, List.mem_cons_of_mem _ h, rfl⟩
    · rcases List.mem_cons.mp h with rfl | h
      · right; exact ⟨(k0, q), List.mem_cons_self .., rfl⟩
      · rcases ih h with h | ⟨b', hb', e⟩
        · left; exact h
        · right; exact ⟨b', List.mem_cons_of_mem _ hb', e⟩

/-- insertion keeps the keys strictly ascending and every bucket non-empty -/
theorem bucketInsert_ok (H : TotalPreorderCmp JV.cmp) (k : JV) (c : Ctx) (d : Buckets)
    (hd : BucketsOK d) : BucketsOK (bucketInsert k c d) := by
  induction d with
  | nil =>
    refine ⟨by simp [bucketInsert], ?_⟩
    intro b hb; simp [bucketInsert] at hb; simp [hb]
  | cons b0 rest ih =>
    obtain ⟨k0, q⟩ := b0
    have hlt := hd.head_lt
    simp only [bucketInsert]
    split
    next hc =>
      refine ⟨List.pairwise_cons.mpr ⟨?_, hd.1⟩, ?_⟩
      · intro x hx
        rcases List.mem_cons.mp hx with rfl | hx
        · exact hc
        · exact H.lt_of_lt_of_le hc (by rw [hlt x hx]; decide)
      · intro x hx
        rcases List.mem_cons.mp hx with rfl | hx
        · simp
        · exact hd.2 x hx
    next hc =>
      refine ⟨List.pairwise_cons.mpr ⟨hlt, hd.tail.1⟩, ?_⟩
      intro x hx
      rcases List.mem_cons.mp hx with rfl | hx
      · simp
      · exact hd.2 x (List.mem_cons_of_mem _ hx)
    next hc =>
      have ih' := ih hd.tail
      refine ⟨List.pairwise_cons.mpr ⟨?_, ih'.1⟩, ?_⟩
      · intro x hx
        rcases mem_bucketInsert hx with e | ⟨b', hb', e⟩
        · show JV.cmp k0 x.1 = .lt
          rw [e]; exact H.lt_iff_gt.mpr hc
        · show JV.cmp k0 x.1 = .lt
          rw [← e]; exact hlt b' hb'
      · intro x hx
        rcases List.mem_cons.mp hx with rfl | hx
        · exact hd.2 _ (List.mem_cons_self ..)
        · exact ih'.2 x hx

/-- ascending: inserting into the bucket map is stable insertion into the keyed emission -/
theorem emitK_insert_asc (H : TotalPreorderCmp JV.cmp) (k : JV) (c : Ctx) (d : Buckets)
    (hd : BucketsOK d) :
    emitK false (bucketInsert k c d)
      = insertAsc JV.cmp (·.1) (landKey k d, c) (emitK false d) := by
  induction d with
  | nil => simp [bucketInsert, landKey, emitK, bucketRows, insertAsc]
  | cons b0 rest ih =>
    obtain ⟨k0, q⟩ := b0
    have hlt := hd.head_lt
    simp only [bucketInsert, landKey]
    split
    next hc =>
      simp only [hc]
      rw [emitK_false_cons, insertAsc_of_all_lt]
      · simp [bucketRows]
      · intro y hy
        obtain ⟨b, hb, e⟩ := mem_emitK hy
        show JV.cmp k y.1 = .lt
        rw [e]
        rcases List.mem_cons.mp hb with rfl | hb
        · exact hc
        · exact H.lt_of_lt_of_le hc (by rw [hlt b hb]; decide)
    next hc =>
      simp only [hc]
      rw [emitK_false_cons, emitK_false_cons, bucketRows_cons, insertAsc_append_of_not_lt,
        insertAsc_of_all_lt]
      · simp
      · intro y hy
        obtain ⟨b, hb, e⟩ := mem_emitK hy
        show JV.cmp k0 y.1 = .lt
        rw [e]; exact hlt b hb
      · intro y hy
        show JV.cmp k0 y.1 ≠ .lt
        rw [mem_bucketRows hy, H.refl]; decide
    next hc =>
      simp only [hc]
      rw [emitK_false_cons, emitK_false_cons, ih hd.tail, insertAsc_append_of_not_lt]
      intro y hy
      show JV.cmp (landKey k rest) y.1 ≠ .lt
      rw [mem_bucketRows hy, ← H.congr_left (landKey_eq H k rest) k0, hc]; decide

/-- descending: the emission runs through the buckets backwards, so the row is inserted
by the flipped comparison -/
theorem emitK_insert_desc (H : TotalPreorderCmp JV.cmp) (k : JV) (c : Ctx) (d : Buckets)
    (hd : BucketsOK d) :
    emitK true (bucketInsert k c d)
      = insertAsc (fun a b => JV.cmp b a) (·.1) (landKey k d, c) (emitK true d) := by
  induction d with
  | nil => simp [bucketInsert, landKey, emitK, bucketRows, insertAsc]
  | cons b0 rest ih =>
    obtain ⟨k0, q⟩ := b0
    have hlt := hd.head_lt
    simp only [bucketInsert, landKey]
    split
    next hc =>
      simp only [hc]
      rw [emitK_true_cons, insertAsc_of_not_lt]
      · simp [bucketRows]
      · intro y hy
        obtain ⟨b, hb, e⟩ := mem_emitK hy
        show JV.cmp y.1 k ≠ .lt
        have : JV.cmp k b.1 = .lt := by
          rcases List.mem_cons.mp hb with rfl | hb
          · exact hc
          · exact H.lt_of_lt_of_le hc (by rw [hlt b hb]; decide)
        rw [e, H.lt_iff_gt.mp this]; decide
    next hc =>
      simp only [hc]
      rw [emitK_true_cons, bucketRows_cons, ← List.append_assoc, ← emitK_true_cons, insertAsc_of_not_lt]
      intro y hy
      obtain ⟨b, hb, e⟩ := mem_emitK hy
      show JV.cmp y.1 k0 ≠ .lt
      rw [e]
      rcases List.mem_cons.mp hb with rfl | hb
      · rw [H.refl]; decide
      · rw [H.lt_iff_gt.mp (hlt b hb)]; decide
    next hc =>
      simp only [hc]
      rw [emitK_true_cons, emitK_true_cons, ih hd.tail, insertAsc_append_of_all_lt]
      intro y hy
      show JV.cmp y.1 (landKey k rest) = .lt
      rw [mem_bucketRows hy, ← H.congr_right (landKey_eq H k rest) k0]
      exact H.lt_iff_gt.mpr hc

/-- inserting into the bucket map is stable insertion into the keyed emission; the row is
tagged with the key of the bucket it lands in, which compares `.eq` to its own key (`landKey_eq`) -/
theorem emitK_insert (H : TotalPreorderCmp JV.cmp) (desc : Bool) (k : JV) (c : Ctx) (d : Buckets)
    (hd : BucketsOK d) :
    emitK desc (bucketInsert k c d)
      = insertDir JV.cmp (·.1) desc (landKey k d, c) (emitK desc d) := by
  cases desc
  · exact emitK_insert_asc H k c d hd
  · rw [insertDir_true_eq_flip H]
    exact emitK_insert_desc H k c d hd


/-! ### rows tagged with evaluated keys vs rows tagged with bucket keys -/

/-- same rows, and the tags compare `.eq` position by position -/
inductive KeyRel : List (JV × Ctx) → List (JV × Ctx) → Prop
  | nil : KeyRel [] []
  | cons {a b : JV × Ctx} {as bs : List (JV × Ctx)} :
      JV.cmp a.1 b.1 = .eq → a.2 = b.2 → KeyRel as bs → KeyRel (a :: as) (b :: bs)

theorem KeyRel.map_snd {l l' : List (JV × Ctx)} (h : KeyRel l l') :
    l.map (·.2) = l'.map (·.2) := by
  induction h with
  | nil => rfl
  | cons _ h2 _ ih => simp [h2, ih]

theorem KeyRel.take {l l' : List (JV × Ctx)} (h : KeyRel l l') (n : Nat) :
    KeyRel (l.take n) (l'.take n) := by
  induction h generalizing n with
  | nil => simpa using KeyRel.nil
  | cons h1 h2 _ ih =>
    cases n with
    | zero => simpa using KeyRel.nil
    | succ n => simpa using KeyRel.cons h1 h2 (ih n)

/-- insertion by any comparison that does not distinguish `.eq` tags (`JV.cmp` and its flip) -/
theorem KeyRel.insertAsc {cmp : JV → JV → Ordering}
    (hc : ∀ {k k' a b}, JV.cmp k k' = .eq → JV.cmp a b = .eq → cmp k a = cmp k' b)
    {l l' : List (JV × Ctx)} (h : KeyRel l l') {k k' : JV} (hk : JV.cmp k k' = .eq) (c : Ctx) :
    KeyRel (insertAsc cmp (·.1) (k, c) l) (insertAsc cmp (·.1) (k', c) l') := by
  induction h with
  | nil => exact KeyRel.cons hk rfl KeyRel.nil
  | @cons a b as bs h1 h2 h3 ih =>
    simp only [SortSpec.insertAsc, hc hk h1]
    split
    · exact KeyRel.cons hk rfl (KeyRel.cons h1 h2 h3)
    · exact KeyRel.cons h1 h2 ih

theorem KeyRel.insertDir (H : TotalPreorderCmp JV.cmp) {l l' : List (JV × Ctx)} (h : KeyRel l l')
    (desc : Bool) {k k' : JV} (hk : JV.cmp k k' = .eq) (c : Ctx) :
    KeyRel (insertDir JV.cmp (·.1) desc (k, c) l) (insertDir JV.cmp (·.1) desc (k', c) l') := by
  cases desc
  · exact h.insertAsc (fun hk ha => by rw [H.congr_left hk, H.congr_right ha]) hk c
  · rw [insertDir_true_eq_flip H, insertDir_true_eq_flip H]
    exact h.insertAsc (fun hk ha => by rw [H.congr_left ha, H.congr_right hk]) hk c

/-! ### the unbounded sorter is the stable sort -/

theorem foldl_bucketInsert (H : TotalPreorderCmp JV.cmp) (desc : Bool) (rows : List (JV × Ctx))
    (d : Buckets) (L : List (JV × Ctx)) (hd : BucketsOK d) (hL : KeyRel L (emitK desc d)) :
    BucketsOK (rows.foldl (fun d r => bucketInsert r.1 r.2 d) d) ∧
    KeyRel (rows.foldl (fun acc x => insertDir JV.cmp (·.1) desc x acc) L)
      (emitK desc (rows.foldl (fun d r => bucketInsert r.1 r.2 d) d)) := by
  induction rows generalizing d L with
  | nil => exact ⟨hd, hL⟩
  | cons r rs ih =>
    simp only [List.foldl_cons]
    apply ih
    · exact bucketInsert_ok H r.1 r.2 d hd
    · rw [emitK_insert H desc r.1 r.2 d hd]
      exact hL.insertDir H desc (landKey_eq H r.1 d) r.2

/-- unbounded (C07): feeding the rows to the bucket map and emitting = stable sort by key -/
theorem bucketsEmit_foldl_bucketInsert (H : TotalPreorderCmp JV.cmp) (desc : Bool)
    (rows : List (JV × Ctx)) :
    bucketsEmit desc (rows.foldl (fun d r => bucketInsert r.1 r.2 d) [])
      = (sortDir JV.cmp (·.1) desc rows).map (·.2) := by
  have h := (foldl_bucketInsert H desc rows [] [] bucketsOK_nil (by simpa using KeyRel.nil)).2
  rw [← emitK_map_snd, ← h.map_snd]
  rfl

theorem foldl_bucketInsert_ok (H : TotalPreorderCmp JV.cmp) (rows : List (JV × Ctx)) :
    BucketsOK (rows.foldl (fun d r => bucketInsert r.1 r.2 d) []) :=
  (foldl_bucketInsert H false rows [] [] bucketsOK_nil (by simpa using KeyRel.nil)).1

/-! ### `remove_last_item` -/

/-- the list of buckets is empty or ends in a bucket with a newest row -/
theorem BucketsOK.nil_or_concat {d : Buckets} (hd : BucketsOK d) :
    d = [] ∨ ∃ init k c q, d = init ++ [(k, c :: q)] := by
  rcases List.eq_nil_or_concat d with rfl | ⟨init, ⟨k, q⟩, rfl⟩
  · exact .inl rfl
  · cases q with
    | nil => exact absurd rfl (hd.2 (k, []) (by simp))
    | cons c q => exact .inr ⟨init, k, c, q, by simp⟩

theorem dropNewestOfLast_concat (init : Buckets) (k : JV) (c : Ctx) (q : List Ctx) :
    dropNewestOfLast (init ++ [(k, c :: q)]) = if q = [] then init else init ++ [(k, q)] := by
  induction init with
  | nil => cases q <;> rfl
  | cons b init ih =>
    obtain ⟨b', rest, e⟩ : ∃ b' rest, init ++ [(k, c :: q)] = b' :: rest := by
      cases init <;> exact ⟨_, _, rfl⟩
    obtain ⟨k0, q0⟩ := b
    rw [List.cons_append, e]
    show (k0, q0) :: dropNewestOfLast (b' :: rest) = _
    rw [← e, ih]
    split <;> rfl

theorem dropNewestOfLast_ok {d : Buckets} (hd : BucketsOK d) : BucketsOK (dropNewestOfLast d) := by
  rcases hd.nil_or_concat with rfl | ⟨init, k, c, q, rfl⟩
  · exact hd
  · rw [dropNewestOfLast_concat]
    simp only [BucketsOK, List.pairwise_append, List.mem_append, List.mem_singleton] at hd
    split
    · exact ⟨hd.1.1, fun b hb => hd.2 b (.inl hb)⟩
    · rename_i hq
      simp only [BucketsOK, List.pairwise_append, List.mem_append, List.mem_singleton]
      refine ⟨⟨hd.1.1, List.pairwise_singleton .., fun a ha b hb => ?_⟩, fun b hb => ?_⟩
      · rw [hb]; exact hd.1.2.2 a ha (k, c :: q) rfl
      · rcases hb with hb | rfl
        · exact hd.2 b (.inl hb)
        · exact hq

theorem emitK_dropNewestOfLast {d : Buckets} (hd : BucketsOK d) :
    emitK false (dropNewestOfLast d) = (emitK false d).dropLast := by
  rcases hd.nil_or_concat with rfl | ⟨init, k, c, q, rfl⟩
  · rfl
  · have e : ∀ b : JV × List Ctx, emitK false (init ++ [b]) = emitK false init ++ bucketRows b := by
      simp [emitK]
    rw [dropNewestOfLast_concat, e, bucketRows_cons, ← List.append_assoc, List.dropLast_concat]
    split
    · rename_i hq; subst hq; simp [bucketRows]
    · rw [e]

theorem dropNewestOfFirst_cons (k : JV) (c : Ctx) (q : List Ctx) (rest : Buckets) :
    dropNewestOfFirst ((k, c :: q) :: rest) = if q = [] then rest else (k, q) :: rest := by
  cases q <;> rfl

theorem dropNewestOfFirst_ok {d : Buckets} (hd : BucketsOK d) : BucketsOK (dropNewestOfFirst d) := by
  cases d with
  | nil => simpa [dropNewestOfFirst] using bucketsOK_nil
  | cons b rest =>
    obtain ⟨k, q⟩ := b
    cases q with
    | nil => exact absurd rfl (hd.2 (k, []) (List.mem_cons_self ..))
    | cons c q =>
      rw [dropNewestOfFirst_cons]
      split
      · exact hd.tail
      · next hq =>
        refine ⟨List.pairwise_cons.mpr ⟨hd.head_lt, hd.tail.1⟩, ?_⟩
        intro x hx
        rcases List.mem_cons.mp hx with rfl | hx
        · exact hq
        · exact hd.2 x (List.mem_cons_of_mem _ hx)

theorem emitK_dropNewestOfFirst {d : Buckets} (hd : BucketsOK d) :
    emitK true (dropNewestOfFirst d) = (emitK true d).dropLast := by
  cases d with
  | nil => simp [dropNewestOfFirst]
  | cons b rest =>
    obtain ⟨k, q⟩ := b
    cases q with
    | nil => exact absurd rfl (hd.2 (k, []) (List.mem_cons_self ..))
    | cons c q =>
      rw [dropNewestOfFirst_cons, emitK_true_cons, bucketRows_cons, ← List.append_assoc,
        List.dropLast_concat]
      split
      next hq => subst hq; simp [bucketRows]
      next hq => rw [emitK_true_cons]

/-- ascending: dropping the newest row of the last bucket drops the last emitted row -/
theorem bucketsEmit_dropNewestOfLast {d : Buckets} (hd : BucketsOK d) :
    bucketsEmit false (dropNewestOfLast d) = (bucketsEmit false d).dropLast := by
  rw [← emitK_map_snd, ← emitK_map_snd, emitK_dropNewestOfLast hd, List.map_dropLast]

/-- descending: dropping the newest row of the first bucket drops the last emitted row -/
theorem bucketsEmit_dropNewestOfFirst {d : Buckets} (hd : BucketsOK d) :
    bucketsEmit true (dropNewestOfFirst d) = (bucketsEmit true d).dropLast := by
  rw [← emitK_map_snd, ← emitK_map_snd, emitK_dropNewestOfFirst hd, List.map_dropLast]

/-! ### the bounded sorter is `take` of the stable sort -/

/-- the sorter fed with `rows`, starting with `--max-size cap` -/
def run (desc : Bool) (cap : Nat) (rows : List (JV × Ctx)) : Buckets × Option Nat :=
  rows.foldl (fun s r => sortStep desc r.1 r.2 s) ([], some cap)

/-- the sorter fed with `rows`, unbounded -/
def runUnbounded (desc : Bool) (rows : List (JV × Ctx)) : Buckets × Option Nat :=
  rows.foldl (fun s r => sortStep desc r.1 r.2 s) ([], none)

/-- invariant of the bounded run: the map holds the first `cap` rows of the sort so far and the
space counter is what is left of `cap` -/
def Inv (desc : Bool) (cap : Nat) (s : Buckets × Option Nat) (L : List (JV × Ctx)) : Prop :=
  BucketsOK s.1 ∧ (∃ m, s.2 = some m ∧ (emitK desc s.1).length + m = cap) ∧
    KeyRel (L.take cap) (emitK desc s.1)

theorem emitK_drop (desc : Bool) {d : Buckets} (hd : BucketsOK d) :
    emitK desc (if desc then dropNewestOfFirst d else dropNewestOfLast d)
      = (emitK desc d).dropLast := by
  cases desc
  · simpa using emitK_dropNewestOfLast hd
  · simpa using emitK_dropNewestOfFirst hd

theorem drop_ok (desc : Bool) {d : Buckets} (hd : BucketsOK d) :
    BucketsOK (if desc then dropNewestOfFirst d else dropNewestOfLast d) := by
  cases desc
  · simpa using dropNewestOfLast_ok hd
  · simpa using dropNewestOfFirst_ok hd

theorem Inv.step (H : TotalPreorderCmp JV.cmp) {desc : Bool} {cap : Nat} {s : Buckets × Option Nat}
    {L : List (JV × Ctx)} (h : Inv desc cap s L) (k : JV) (c : Ctx) :
    Inv desc cap (sortStep desc k c s) (insertDir JV.cmp (·.1) desc (k, c) L) := by
  obtain ⟨data, space⟩ := s
  obtain ⟨hok, ⟨m, hm, hlen⟩, hrel⟩ := h
  simp only at hok hm hlen hrel
  subst hm
  have hok' := bucketInsert_ok H k c data hok
  have hI := emitK_insert H desc k c data hok
  have hIlen : (emitK desc (bucketInsert k c data)).length = (emitK desc data).length + 1 := by
    rw [hI, insertDir_length H]
  have hR : KeyRel ((insertDir JV.cmp (·.1) desc (k, c) L).take cap)
      ((emitK desc (bucketInsert k c data)).take cap) := by
    rw [← insertDir_take H, hI]
    exact (hrel.insertDir H desc (landKey_eq H k data) c).take cap
  cases m with
  | zero =>
    simp only [sortStep]
    have hd : emitK desc (if desc then dropNewestOfFirst (bucketInsert k c data)
          else dropNewestOfLast (bucketInsert k c data))
        = (emitK desc (bucketInsert k c data)).take cap := by
      have e : (emitK desc data).length + 1 - 1 = cap := by omega
      rw [emitK_drop desc hok', List.dropLast_eq_take, hIlen, e]
    refine ⟨drop_ok desc hok', ⟨0, rfl, ?_⟩, ?_⟩
    · show (emitK desc (if desc then _ else _)).length + 0 = cap
      rw [hd, List.length_take, hIlen]; omega
    · show KeyRel _ (emitK desc (if desc then _ else _))
      rw [hd]; exact hR
  | succ n =>
    simp only [sortStep]
    refine ⟨hok', ⟨n, rfl, ?_⟩, ?_⟩
    · show (emitK desc (bucketInsert k c data)).length + n = cap
      omega
    · show KeyRel _ (emitK desc (bucketInsert k c data))
      rw [List.take_of_length_le (l := emitK desc (bucketInsert k c data)) (by omega)] at hR
      exact hR

theorem Inv.foldl (H : TotalPreorderCmp JV.cmp) {desc : Bool} {cap : Nat} (rows : List (JV × Ctx))
    {s : Buckets × Option Nat} {L : List (JV × Ctx)} (h : Inv desc cap s L) :
    Inv desc cap (rows.foldl (fun s r => sortStep desc r.1 r.2 s) s)
      (rows.foldl (fun acc x => insertDir JV.cmp (·.1) desc x acc) L) := by
  induction rows generalizing s L with
  | nil => exact h
  | cons r rs ih =>
    simp only [List.foldl_cons]
    exact ih (h.step H r.1 r.2)

theorem run_inv (H : TotalPreorderCmp JV.cmp) (desc : Bool) (cap : Nat) (rows : List (JV × Ctx)) :
    Inv desc cap (run desc cap rows) (sortDir JV.cmp (·.1) desc rows) := by
  unfold run sortDir
  apply Inv.foldl H
  exact ⟨bucketsOK_nil, ⟨cap, rfl, by simp⟩, by simpa using KeyRel.nil⟩

/-- bounded (C08): the top-N shortcut is invisible -/
theorem bucketsEmit_run (H : TotalPreorderCmp JV.cmp) (desc : Bool) (cap : Nat)
    (rows : List (JV × Ctx)) :
    bucketsEmit desc (run desc cap rows).1
      = ((sortDir JV.cmp (·.1) desc rows).map (·.2)).take cap := by
  have h := (run_inv H desc cap rows).2.2
  rw [← emitK_map_snd, ← h.map_snd, List.map_take]

theorem run_ok (H : TotalPreorderCmp JV.cmp) (desc : Bool) (cap : Nat) (rows : List (JV × Ctx)) :
    BucketsOK (run desc cap rows).1 := (run_inv H desc cap rows).1

/-- with no bound the stage state is just the folded `bucketInsert` -/
theorem runUnbounded_eq (desc : Bool) (rows : List (JV × Ctx)) :
    runUnbounded desc rows = (rows.foldl (fun d r => bucketInsert r.1 r.2 d) [], none) := by
  unfold runUnbounded
  generalize ([] : Buckets) = d
  induction rows generalizing d with
  | nil => rfl
  | cons r rs ih =>
    rw [List.foldl_cons, List.foldl_cons]
    exact ih _

/-- unbounded, as a run of `sortStep` -/
theorem bucketsEmit_runUnbounded (H : TotalPreorderCmp JV.cmp) (desc : Bool)
    (rows : List (JV × Ctx)) :
    bucketsEmit desc (runUnbounded desc rows).1 = (sortDir JV.cmp (·.1) desc rows).map (·.2) := by
  rw [runUnbounded_eq]; exact bucketsEmit_foldl_bucketInsert H desc rows

/-! ### non-vacuity -/

example : BucketsOK [(JV.null, [default]), (JV.bool true, [default, default])] := by
  refine ⟨?_, ?_⟩
  · simp only [List.pairwise_cons, List.mem_singleton, forall_eq, List.not_mem_nil,
      false_imp_iff, implies_true, List.Pairwise.nil, and_true]
    decide
  · simp

end BucketSort
end Jawk
