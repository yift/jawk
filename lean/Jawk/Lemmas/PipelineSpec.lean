/-
  Layer 2 → layer 3 of `Jawk/Spec/Pipeline.lean`: the effect-free machine (`processP` / `completeP`,
  driven by `runP`) computes the documented composition of list functions (`specRows`).
  Everything is generic in the total evaluator `ev`.
-/
import Jawk.Spec.Pipeline
import Jawk.Lemmas.Order
import Jawk.Lemmas.BucketSort
import Jawk.Lemmas.HashEq
import Jawk.Lemmas.PipelinePure
namespace Jawk.Pipe
open Jawk

variable (ev : Expr → Ctx → Option JV)

/-! ### `takeOpt`, `keyed`, `Ctx.build` -/

theorem takeOpt_sublist {α : Type} (o : Option Nat) (l : List α) : (takeOpt o l).Sublist l := by
  cases o with
  | none => exact List.Sublist.refl l
  | some n => exact List.take_sublist n l

/-- what the sorter buffers: a row of the input, next to the key it evaluates to -/
theorem mem_keyed (key : Expr) (rows : List Ctx) (p : JV × Ctx) (h : p ∈ keyed ev key rows) :
    p.2 ∈ rows ∧ ev key p.2 = some p.1 := by
  simp only [keyed, List.mem_filterMap, Option.map_eq_some_iff] at h
  obtain ⟨c, hc, k, hk, rfl⟩ := h
  exact ⟨hc, hk⟩

/-- a row without selections is built as its input value itself -/
theorem build_of_results_nil {ctx : Ctx} (h : ctx.results = []) : ctx.build = ctx.input := by
  simp [Ctx.build, h]

/-! ### unfolding the drivers -/

theorem feedBrk_nil (next : List StageSt → Ctx → Step) (s : List StageSt) :
    feedBrk next s [] = (s, [], .cont) := rfl

theorem feedBrk_cons_brk {next : List StageSt → Ctx → Step} {s s1 : List StageSt} {x : Ctx}
    {o1 : List Ctx} (h : next s x = (s1, o1, .brk)) (xs : List Ctx) :
    feedBrk next s (x :: xs) = (s1, o1, .brk) := by
  simp [feedBrk, h]

theorem feedBrk_cons_cont {next : List StageSt → Ctx → Step} {s s1 : List StageSt} {x : Ctx}
    {o1 : List Ctx} (h : next s x = (s1, o1, .cont)) (xs : List Ctx) :
    feedBrk next s (x :: xs)
      = ((feedBrk next s1 xs).1, o1 ++ (feedBrk next s1 xs).2.1, (feedBrk next s1 xs).2.2) := by
  simp [feedBrk, h]

theorem feedAll_nil (next : List StageSt → Ctx → Step) (s : List StageSt) :
    feedAll next s [] = (s, []) := rfl

theorem feedAll_cons (next : List StageSt → Ctx → Step) (s : List StageSt) (x : Ctx) (xs : List Ctx) :
    feedAll next s (x :: xs)
      = ((feedAll next (next s x).1 xs).1, (next s x).2.1 ++ (feedAll next (next s x).1 xs).2) := rfl

theorem runAll_nil (cfgs : List StageCfg) (s : List StageSt) :
    runAll ev cfgs s [] = completeP ev cfgs s := by
  simp [runAll, feedAll]

theorem runAll_cons (cfgs : List StageCfg) (s : List StageSt) (x : Ctx) (more : List Ctx) :
    runAll ev cfgs s (x :: more)
      = (processP ev cfgs s x).2.1 ++ runAll ev cfgs (processP ev cfgs s x).1 more := by
  simp [runAll, feedAll]

/-! ### break-insensitivity -/

/-- feeding anything more changes nothing that will ever reach the sink -/
def Settled (cfgs : List StageCfg) (s : List StageSt) : Prop :=
  ∀ more, runAll ev cfgs s more = completeP ev cfgs s

variable {ev}

/-- `Settled` is closed under steps, and a step's output is already accounted for -/
theorem Settled.step {cfgs : List StageCfg} {s : List StageSt} (h : Settled ev cfgs s) (x : Ctx) :
    (processP ev cfgs s x).2.1 ++ completeP ev cfgs (processP ev cfgs s x).1 = completeP ev cfgs s
      ∧ Settled ev cfgs (processP ev cfgs s x).1 := by
  have h1 := h [x]
  rw [runAll_cons, runAll_nil] at h1
  refine ⟨h1, fun more => ?_⟩
  have h2 := h (x :: more)
  rw [runAll_cons, ← h1] at h2
  exact List.append_cancel_left h2

theorem Settled.feedBrk {cfgs : List StageCfg} {s : List StageSt} (h : Settled ev cfgs s)
    (rows : List Ctx) :
    (feedBrk (processP ev cfgs) s rows).2.1 ++ completeP ev cfgs (feedBrk (processP ev cfgs) s rows).1
        = completeP ev cfgs s
      ∧ Settled ev cfgs (feedBrk (processP ev cfgs) s rows).1 := by
  induction rows generalizing s with
  | nil => exact ⟨by simp [feedBrk_nil], h⟩
  | cons x rows ih =>
    have hs := h.step x
    rcases hr : processP ev cfgs s x with ⟨s1, o1, d⟩
    rw [hr] at hs
    cases d with
    | brk => rw [feedBrk_cons_brk hr]; exact hs
    | cont =>
      rw [feedBrk_cons_cont hr]
      obtain ⟨i1, i2⟩ := ih hs.2
      refine ⟨?_, i2⟩
      simp only [List.append_assoc, i1]
      exact hs.1

/-- a stage that only transforms the list its successor sees inherits `Settled` from it -/
theorem Settled.lift {c : StageCfg} {cs : List StageCfg} {st : StageSt} {s : List StageSt}
    (hc : completeP ev (c :: cs) (st :: s) = completeP ev cs s)
    (hr : ∀ more, ∃ more', runAll ev (c :: cs) (st :: s) more = runAll ev cs s more')
    (h : Settled ev cs s) : Settled ev (c :: cs) (st :: s) := by
  intro more
  obtain ⟨more', e⟩ := hr more
  rw [e, h more', hc]

/-! ### the stages as list functions, for `runAll` and a general own state -/

variable (ev)

theorem runAll_preset (vars : List (Str × JV)) (defs : List (Str × Expr)) (cs : List StageCfg)
    (st : StageSt) (s : List StageSt) (rows : List Ctx) :
    runAll ev (.preset vars defs :: cs) (st :: s) rows
      = runAll ev cs s (rows.map (fun c => (c.withVariables vars).withDefinitions defs)) := by
  induction rows generalizing s with
  | nil => simp [runAll_nil, completeP]
  | cons x rows ih =>
    rw [runAll_cons, List.map_cons, runAll_cons]
    simp only [processP]
    rw [ih]

theorem runAll_filter (e : Expr) (cs : List StageCfg) (st : StageSt) (s : List StageSt)
    (rows : List Ctx) :
    runAll ev (.filter e :: cs) (st :: s) rows
      = runAll ev cs s (rows.filter (fun c => match ev e c with
          | some (.bool true) => true
          | _ => false)) := by
  induction rows generalizing s with
  | nil => simp [runAll_nil, completeP]
  | cons x rows ih =>
    rw [runAll_cons]
    simp only [processP, List.filter_cons]
    split
    · rename_i h
      simp only [h, ↓reduceIte, runAll_cons, ih]
    · rename_i h
      simp only [List.nil_append, ih]
      split
      · rename_i h2; cases h2
      · rfl

theorem runAll_select (name : Str) (e : Expr) (cs : List StageCfg) (st : StageSt)
    (s : List StageSt) (rows : List Ctx) :
    runAll ev (.select name e :: cs) (st :: s) rows
      = runAll ev cs s (rows.map (fun c => c.withResult name (ev e c))) := by
  induction rows generalizing s with
  | nil => simp [runAll_nil, completeP]
  | cons x rows ih =>
    rw [runAll_cons, List.map_cons, runAll_cons]
    simp only [processP]
    rw [ih]

theorem runAll_unique (cs : List StageCfg) (seen : List CtxKey) (s : List StageSt)
    (rows : List Ctx) :
    runAll ev (.unique :: cs) (.unique seen :: s) rows = runAll ev cs s (dedupFrom seen rows) := by
  induction rows generalizing s seen with
  | nil => simp [runAll_nil, completeP, dedupFrom]
  | cons x rows ih =>
    rw [runAll_cons]
    simp only [processP, dedupFrom]
    split
    · simp only [List.nil_append, ih]
    · simp only [runAll_cons, ih]

/-- the limiter with counters `(skipped, passed)`: drop what is left to skip, keep what is left to take -/
theorem runAll_limit (skip : Nat) (take : Option Nat) (cs : List StageCfg) (skipped passed : Nat)
    (s : List StageSt) (rows : List Ctx) :
    runAll ev (.limit skip take :: cs) (.limit skipped passed :: s) rows
      = runAll ev cs s (takeOpt (take.map (· - passed)) (rows.drop (skip - skipped))) := by
  induction rows generalizing s skipped passed with
  | nil => cases take <;> simp [runAll_nil, completeP, takeOpt]
  | cons x rows ih =>
    rw [runAll_cons]
    simp only [processP]
    split
    · rename_i h
      have : skip - skipped = (skip - (skipped + 1)) + 1 := by omega
      rw [List.nil_append, ih, this, List.drop_succ_cons]
    · rename_i h
      have h0 : skip - skipped = 0 := by omega
      cases take with
      | none => simp only [h0, List.drop_zero, Option.map_none, takeOpt, runAll_cons, ih]
      | some l =>
        simp only [h0, List.drop_zero, Option.map_some, takeOpt]
        split
        · rename_i h2
          have : l - passed = 0 := by omega
          simp only [List.nil_append, ih, h0, this, List.drop_zero, Option.map_some, takeOpt, List.take_zero]
        · rename_i h2
          have : l - passed = (l - (passed + 1)) + 1 := by omega
          rw [this, List.take_succ_cons, runAll_cons, ih, h0]
          simp only [List.drop_zero, Option.map_some, takeOpt]

/-! ### a state that answered `Break` is settled -/

/-- a saturated limiter drops everything and never changes -/
theorem feedAll_limit_saturated (skip l : Nat) (cs : List StageCfg) (skipped passed : Nat)
    (s : List StageSt) (h1 : ¬ skipped < skip) (h2 : passed ≥ l) (rows : List Ctx) :
    feedAll (processP ev (.limit skip (some l) :: cs)) (.limit skipped passed :: s) rows
      = (.limit skipped passed :: s, []) := by
  induction rows with
  | nil => rfl
  | cons x rows ih =>
    rw [feedAll_cons]
    simp only [processP, if_neg h1, if_pos h2]
    rw [ih]
    rfl

theorem settled_limit_saturated (skip l : Nat) (cs : List StageCfg) (skipped passed : Nat)
    (s : List StageSt) (h1 : ¬ skipped < skip) (h2 : passed ≥ l) :
    Settled ev (.limit skip (some l) :: cs) (.limit skipped passed :: s) := by
  intro more
  simp [runAll, feedAll_limit_saturated ev skip l cs skipped passed s h1 h2]

variable {ev}

theorem Settled.split (e : Expr) {cs : List StageCfg} (st : StageSt) {s : List StageSt}
    (h : Settled ev cs s) : Settled ev (.split e :: cs) (st :: s) := by
  intro more
  induction more generalizing s with
  | nil => rw [runAll_nil]
  | cons x more ih =>
    rw [runAll_cons]
    simp only [processP]
    split
    · rename_i l _
      have hf := h.feedBrk (l.map x.withInput)
      simp only []
      rw [ih hf.2]
      simpa [completeP] using hf.1
    · simpa using ih h

theorem feedBrk_brk_settled {cs : List StageCfg}
    (IH : ∀ sts ctx, (processP ev cs sts ctx).2.2 = .brk → Settled ev cs (processP ev cs sts ctx).1)
    (rows : List Ctx) (s : List StageSt) (h : (feedBrk (processP ev cs) s rows).2.2 = .brk) :
    Settled ev cs (feedBrk (processP ev cs) s rows).1 := by
  induction rows generalizing s with
  | nil => simp [feedBrk_nil] at h
  | cons x rows ih =>
    rcases hr : processP ev cs s x with ⟨s1, o1, d⟩
    cases d with
    | brk =>
      rw [feedBrk_cons_brk hr]
      have := IH s x
      rw [hr] at this
      exact this rfl
    | cont =>
      rw [feedBrk_cons_cont hr] at h ⊢
      exact ih s1 h

/-- projection form, no assumption on the shape of the states -/
theorem brk_settled_proj (cfgs : List StageCfg) : ∀ (sts : List StageSt) (ctx : Ctx),
    (processP ev cfgs sts ctx).2.2 = .brk → Settled ev cfgs (processP ev cfgs sts ctx).1 := by
  induction cfgs with
  | nil => intro sts ctx h; simp [processP] at h
  | cons c cs ih =>
    intro sts ctx h
    cases sts with
    | nil => simp [processP] at h
    | cons st sts =>
      cases c with
      | preset vars defs =>
        simp only [processP] at h ⊢
        exact Settled.lift (by simp [completeP]) (fun more => ⟨_, runAll_preset ev ..⟩) (ih _ _ h)
      | split e =>
        simp only [processP] at h ⊢
        split at h
        · rename_i l hl
          simp only []
          exact Settled.split e st (feedBrk_brk_settled ih _ _ h)
        · simp at h
      | filter e =>
        simp only [processP] at h ⊢
        split at h
        · rename_i hl
          simp only []
          exact Settled.lift (by simp [completeP]) (fun more => ⟨_, runAll_filter ev ..⟩) (ih _ _ h)
        · simp at h
      | select name e =>
        simp only [processP] at h ⊢
        exact Settled.lift (by simp [completeP]) (fun more => ⟨_, runAll_select ev ..⟩) (ih _ _ h)
      | unique =>
        cases st <;> try (simp [processP] at h; done)
        rename_i seen
        simp only [processP] at h ⊢
        split at h
        · simp at h
        · rename_i hl
          simp only [if_neg hl]
          exact Settled.lift (by simp [completeP]) (fun more => ⟨_, runAll_unique ev ..⟩) (ih _ _ h)
      | sort key desc =>
        cases st <;> try (simp [processP] at h; done)
        simp only [processP] at h
        split at h <;> simp at h
      | limit skip take =>
        cases st <;> try (simp [processP] at h; done)
        rename_i skipped passed
        simp only [processP] at h ⊢
        split at h
        · simp at h
        · rename_i h1
          simp only [if_neg h1]
          cases take with
          | none =>
            simp only [] at h ⊢
            exact Settled.lift (by simp [completeP]) (fun more => ⟨_, runAll_limit ev skip none ..⟩)
              (ih _ _ h)
          | some l =>
            simp only [] at h ⊢
            split at h
            · rename_i h2
              simp only [if_pos h2]
              exact settled_limit_saturated ev skip l cs skipped passed sts h1 h2
            · rename_i h2
              simp only [if_neg h2]
              split at h
              · rename_i h3
                exact settled_limit_saturated ev skip l cs skipped (passed + 1) _ h1 h3
              · simp at h
      | group e =>
        cases st <;> try (simp [processP] at h; done)
        simp only [processP] at h
        split at h <;> simp at h
      | merge =>
        cases st <;> simp [processP] at h

theorem brk_settled' {cfgs : List StageCfg} {sts s' : List StageSt} {ctx : Ctx} {o : List Ctx}
    (h : processP ev cfgs sts ctx = (s', o, .brk)) : Settled ev cfgs s' := by
  have := brk_settled_proj (ev := ev) cfgs sts ctx
  rw [h] at this
  exact this rfl

theorem brk_settled {cfgs : List StageCfg} {sts s' : List StageSt} {ctx : Ctx} {o : List Ctx}
    (h : processP ev cfgs sts ctx = (s', o, .brk)) (_hs : Shape cfgs sts) : Settled ev cfgs s' :=
  brk_settled' h

variable (ev)

/-- never stopping early delivers the same rows as stopping at the first `Break` -/
theorem runAll_eq_runP' (cfgs : List StageCfg) (sts : List StageSt) (rows : List Ctx) :
    runAll ev cfgs sts rows = runP ev cfgs sts rows := by
  induction rows generalizing sts with
  | nil => rw [runAll_nil, runP, feedBrk_nil]; rfl
  | cons x rows ih =>
    rw [runAll_cons]
    rcases hr : processP ev cfgs sts x with ⟨s1, o1, d⟩
    cases d with
    | brk => rw [runP, feedBrk_cons_brk hr, brk_settled' hr rows]
    | cont => rw [ih, runP, runP, feedBrk_cons_cont hr, List.append_assoc]

theorem runAll_eq_runP {cfgs : List StageCfg} {sts : List StageSt} (_hs : Shape cfgs sts)
    (rows : List Ctx) : runAll ev cfgs sts rows = runP ev cfgs sts rows :=
  runAll_eq_runP' ev cfgs sts rows

/-! ### the remaining stages as list functions -/

/-- feeding `A ++ B` without ever stopping = feeding `A` until `Break`, then `B` without stopping -/
theorem runAll_append_feedBrk (cs : List StageCfg) (s : List StageSt) (A B : List Ctx) :
    runAll ev cs s (A ++ B)
      = (feedBrk (processP ev cs) s A).2.1 ++ runAll ev cs (feedBrk (processP ev cs) s A).1 B := by
  induction A generalizing s with
  | nil => simp [feedBrk_nil]
  | cons x A ih =>
    rw [List.cons_append, runAll_cons]
    rcases hr : processP ev cs s x with ⟨s1, o1, d⟩
    cases d with
    | brk =>
      rw [feedBrk_cons_brk hr]
      simp only []
      rw [brk_settled' hr (A ++ B), brk_settled' hr B]
    | cont =>
      rw [feedBrk_cons_cont hr]
      simp only [ih, List.append_assoc]

theorem runAll_split (e : Expr) (cs : List StageCfg) (st : StageSt) (s : List StageSt)
    (rows : List Ctx) :
    runAll ev (.split e :: cs) (st :: s) rows
      = runAll ev cs s (rows.flatMap (fun c => match ev e c with
          | some (.arr l) => l.map c.withInput
          | _ => [])) := by
  induction rows generalizing s with
  | nil => simp [runAll_nil, completeP]
  | cons x rows ih =>
    rw [runAll_cons, List.flatMap_cons]
    simp only [processP]
    split
    · rename_i l h
      simp only [h]
      rw [runAll_append_feedBrk, ih]
    · rename_i h
      simp only [List.nil_append, ih]

/-- the sorter's buffer after `rows`, starting from `(data, space)` -/
def sortFold (key : Expr) (desc : Bool) (st : Buckets × Option Nat) (rows : List Ctx) :
    Buckets × Option Nat :=
  (keyed ev key rows).foldl (fun s r => sortStep desc r.1 r.2 s) st

theorem feedAll_sort (key : Expr) (desc : Bool) (cs : List StageCfg) (data : Buckets)
    (space : Option Nat) (s : List StageSt) (rows : List Ctx) :
    feedAll (processP ev (.sort key desc :: cs)) (.sort data space :: s) rows
      = (.sort (sortFold ev key desc (data, space) rows).1 (sortFold ev key desc (data, space) rows).2 :: s,
         []) := by
  induction rows generalizing data space with
  | nil => rfl
  | cons x rows ih =>
    rw [feedAll_cons]
    cases h : ev key x with
    | none =>
      have e1 : processP ev (.sort key desc :: cs) (.sort data space :: s) x
          = (.sort data space :: s, [], .cont) := by simp [processP, h]
      have e2 : sortFold ev key desc (data, space) (x :: rows)
          = sortFold ev key desc (data, space) rows := by simp [sortFold, keyed, h]
      rw [e1, e2]
      simp only [ih, List.nil_append]
    | some k =>
      have e1 : processP ev (.sort key desc :: cs) (.sort data space :: s) x
          = (.sort (sortStep desc k x (data, space)).1 (sortStep desc k x (data, space)).2 :: s,
              [], .cont) := by simp [processP, h]
      have e2 : sortFold ev key desc (data, space) (x :: rows)
          = sortFold ev key desc (sortStep desc k x (data, space)) rows := by
        simp [sortFold, keyed, h]
      rw [e1, e2]
      simp only [ih, List.nil_append]

/-- the sorter buffers everything; at the end of input its successor sees the emitted buffer -/
theorem runAll_sort (key : Expr) (desc : Bool) (cs : List StageCfg) (data : Buckets)
    (space : Option Nat) (s : List StageSt) (rows : List Ctx) :
    runAll ev (.sort key desc :: cs) (.sort data space :: s) rows
      = runAll ev cs s (bucketsEmit desc (sortFold ev key desc (data, space) rows).1) := by
  simp only [runAll, feedAll_sort, completeP, List.nil_append]

/-- from the empty buffer: the (bounded) stable sort -/
theorem bucketsEmit_sortFold_init (key : Expr) (desc : Bool) (space : Option Nat) (rows : List Ctx) :
    bucketsEmit desc (sortFold ev key desc ([], space) rows).1
      = stageSpec ev (.sort key desc) space rows := by
  cases space with
  | none =>
    exact BucketSort.bucketsEmit_runUnbounded Order.cmp_total_preorder desc (keyed ev key rows)
  | some cap =>
    exact BucketSort.bucketsEmit_run Order.cmp_total_preorder desc cap (keyed ev key rows)

theorem runAll_sort_init (key : Expr) (desc : Bool) (cs : List StageCfg) (space : Option Nat)
    (s : List StageSt) (rows : List Ctx) :
    runAll ev (.sort key desc :: cs) (.sort [] space :: s) rows
      = runAll ev cs s (stageSpec ev (.sort key desc) space rows) := by
  rw [runAll_sort, bucketsEmit_sortFold_init]

/-- the group object after `rows`, starting from `data` -/
def groupFold (e : Expr) (data : List (Str × List JV)) (rows : List Ctx) : List (Str × List JV) :=
  rows.foldl (fun data c => match ev e c with
    | some (.str k) => groupInsert k c.build data
    | _ => data) data

theorem groupOf_eq_groupFold (e : Expr) (rows : List Ctx) : groupOf ev e rows = groupFold ev e [] rows :=
  rfl

/-- one step of the grouper on its object -/
def groupStep (e : Expr) (data : List (Str × List JV)) (c : Ctx) : List (Str × List JV) :=
  match ev e c with
  | some (.str k) => groupInsert k c.build data
  | _ => data

theorem groupFold_cons (e : Expr) (data : List (Str × List JV)) (c : Ctx) (rows : List Ctx) :
    groupFold ev e data (c :: rows) = groupFold ev e (groupStep ev e data c) rows := rfl

theorem feedAll_group (e : Expr) (cs : List StageCfg) (data : List (Str × List JV))
    (s : List StageSt) (rows : List Ctx) :
    feedAll (processP ev (.group e :: cs)) (.group data :: s) rows
      = (.group (groupFold ev e data rows) :: s, []) := by
  induction rows generalizing data with
  | nil => rfl
  | cons x rows ih =>
    rw [feedAll_cons]
    have e1 : processP ev (.group e :: cs) (.group data :: s) x
        = (.group (groupStep ev e data x) :: s, [], .cont) := by
      unfold groupStep
      cases h : ev e x with
      | none => simp [processP, h]
      | some v => cases v <;> simp [processP, h]
    rw [e1, groupFold_cons]
    simp only [ih, List.nil_append]

theorem runAll_group (e : Expr) (cs : List StageCfg) (data : List (Str × List JV))
    (s : List StageSt) (rows : List Ctx) :
    runAll ev (.group e :: cs) (.group data :: s) rows
      = (processP ev cs s { input := groupValue (groupFold ev e data rows) }).2.1 := by
  simp only [runAll, feedAll_group, completeP, List.nil_append]

theorem feedAll_merge (cs : List StageCfg) (data : List JV) (s : List StageSt) (rows : List Ctx) :
    feedAll (processP ev (.merge :: cs)) (.merge data :: s) rows
      = (.merge (data ++ rows.map Ctx.build) :: s, []) := by
  induction rows generalizing data with
  | nil => simp [feedAll_nil]
  | cons x rows ih =>
    rw [feedAll_cons]
    have e1 : processP ev (.merge :: cs) (.merge data :: s) x
        = (.merge (data ++ [x.build]) :: s, [], .cont) := by simp [processP]
    rw [e1]
    simp only [ih, List.nil_append, List.map_cons, List.append_assoc, List.singleton_append]

theorem runAll_merge (cs : List StageCfg) (data : List JV) (s : List StageSt) (rows : List Ctx) :
    runAll ev (.merge :: cs) (.merge data :: s) rows
      = (processP ev cs s { input := .arr (data ++ rows.map Ctx.build) }).2.1 := by
  simp only [runAll, feedAll_merge, completeP, List.nil_append]

/-- the empty chain delivers every row to the sink -/
theorem runAll_nil_chain (s : List StageSt) (rows : List Ctx) : runAll ev [] s rows = rows := by
  induction rows generalizing s with
  | nil => simp [runAll_nil, completeP]
  | cons x rows ih => rw [runAll_cons]; simp [processP, ih]

/-! ### one lemma per stage for `runP` and a general own state -/

theorem runP_preset (vars : List (Str × JV)) (defs : List (Str × Expr)) (cs : List StageCfg)
    (st : StageSt) (s : List StageSt) (rows : List Ctx) :
    runP ev (.preset vars defs :: cs) (st :: s) rows
      = runP ev cs s (rows.map (fun c => (c.withVariables vars).withDefinitions defs)) := by
  rw [← runAll_eq_runP', ← runAll_eq_runP', runAll_preset]

theorem runP_split (e : Expr) (cs : List StageCfg) (st : StageSt) (s : List StageSt)
    (rows : List Ctx) :
    runP ev (.split e :: cs) (st :: s) rows
      = runP ev cs s (rows.flatMap (fun c => match ev e c with
          | some (.arr l) => l.map c.withInput
          | _ => [])) := by
  rw [← runAll_eq_runP', ← runAll_eq_runP', runAll_split]

theorem runP_filter (e : Expr) (cs : List StageCfg) (st : StageSt) (s : List StageSt)
    (rows : List Ctx) :
    runP ev (.filter e :: cs) (st :: s) rows
      = runP ev cs s (rows.filter (fun c => match ev e c with
          | some (.bool true) => true
          | _ => false)) := by
  rw [← runAll_eq_runP', ← runAll_eq_runP', runAll_filter]

theorem runP_select (name : Str) (e : Expr) (cs : List StageCfg) (st : StageSt)
    (s : List StageSt) (rows : List Ctx) :
    runP ev (.select name e :: cs) (st :: s) rows
      = runP ev cs s (rows.map (fun c => c.withResult name (ev e c))) := by
  rw [← runAll_eq_runP', ← runAll_eq_runP', runAll_select]

theorem runP_unique (cs : List StageCfg) (seen : List CtxKey) (s : List StageSt)
    (rows : List Ctx) :
    runP ev (.unique :: cs) (.unique seen :: s) rows = runP ev cs s (dedupFrom seen rows) := by
  rw [← runAll_eq_runP', ← runAll_eq_runP', runAll_unique]

theorem runP_limit (skip : Nat) (take : Option Nat) (cs : List StageCfg) (skipped passed : Nat)
    (s : List StageSt) (rows : List Ctx) :
    runP ev (.limit skip take :: cs) (.limit skipped passed :: s) rows
      = runP ev cs s (takeOpt (take.map (· - passed)) (rows.drop (skip - skipped))) := by
  rw [← runAll_eq_runP', ← runAll_eq_runP', runAll_limit]

theorem runP_sort (key : Expr) (desc : Bool) (cs : List StageCfg) (data : Buckets)
    (space : Option Nat) (s : List StageSt) (rows : List Ctx) :
    runP ev (.sort key desc :: cs) (.sort data space :: s) rows
      = runP ev cs s (bucketsEmit desc (sortFold ev key desc (data, space) rows).1) := by
  rw [← runAll_eq_runP', ← runAll_eq_runP', runAll_sort]

theorem runP_sort_init (key : Expr) (desc : Bool) (cs : List StageCfg) (space : Option Nat)
    (s : List StageSt) (rows : List Ctx) :
    runP ev (.sort key desc :: cs) (.sort [] space :: s) rows
      = runP ev cs s (takeOpt space
          ((SortSpec.sortDir JV.cmp (·.1) desc (keyed ev key rows)).map (·.2))) := by
  rw [← runAll_eq_runP', ← runAll_eq_runP', runAll_sort_init]
  rfl

theorem runP_group (e : Expr) (cs : List StageCfg) (data : List (Str × List JV))
    (s : List StageSt) (rows : List Ctx) :
    runP ev (.group e :: cs) (.group data :: s) rows
      = (processP ev cs s { input := groupValue (groupFold ev e data rows) }).2.1 := by
  rw [← runAll_eq_runP', runAll_group]

theorem runP_group_last (e : Expr) (data : List (Str × List JV)) (s : List StageSt)
    (rows : List Ctx) :
    runP ev [.group e] (.group data :: s) rows
      = [{ input := groupValue (groupFold ev e data rows) }] := by
  rw [runP_group]; rfl

theorem runP_merge (cs : List StageCfg) (data : List JV) (s : List StageSt) (rows : List Ctx) :
    runP ev (.merge :: cs) (.merge data :: s) rows
      = (processP ev cs s { input := .arr (data ++ rows.map Ctx.build) }).2.1 := by
  rw [← runAll_eq_runP', runAll_merge]

theorem runP_merge_last (data : List JV) (s : List StageSt) (rows : List Ctx) :
    runP ev [.merge] (.merge data :: s) rows = [{ input := .arr (data ++ rows.map Ctx.build) }] := by
  rw [runP_merge]; rfl

theorem runP_nil_chain (s : List StageSt) (rows : List Ctx) : runP ev [] s rows = rows := by
  rw [← runAll_eq_runP', runAll_nil_chain]

/-! ### the machine computes the documented composition -/

theorem Initial.shape : ∀ {cfgs : List StageCfg} {sts : List StageSt},
    Initial cfgs sts → Shape cfgs sts := by
  intro cfgs
  induction cfgs with
  | nil => intro sts _; trivial
  | cons c cs ih =>
    intro sts h
    cases sts with
    | nil => exact h.elim
    | cons st sts =>
      refine ⟨?_, ih h.2⟩
      have hc := h.1
      cases c <;> cases st <;> first | trivial | exact hc.elim

theorem runAll_eq_spec (cfgs : List StageCfg) (sts : List StageSt) (rows : List Ctx)
    (hi : Initial cfgs sts) (hg : GroupLast cfgs) :
    runAll ev cfgs sts rows = specRows ev cfgs sts rows := by
  induction cfgs generalizing sts rows with
  | nil => simp [runAll_nil_chain, specRows]
  | cons c cs ih =>
    cases sts with
    | nil => exact hi.elim
    | cons st sts =>
      obtain ⟨hc, hi'⟩ := hi
      cases c with
      | preset vars defs => rw [runAll_preset, ih _ _ hi' hg]; rfl
      | split e => rw [runAll_split, ih _ _ hi' hg]; rfl
      | filter e => rw [runAll_filter, ih _ _ hi' hg]; rfl
      | select name e => rw [runAll_select, ih _ _ hi' hg]; rfl
      | unique =>
        cases st <;> try (exact hc.elim)
        rename_i seen
        have : seen = [] := hc
        subst this
        rw [runAll_unique, ih _ _ hi' hg]; rfl
      | sort key desc =>
        cases st <;> try (exact hc.elim)
        rename_i data space
        have : data = [] := hc
        subst this
        rw [runAll_sort_init, ih _ _ hi' hg]; rfl
      | limit skip take =>
        cases st <;> try (exact hc.elim)
        rename_i skipped passed
        have : skipped = 0 ∧ passed = 0 := hc
        obtain ⟨rfl, rfl⟩ := this
        rw [runAll_limit, ih _ _ hi' hg]
        cases take <;> rfl
      | group e =>
        cases st <;> try (exact hc.elim)
        rename_i data
        have : data = [] := hc
        subst this
        have : cs = [] := hg
        subst this
        rw [runAll_group]; rfl
      | merge =>
        cases st <;> try (exact hc.elim)
        rename_i data
        have : data = [] := hc
        subst this
        have : cs = [] := hg
        subst this
        rw [runAll_merge]; rfl

/-- from its initial states, a chain whose grouper/merger (if any) is last delivers to
the sink exactly the rows of the documented composition -/
theorem runP_eq_spec {cfgs : List StageCfg} {sts : List StageSt} (hi : Initial cfgs sts)
    (hg : GroupLast cfgs) (rows : List Ctx) :
    runP ev cfgs sts rows = specRows ev cfgs sts rows := by
  rw [← runAll_eq_runP', runAll_eq_spec ev cfgs sts rows hi hg]

/-- non-vacuity of `brk_settled`: a limiter with `take = 0` answers `Break` at once -/
example (ctx : Ctx) :
    processP ev [.limit 0 (some 0)] [.limit 0 0] ctx = ([.limit 0 0], [], .brk)
      ∧ Shape [.limit 0 (some 0)] [.limit 0 0] := by
  simp [processP, Shape]

/-- non-vacuity of `runP_eq_spec`: the hypotheses hold for a chain with every kind of stateful stage -/
example : Initial exampleChain exampleStates ∧ GroupLast exampleChain := by
  simp [exampleChain, exampleStates, Initial, GroupLast]

example (rows : List Ctx) :
    runP ev exampleChain exampleStates rows = specRows ev exampleChain exampleStates rows :=
  runP_eq_spec ev (by simp [exampleChain, exampleStates, Initial])
    (by simp [exampleChain, GroupLast]) rows

/-! ### layers 1 → 3 -/

/-- end to end: when no expression aborts and the writer never fails, the model of the `Process`
chain, started from its initial states and driven as `go` drives it, writes exactly the sink's bytes
of the rows of the documented composition -/
theorem total_spec (orc : Oracles) (sink : SinkCfg) (n : Nat) {cfgs : List StageCfg}
    {sts : List StageSt} (w : Writer) (rows : List Ctx)
    (hna : NoAbort orc cfgs) (hw : Unbounded w) (hi : Initial cfgs sts) (hg : GroupLast cfgs) :
    (feedUntilBreak (process orc sink n cfgs) sts w rows >>= fun r =>
        complete orc sink n cfgs r.1.sts r.1.w)
      = .ok (wappend w ((specRows (evalT orc) cfgs sts rows).flatMap (sinkBytes sink n))) := by
  rw [total_pure orc sink n cfgs sts w rows hna hw hi.shape, runP_eq_spec (evalT orc) hi hg]

/-! ### corollaries cited by the properties -/

/-- `--skip 0` without `--take` is the identity -/
theorem limit_zero_none_id (cap : Option Nat) (rows : List Ctx) :
    stageSpec ev (.limit 0 none) cap rows = rows := rfl

/-- the composition splits at any point of the chain (states aligned with stages) -/
theorem specRows_append (pre post : List StageCfg) (spre spost : List StageSt) (rows : List Ctx)
    (hlen : spre.length = pre.length) :
    specRows ev (pre ++ post) (spre ++ spost) rows
      = specRows ev post spost (specRows ev pre spre rows) := by
  induction pre generalizing spre rows with
  | nil =>
    have : spre = [] := List.eq_nil_of_length_eq_zero hlen
    subst this
    simp [specRows]
  | cons c pre ih =>
    cases spre with
    | nil => simp at hlen
    | cons st spre =>
      simp only [List.cons_append, specRows]
      exact ih spre _ (by simpa using hlen)

theorem Initial.append {pre post : List StageCfg} {spre spost : List StageSt}
    (hlen : spre.length = pre.length) (h1 : Initial pre spre) (h2 : Initial post spost) :
    Initial (pre ++ post) (spre ++ spost) := by
  induction pre generalizing spre with
  | nil =>
    have : spre = [] := List.eq_nil_of_length_eq_zero hlen
    subst this
    exact h2
  | cons c pre ih =>
    cases spre with
    | nil => simp at hlen
    | cons st spre => exact ⟨h1.1, ih (by simpa using hlen) h1.2⟩

theorem GroupLast.prefix {pre post : List StageCfg} (h : GroupLast (pre ++ post)) : GroupLast pre := by
  induction pre with
  | nil => trivial
  | cons c pre ih =>
    cases c with
    | group e =>
      have : pre ++ post = [] := h
      exact (List.append_eq_nil_iff.mp this).1
    | merge =>
      have : pre ++ post = [] := h
      exact (List.append_eq_nil_iff.mp this).1
    | _ => exact ih h

/-- a chain followed by one more stage delivers that stage's list function applied to what the
chain delivers (`skip_take_window`, `group_emits_once`, `merge_emits_once`, `unique_last` are instances) -/
theorem runP_snoc (pre : List StageCfg) (spre : List StageSt) (c : StageCfg) (st : StageSt)
    (rows : List Ctx) (hlen : spre.length = pre.length) (hi : Initial pre spre)
    (hc : Initial [c] [st]) (hg : GroupLast (pre ++ [c])) :
    runP ev (pre ++ [c]) (spre ++ [st]) rows = stageSpec ev c (capOf st) (runP ev pre spre rows) := by
  rw [runP_eq_spec ev (hi.append hlen hc) hg, runP_eq_spec ev hi hg.prefix,
    specRows_append ev _ _ _ _ _ hlen]
  rfl

/-- C08 `skip_take_window`: a limiter at the end of the chain delivers the window
`[skip, skip + take)` of what the chain before it delivers -/
theorem skip_take_window (pre : List StageCfg) (spre : List StageSt) (skip : Nat) (take : Option Nat)
    (rows : List Ctx) (hlen : spre.length = pre.length) (hi : Initial pre spre)
    (hg : GroupLast (pre ++ [.limit skip take])) :
    runP ev (pre ++ [.limit skip take]) (spre ++ [.limit 0 0]) rows
      = takeOpt take ((runP ev pre spre rows).drop skip) :=
  runP_snoc ev pre spre (.limit skip take) (.limit 0 0) rows hlen hi ⟨⟨rfl, rfl⟩, trivial⟩ hg

/-- why `skip_take_window` needs `spre.length = pre.length`: `Initial [] [.none]` holds, but the
extra state misaligns the limiter's own state and nothing is delivered -/
example (c : Ctx) :
    Initial [] [StageSt.none]
      ∧ runP ev ([] ++ [.limit 0 none]) ([.none] ++ [.limit 0 0]) [c] = []
      ∧ takeOpt none ((runP ev [] [.none] [c]).drop 0) = [c] := by
  simp [runP, feedBrk, processP, completeP, takeOpt, Initial]

/-- C08 in the middle of a chain: the limiter hands the window to the stages after it -/
theorem specRows_limit_window (pre post : List StageCfg) (spre spost : List StageSt) (skip : Nat)
    (take : Option Nat) (st : StageSt) (rows : List Ctx) (hlen : spre.length = pre.length) :
    specRows ev (pre ++ .limit skip take :: post) (spre ++ st :: spost) rows
      = specRows ev post spost (takeOpt take ((specRows ev pre spre rows).drop skip)) := by
  rw [specRows_append ev _ _ _ _ _ hlen]
  rfl

theorem take_drop_take {α : Type} (L : List α) (skip t c : Nat) (h : skip + t ≤ c) :
    ((L.take c).drop skip).take t = (L.drop skip).take t := by
  rw [List.drop_take, List.take_take]
  congr 1
  omega

/-- the pure list fact behind the top-N shortcut -/
theorem takeOpt_drop_takeOpt {α : Type} (L : List α) (skip t c : Nat) (h : skip + t ≤ c) :
    takeOpt (some t) ((takeOpt (some c) L).drop skip) = takeOpt (some t) (L.drop skip) :=
  take_drop_take L skip t c h

/-- C08, the top-N shortcut: a sorter bounded by `c ≥ skip + t` directly followed by
`--skip skip --take t` yields the same rows as the unbounded sorter -/
theorem topN_shortcut (key : Expr) (desc : Bool) (skip t c : Nat) (h : skip + t ≤ c)
    (post : List StageCfg) (d1 d2 : Buckets) (l1 l2 : StageSt) (spost : List StageSt)
    (rows : List Ctx) :
    specRows ev (.sort key desc :: .limit skip (some t) :: post)
        (.sort d1 (some c) :: l1 :: spost) rows
      = specRows ev (.sort key desc :: .limit skip (some t) :: post)
        (.sort d2 none :: l2 :: spost) rows := by
  simp only [specRows, stageSpec, capOf]
  rw [takeOpt_drop_takeOpt _ skip t c h]
  rfl

theorem topN_shortcut_runP (key : Expr) (desc : Bool) (skip t c : Nat) (h : skip + t ≤ c)
    {post : List StageCfg} {spost : List StageSt} (hi : Initial post spost) (hg : GroupLast post)
    (rows : List Ctx) :
    runP ev (.sort key desc :: .limit skip (some t) :: post)
        (.sort [] (some c) :: .limit 0 0 :: spost) rows
      = runP ev (.sort key desc :: .limit skip (some t) :: post)
        (.sort [] none :: .limit 0 0 :: spost) rows := by
  have hi1 : Initial (.sort key desc :: .limit skip (some t) :: post)
      (.sort [] (some c) :: .limit 0 0 :: spost) := ⟨rfl, ⟨rfl, rfl⟩, hi⟩
  have hi2 : Initial (.sort key desc :: .limit skip (some t) :: post)
      (.sort [] none :: .limit 0 0 :: spost) := ⟨rfl, ⟨rfl, rfl⟩, hi⟩
  have hg' : GroupLast (.sort key desc :: .limit skip (some t) :: post) := hg
  rw [runP_eq_spec ev hi1 hg', runP_eq_spec ev hi2 hg']
  exact topN_shortcut ev key desc skip t c h post _ _ _ _ spost rows

/-- the stages that look at one row at a time -/
def StageCfg.stateless : StageCfg → Bool
  | .preset _ _ => true
  | .split _ => true
  | .filter _ => true
  | .select _ _ => true
  | _ => false

theorem specRows_stateless_nil (cfgs : List StageCfg) (sts : List StageSt)
    (h : ∀ c ∈ cfgs, StageCfg.stateless c = true) : specRows ev cfgs sts [] = [] := by
  induction cfgs generalizing sts with
  | nil => rfl
  | cons c cs ih =>
    cases sts with
    | nil => rfl
    | cons st sts =>
      have hc := h c List.mem_cons_self
      have ih' := ih sts (fun c hc => h c (List.mem_cons_of_mem _ hc))
      cases c <;> first | exact ih' | exact absurd hc (by simp [StageCfg.stateless])

/-- C11 `stateless_hom`: a chain of per-row stages distributes over concatenation of the input -/
theorem stateless_hom (cfgs : List StageCfg) (sts : List StageSt)
    (h : ∀ c ∈ cfgs, StageCfg.stateless c = true) (A B : List Ctx) :
    specRows ev cfgs sts (A ++ B) = specRows ev cfgs sts A ++ specRows ev cfgs sts B := by
  induction cfgs generalizing sts A B with
  | nil => rfl
  | cons c cs ih =>
    cases sts with
    | nil => rfl
    | cons st sts =>
      have hc := h c List.mem_cons_self
      have ih' := ih sts (fun c hc => h c (List.mem_cons_of_mem _ hc))
      cases c with
      | preset vars defs => simp only [specRows, stageSpec, List.map_append, ih']
      | split e => simp only [specRows, stageSpec, List.flatMap_append, ih']
      | filter e => simp only [specRows, stageSpec, List.filter_append, ih']
      | select name e => simp only [specRows, stageSpec, List.map_append, ih']
      | _ => exact absurd hc (by simp [StageCfg.stateless])

/-- C11: the output is the concatenation of the outputs for the rows taken one at a time -/
theorem stateless_flatMap (cfgs : List StageCfg) (sts : List StageSt)
    (h : ∀ c ∈ cfgs, StageCfg.stateless c = true) (rows : List Ctx) :
    specRows ev cfgs sts rows = rows.flatMap (fun r => specRows ev cfgs sts [r]) := by
  induction rows with
  | nil => simp [specRows_stateless_nil ev cfgs sts h]
  | cons r rows ih =>
    rw [List.flatMap_cons, ← ih, ← stateless_hom ev cfgs sts h]
    rfl

/-- every state is initial for a stateless stage -/
theorem initial_of_stateless : ∀ (cfgs : List StageCfg) (sts : List StageSt),
    (∀ c ∈ cfgs, StageCfg.stateless c = true) → sts.length = cfgs.length →
    Initial cfgs sts ∧ GroupLast cfgs := by
  intro cfgs
  induction cfgs with
  | nil => intro sts _ _; exact ⟨trivial, trivial⟩
  | cons c cs ih =>
    intro sts h hlen
    cases sts with
    | nil => simp at hlen
    | cons st sts =>
      have hc := h c List.mem_cons_self
      obtain ⟨i1, i2⟩ := ih sts (fun c hc => h c (List.mem_cons_of_mem _ hc)) (by simpa using hlen)
      cases c <;> first
        | exact ⟨⟨trivial, i1⟩, i2⟩
        | exact absurd hc (by simp [StageCfg.stateless])

/-- C11 for the machine itself -/
theorem stateless_hom_runP (cfgs : List StageCfg) (sts : List StageSt)
    (h : ∀ c ∈ cfgs, StageCfg.stateless c = true) (hlen : sts.length = cfgs.length)
    (A B : List Ctx) :
    runP ev cfgs sts (A ++ B) = runP ev cfgs sts A ++ runP ev cfgs sts B := by
  obtain ⟨hi, hg⟩ := initial_of_stateless cfgs sts h hlen
  simp only [runP_eq_spec ev hi hg, stateless_hom ev cfgs sts h]

example : ∀ c ∈ [StageCfg.split (.extract 0 []), .filter (.extract 0 [Jawk.Step.key "k".toList]),
    .select "x".toList (.extract 0 [])], StageCfg.stateless c = true := by
  simp [StageCfg.stateless]

/-! #### C10: `--unique` -/

/-- the specification's `dedupFrom` is the keyed de-duplication of `Jawk/Lemmas/HashEq.lean` -/
theorem dedupFrom_eq_dedupOnAux (seen : List CtxKey) (rows : List Ctx) :
    dedupFrom seen rows = HashEq.dedupOnAux CtxKey.same Ctx.key seen rows := by
  induction rows generalizing seen with
  | nil => rfl
  | cons c cs ih => simp only [dedupFrom, HashEq.dedupOnAux, ih]

theorem dedupFrom_sublist (seen : List CtxKey) (rows : List Ctx) :
    (dedupFrom seen rows).Sublist rows := by
  rw [dedupFrom_eq_dedupOnAux]
  exact HashEq.dedupOnAux_sublist _ _ seen rows

/-- the first row is always kept -/
theorem dedupFrom_first (c : Ctx) (rows : List Ctx) :
    dedupFrom [] (c :: rows) = c :: dedupFrom [c.key] rows := by
  simp [dedupFrom]

theorem dedupFrom_append (seen : List CtxKey) (A B : List Ctx) :
    dedupFrom seen (A ++ B)
      = dedupFrom seen A ++ dedupFrom (seen ++ (dedupFrom seen A).map Ctx.key) B := by
  induction A generalizing seen with
  | nil => simp [dedupFrom]
  | cons x A ih =>
    simp only [List.cons_append, dedupFrom]
    split
    · exact ih seen
    · simp only [ih, List.cons_append, List.map_cons, List.append_assoc, List.nil_append]

/-- a row is dropped iff an earlier KEPT row has the same key; what follows only depends on the keys kept -/
theorem dedup_drop_iff (pre : List Ctx) (c : Ctx) (post : List Ctx) :
    dedupFrom [] (pre ++ c :: post)
      = if (dedupFrom [] pre).any (fun r => CtxKey.same r.key c.key) then
          dedupFrom [] pre ++ dedupFrom ((dedupFrom [] pre).map Ctx.key) post
        else
          dedupFrom [] pre ++ c :: dedupFrom ((dedupFrom [] pre).map Ctx.key ++ [c.key]) post := by
  rw [dedupFrom_append]
  simp only [List.nil_append, dedupFrom, List.any_map]
  have : ((fun s => CtxKey.same s c.key) ∘ Ctx.key) = fun r => CtxKey.same r.key c.key := rfl
  rw [this]
  split <;> rfl

/-- no kept row has the key of an earlier kept row, nor a key already seen -/
theorem dedupFrom_distinct (seen : List CtxKey) (rows : List Ctx) :
    (dedupFrom seen rows).Pairwise (fun a b => CtxKey.same a.key b.key = false)
      ∧ ∀ s ∈ seen, ∀ r ∈ dedupFrom seen rows, CtxKey.same s r.key = false := by
  have hk : (dedupFrom seen rows).map Ctx.key = HashEq.dedupAux CtxKey.same seen (rows.map Ctx.key) := by
    rw [dedupFrom_eq_dedupOnAux, HashEq.dedupOnAux_map]
  constructor
  · have := HashEq.dedupAux_pairwise CtxKey.same seen (rows.map Ctx.key)
    rwa [← hk, List.pairwise_map] at this
  · intro s hs r hr
    exact HashEq.dedupAux_not_seen CtxKey.same seen (rows.map Ctx.key) s hs r.key
      (hk ▸ List.mem_map_of_mem hr)

/-- C10 at the end of a chain -/
theorem unique_last (pre : List StageCfg) (spre : List StageSt) (rows : List Ctx)
    (hlen : spre.length = pre.length) (hi : Initial pre spre) (hg : GroupLast (pre ++ [.unique])) :
    runP ev (pre ++ [.unique]) (spre ++ [.unique []]) rows = dedupFrom [] (runP ev pre spre rows) :=
  runP_snoc ev pre spre .unique (.unique []) rows hlen hi ⟨rfl, trivial⟩ hg

/-! #### C09: `--group-by` / `--merge` -/

/-- C09 `group_emits_once`: the grouper emits exactly one row at the end of input, the object of
the groups of what the chain before it delivers -/
theorem group_emits_once (pre : List StageCfg) (spre : List StageSt) (e : Expr) (rows : List Ctx)
    (hlen : spre.length = pre.length) (hi : Initial pre spre) (hg : GroupLast (pre ++ [.group e])) :
    runP ev (pre ++ [.group e]) (spre ++ [.group []]) rows
      = [{ input := groupValue (groupOf ev e (runP ev pre spre rows)) }] :=
  runP_snoc ev pre spre (.group e) (.group []) rows hlen hi ⟨rfl, trivial⟩ hg

theorem merge_emits_once (pre : List StageCfg) (spre : List StageSt) (rows : List Ctx)
    (hlen : spre.length = pre.length) (hi : Initial pre spre) (hg : GroupLast (pre ++ [.merge])) :
    runP ev (pre ++ [.merge]) (spre ++ [.merge []]) rows
      = [{ input := .arr ((runP ev pre spre rows).map Ctx.build) }] :=
  runP_snoc ev pre spre .merge (.merge []) rows hlen hi ⟨rfl, trivial⟩ hg

/-- even with no input at all -/
theorem group_emits_once_empty (e : Expr) :
    runP ev [.group e] [.group []] [] = [{ input := .obj [] }] := rfl

theorem merge_emits_once_empty : runP ev [.merge] [.merge []] [] = [{ input := .arr [] }] := rfl

/-- the (decidable) test "the group key of `c` is the string `k`" -/
def hasKey (e : Expr) (k : Str) (c : Ctx) : Bool :=
  match ev e c with
  | some (.str k') => k' == k
  | _ => false

theorem groupInsert_keys (k : Str) (v : JV) (data : List (Str × List JV)) :
    (groupInsert k v data).map (·.1)
      = if k ∈ data.map (·.1) then data.map (·.1) else data.map (·.1) ++ [k] := by
  induction data with
  | nil => simp [groupInsert]
  | cons b rest ih =>
    obtain ⟨k0, vs⟩ := b
    simp only [groupInsert]
    split
    · rename_i h
      simp [h]
    · rename_i h
      have : ¬ k = k0 := fun h' => h h'.symm
      simp only [List.map_cons, ih, List.mem_cons, this, false_or]
      split <;> simp

theorem lookup_groupInsert (k k' : Str) (v : JV) (data : List (Str × List JV)) :
    (groupInsert k' v data).lookup k
      = if k' = k then some ((data.lookup k).getD [] ++ [v]) else data.lookup k := by
  induction data with
  | nil =>
    simp only [groupInsert, List.lookup_cons, List.lookup_nil]
    by_cases h : k' = k
    · subst h; simp
    · have : (k == k') = false := by simpa using fun h' => h h'.symm
      simp [this, h]
  | cons b rest ih =>
    obtain ⟨k0, vs⟩ := b
    simp only [groupInsert]
    by_cases h0 : k0 = k'
    · subst h0
      simp only [↓reduceIte, List.lookup_cons]
      by_cases h : k0 = k
      · subst h; simp
      · have : (k == k0) = false := by simpa using fun h' => h h'.symm
        simp [this, h]
    · simp only [h0, ↓reduceIte, List.lookup_cons, ih]
      by_cases h : k' = k
      · subst h
        have : (k' == k0) = false := by simpa using fun h' => h0 h'.symm
        simp [this]
      · simp [h]

theorem groupFold_snoc (e : Expr) (data : List (Str × List JV)) (rows : List Ctx) (c : Ctx) :
    groupFold ev e data (rows ++ [c]) = groupStep ev e (groupFold ev e data rows) c := by
  simp [groupFold, groupStep, List.foldl_append]

theorem groupStep_keys (e : Expr) (data : List (Str × List JV)) (c : Ctx) :
    (groupStep ev e data c).map (·.1)
      = match ev e c with
        | some (.str k) => if k ∈ data.map (·.1) then data.map (·.1) else data.map (·.1) ++ [k]
        | _ => data.map (·.1) := by
  unfold groupStep
  split
  · rename_i k h; simp only [groupInsert_keys]
  · rfl

theorem groupStep_lookup (e : Expr) (k : Str) (data : List (Str × List JV)) (c : Ctx) :
    (groupStep ev e data c).lookup k
      = if hasKey ev e k c then some ((data.lookup k).getD [] ++ [c.build]) else data.lookup k := by
  unfold groupStep hasKey
  cases h : ev e c with
  | none => simp
  | some v =>
    cases v <;> try (simp; done)
    rename_i k'
    simp only [lookup_groupInsert, beq_iff_eq]

/-- the keys of the group object are distinct -/
theorem groupFold_keys_nodup (e : Expr) (data : List (Str × List JV)) (rows : List Ctx)
    (h : (data.map (·.1)).Nodup) : ((groupFold ev e data rows).map (·.1)).Nodup := by
  induction rows generalizing data with
  | nil => exact h
  | cons c rows ih =>
    rw [groupFold_cons]
    apply ih
    rw [groupStep_keys]
    split
    · split
      · exact h
      · rename_i hk
        exact List.nodup_append.mpr ⟨h, by simp, fun a ha b hb => by
          rw [List.mem_singleton.mp hb]; exact fun h' => hk (h' ▸ ha)⟩
    · exact h

theorem groupOf_keys_nodup (e : Expr) (rows : List Ctx) : ((groupOf ev e rows).map (·.1)).Nodup :=
  groupFold_keys_nodup ev e [] rows List.nodup_nil

/-- first-seen order: a key is appended at the end the first time it is seen, and never moves -/
theorem groupOf_keys_snoc (e : Expr) (rows : List Ctx) (c : Ctx) :
    (groupOf ev e (rows ++ [c])).map (·.1)
      = match ev e c with
        | some (.str k) =>
          if k ∈ (groupOf ev e rows).map (·.1) then (groupOf ev e rows).map (·.1)
          else (groupOf ev e rows).map (·.1) ++ [k]
        | _ => (groupOf ev e rows).map (·.1) := by
  rw [groupOf_eq_groupFold, groupFold_snoc, groupStep_keys]
  rfl

/-- the member list of key `k`: the rows with that key, in arrival order -/
theorem groupFold_lookup (e : Expr) (k : Str) (data : List (Str × List JV)) (rows : List Ctx) :
    (groupFold ev e data rows).lookup k
      = if (data.lookup k).isSome || rows.any (hasKey ev e k) then
          some ((data.lookup k).getD [] ++ (rows.filter (hasKey ev e k)).map Ctx.build)
        else none := by
  induction rows generalizing data with
  | nil =>
    show data.lookup k = _
    generalize data.lookup k = o
    cases o <;> simp
  | cons c rows ih =>
    rw [groupFold_cons, ih, groupStep_lookup, List.any_cons, List.filter_cons]
    cases hasKey ev e k c with
    | true => simp
    | false =>
      simp only [Bool.false_or, Bool.false_eq_true, ↓reduceIte]

theorem groupOf_lookup (e : Expr) (k : Str) (rows : List Ctx)
    (h : rows.any (hasKey ev e k) = true) :
    (groupOf ev e rows).lookup k = some ((rows.filter (hasKey ev e k)).map Ctx.build) := by
  rw [groupOf_eq_groupFold, groupFold_lookup]
  simp [h]

theorem groupOf_lookup_none (e : Expr) (k : Str) (rows : List Ctx)
    (h : rows.any (hasKey ev e k) = false) : (groupOf ev e rows).lookup k = none := by
  rw [groupOf_eq_groupFold, groupFold_lookup]
  simp [h]

theorem mem_groupStep_keys (e : Expr) (k : Str) (data : List (Str × List JV)) (c : Ctx) :
    k ∈ (groupStep ev e data c).map (·.1) ↔ k ∈ data.map (·.1) ∨ hasKey ev e k c = true := by
  rw [groupStep_keys]
  unfold hasKey
  cases h : ev e c with
  | none => simp
  | some v =>
    cases v <;> try (simp; done)
    rename_i k'
    by_cases hk : k' ∈ data.map (·.1)
    · simp only [hk, if_true, beq_iff_eq]
      exact ⟨Or.inl, fun h => h.elim id (fun e => e ▸ hk)⟩
    · simp only [hk, if_false, List.mem_append, List.mem_singleton, beq_iff_eq]
      exact or_congr_right eq_comm

/-- a key is present iff some row has it -/
theorem groupOf_mem_keys (e : Expr) (k : Str) (rows : List Ctx) :
    k ∈ (groupOf ev e rows).map (·.1) ↔ rows.any (hasKey ev e k) = true := by
  suffices H : ∀ data : List (Str × List JV),
      k ∈ (groupFold ev e data rows).map (·.1) ↔ k ∈ data.map (·.1) ∨ rows.any (hasKey ev e k) = true by
    simpa [groupOf_eq_groupFold] using H []
  induction rows with
  | nil => intro data; simp [groupFold]
  | cons c rows ih =>
    intro data
    rw [groupFold_cons, ih, mem_groupStep_keys, List.any_cons, Bool.or_eq_true, or_assoc]

/-! #### non-vacuity of the corollaries -/

example : ([StageSt.none, .unique [], .sort [] (some 5)] : List StageSt).length
      = ([StageCfg.filter (.extract 0 []), .unique, .sort (.extract 0 []) true] : List StageCfg).length
    ∧ Initial [StageCfg.filter (.extract 0 []), .unique, .sort (.extract 0 []) true]
        [StageSt.none, .unique [], .sort [] (some 5)]
    ∧ GroupLast ([StageCfg.filter (.extract 0 []), .unique, .sort (.extract 0 []) true]
        ++ [.limit 1 (some 2)])
    ∧ GroupLast ([StageCfg.filter (.extract 0 []), .unique, .sort (.extract 0 []) true]
        ++ [.group (.extract 0 [])])
    ∧ GroupLast ([StageCfg.filter (.extract 0 []), .unique, .sort (.extract 0 []) true]
        ++ [.merge]) := by
  simp [Initial, GroupLast]

/-- `groupOf` on a concrete input: keys in first-seen order, members in arrival order -/
example :
    groupOf (fun _ c => some c.input) (.extract 0 [])
        [{ input := .str ['a'] }, { input := .str ['b'] }, { input := .null }, { input := .str ['a'] }]
      = [(['a'], [JV.str ['a'], JV.str ['a']]), (['b'], [JV.str ['b']])] := by
  simp [groupOf, groupInsert, Ctx.build]

example :
    ([{ input := .str ['a'] }, { input := .null }] : List Ctx).any
      (hasKey (fun _ c => some c.input) (.extract 0 []) ['a']) = true := by
  simp [hasKey]

end Jawk.Pipe
