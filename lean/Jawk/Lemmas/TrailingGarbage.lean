/-
  C18: trailing garbage after a getter is rejected in every option position
  (`parseWholeExpr_trailing_garbage`, `parseSelection_trailing_garbage`,
  `parsePreSet_trailing_garbage`, `parseSorter_unknown_direction`); `garbage_after_render` and
  `render_run` supply the run of the getter these assume, for rendered getters.
  (Namespace `Jawk.PR`, shared with ExprWellFormed.lean and ParseRender.lean.)
-/
import Jawk.Model.Run
import Jawk.Lemmas.ParseRender
namespace Jawk.PR
open Jawk Jawk.NoPanic Jawk.RT Reader

/-- the run of the getter that the theorems of this file assume, for a rendered getter followed
by any text `tail` that starts with a delimiter (with and without the leading `eat_whitespace`) -/
theorem render_run (st : Style) (hst : StyleOK st) (e : Expr) (he : WFR st.o e) (s : Str)
    (tail : List Byte) (hs : utf8 s = utf8 (render st e) ++ tail) (hd : DelimRest tail) :
    (∃ r2, readGetter (exprFuel s) (eatWhitespace (exprFuel s) (Reader.ofString s)).2 = (.ok e, r2) ∧
      Ready r2 tail) ∧
    (∃ r2, readGetter (exprFuel s) (Reader.ofString s) = (.ok e, r2) ∧ Ready r2 tail) := by
  obtain ⟨c, t, hct, hc, _⟩ := render_head st e he
  obtain ⟨r1, r2, h1, h2, hr2⟩ := getter_run ((spec_all st hst).1 e he) ⟨c, t, hct, hc⟩ s [] tail
    (fun _ hb => nomatch hb) hs hd
  refine ⟨⟨r2, by rw [h1]; exact h2, hr2⟩, ?_⟩
  exact (spec_all st hst).1 e he [] (fun _ hb => nomatch hb) tail hd (Reader.ofString s)
    (hs ▸ ready_ofBytes (utf8 s) _) (exprFuel s)
    (by unfold exprFuel; rw [hs]; simp only [List.length_nil, List.length_append]; omega)

theorem mem_takeWhile {α} (p : α → Bool) (l : List α) : ∀ x ∈ l.takeWhile p, p x = true := by
  induction l with
  | nil => intro x hx; cases hx
  | cons a l ih =>
    intro x hx
    rw [List.takeWhile_cons] at hx
    split at hx
    · rcases List.mem_cons.1 hx with rfl | hx
      · assumption
      · exact ih x hx
    · cases hx

/-- `eat_whitespace` on clean input, whatever the input is -/
theorem eatWhitespace_total (bs : List Byte) (r : Reader) (hr : Ready r bs) (fuel : Nat)
    (hf : bs.length < fuel) :
    ∃ r', eatWhitespace fuel r = (.ok (), r') ∧ Peeked r' (bs.dropWhile isWs) := by
  have hsplit : bs.takeWhile isWs ++ bs.dropWhile isWs = bs := List.takeWhile_append_dropWhile
  have hlen : (bs.takeWhile isWs).length ≤ bs.length := by
    have := congrArg List.length hsplit
    simp only [List.length_append] at this; omega
  refine eatWhitespace_ready (bs.takeWhile isWs) (mem_takeWhile isWs bs) (bs.dropWhile isWs) ?_ r
    (by rw [hsplit]; exact hr) fuel (by omega)
  intro b hb
  have := List.head?_dropWhile_not isWs bs
  rw [Option.mem_def.1 hb] at this
  exact this

/-- after the getter: white space, then a byte `b` that is not white space -/
theorem garbage_peek (ws : List Byte) (hws : ∀ x ∈ ws, isWs x = true) (b : Byte) (hb : isWs b = false)
    (rest : List Byte) (r : Reader) (hr : Ready r (ws ++ b :: rest)) (fuel : Nat) (hf : ws.length < fuel) :
    ∃ r', eatWhitespace fuel r = (.ok (), r') ∧ peek r' = (.ok (some b), r') := by
  obtain ⟨r', h, hr'⟩ := eatWhitespace_ready ws hws (b :: rest)
    (by intro x hx; simp at hx; subst hx; exact hb) r hr fuel hf
  exact ⟨r', h, peek_at hr'⟩

/-- `Filter/Splitter/Grouper::from_str`: if the getter has been read and, after
optional white space, a byte `b` is left, the text is rejected with `expectingEof … b`. -/
theorem parseWholeExpr_trailing_garbage (s : Str) (e : Expr) (r2 : Reader)
    (hget : readGetter (exprFuel s) (eatWhitespace (exprFuel s) (Reader.ofString s)).2 = (.ok e, r2))
    (ws : List Byte) (hws : ∀ x ∈ ws, isWs x = true) (b : Byte) (hb : isWs b = false) (rest : List Byte)
    (hr2 : Ready r2 (ws ++ b :: rest)) (hf : ws.length < exprFuel s) :
    ∃ loc, parseWholeExpr s = .error (.expectingEof loc b) ∧
      parseOptionExpr s = .error (exprErrText (.expectingEof loc b)) := by
  obtain ⟨r1, h1, _⟩ := eatWhitespace_total (utf8 s) (Reader.ofString s) (ready_ofBytes _ _) (exprFuel s)
    (by unfold exprFuel; omega)
  rw [h1] at hget
  obtain ⟨r3, h3, hp⟩ := garbage_peek ws hws b hb rest r2 hr2 _ hf
  have : parseWholeExpr s = .error (.expectingEof r3.loc b) := by
    unfold parseWholeExpr
    simp only
    rw [EM.bind_ok (liftP_ok h1), EM.bind_ok hget, EM.bind_ok (liftP_ok h3), EM.bind_ok (liftP_ok hp)]
    rfl
  exact ⟨r3.loc, this, by unfold parseOptionExpr; rw [this]⟩

/-- `Selection::from_str`: after the getter only `=name` may follow. -/
theorem parseSelection_trailing_garbage (s : Str) (e : Expr) (r2 : Reader)
    (hget : readGetter (exprFuel s) (eatWhitespace (exprFuel s) (Reader.ofString s)).2 = (.ok e, r2))
    (ws : List Byte) (hws : ∀ x ∈ ws, isWs x = true) (b : Byte) (hb : isWs b = false) (hb' : b ≠ 61)
    (rest : List Byte) (hr2 : Ready r2 (ws ++ b :: rest)) (hf : ws.length < exprFuel s) :
    ∃ loc, parseSelection s = .error (exprErrText (.expectingEquals loc b)) := by
  obtain ⟨r1, h1, _⟩ := eatWhitespace_total (utf8 s) (Reader.ofString s) (ready_ofBytes _ _) (exprFuel s)
    (by unfold exprFuel; omega)
  rw [h1] at hget
  obtain ⟨r3, h3, hp⟩ := garbage_peek ws hws b hb rest r2 hr2 _ hf
  refine ⟨r3.loc, ?_⟩
  unfold parseSelection
  simp only
  rw [EM.bind_ok (liftP_ok h1), EM.bind_ok hget, EM.bind_ok (liftP_ok h3), EM.bind_ok (liftP_ok hp)]
  have hfail : (do let l ← emLoc; (EM.fail (.expectingEquals l b) : EM (Str × Expr))) r3 =
      (.error (.expectingEquals r3.loc b), r3) := rfl
  generalize hx : some b = x
  split
  · next v heq =>
    split at heq
    · exact absurd (by simpa using hx) hb'
    · next ch _ => cases hx; rw [hfail] at heq; cases heq
    · cases hx
  · next err heq =>
    split at heq
    · exact absurd (by simpa using hx) hb'
    · next ch _ => cases hx; rw [hfail] at heq; cases heq; rfl
    · cases hx

/-- `PreSet::from_str` (`key=value`, `@key=macro`): garbage after the value. -/
theorem parsePreSet_trailing_garbage (orc : Oracles) (s : Str) (heq : s.any (· = '=') = true)
    (e : Expr) (r2 : Reader)
    (hget : readGetter (exprFuel ((s.dropWhile (· ≠ '=')).drop 1))
      (Reader.ofString ((s.dropWhile (· ≠ '=')).drop 1)) = (.ok e, r2))
    (ws : List Byte) (hws : ∀ x ∈ ws, isWs x = true) (b : Byte) (hb : isWs b = false) (rest : List Byte)
    (hr2 : Ready r2 (ws ++ b :: rest)) (hf : ws.length < exprFuel ((s.dropWhile (· ≠ '=')).drop 1)) :
    ∃ loc, parsePreSet orc s = .error (.config (exprErrText (.expectingEof loc b))) := by
  obtain ⟨r3, h3, hp⟩ := garbage_peek ws hws b hb rest r2 hr2 _ hf
  refine ⟨r3.loc, ?_⟩
  have : parsePreSet.parseWholeExprNoLeadWs ((s.dropWhile (· ≠ '=')).drop 1) =
      .error (exprErrText (.expectingEof r3.loc b)) := by
    unfold parsePreSet.parseWholeExprNoLeadWs
    simp only
    rw [EM.bind_ok hget, EM.bind_ok (liftP_ok h3), EM.bind_ok (liftP_ok hp)]
    rfl
  unfold parsePreSet
  simp only [heq, Bool.not_true, Bool.false_eq_true, if_false, this]

/-- `read_to_eof` from the look-ahead byte on clean input -/
theorem readRestPeek_spec (bs : List Byte) (r : Reader) (hr : Ready r bs) (fuel : Nat)
    (hf : bs.length < fuel) (acc : List Byte) :
    ∃ r', readRestPeek fuel acc r = (.ok (acc ++ bs), r') := by
  induction bs generalizing r fuel acc with
  | nil =>
    obtain ⟨fuel, rfl⟩ : ∃ k, fuel = k + 1 := ⟨fuel - 1, by omega⟩
    obtain ⟨r1, hp, _⟩ := peek_ready hr
    refine ⟨r1, ?_⟩
    unfold readRestPeek
    rw [EM.bind_ok (liftP_ok hp)]
    simp
  | cons b bs ih =>
    obtain ⟨fuel, rfl⟩ : ∃ k, fuel = k + 1 := ⟨fuel - 1, by omega⟩
    obtain ⟨r1, hp, hr1⟩ := peek_ready hr
    have hr1' : At r1 b bs := hr1
    obtain ⟨r2, hn, hr2⟩ := next_at hr1'
    obtain ⟨r3, h3⟩ := ih r2 hr2.ready fuel (by simp at hf; omega) (acc ++ [b])
    refine ⟨r3, ?_⟩
    unfold readRestPeek
    rw [EM.bind_ok (liftP_ok hp)]
    simp only [List.head?_cons]
    rw [EM.bind_ok (liftP_ok hn), h3]
    simp

theorem directionOf_unknown (t : Str)
    (h : (trimStr t).map upperChar ≠ [] ∧ (trimStr t).map upperChar ≠ "ASC".toList ∧
      (trimStr t).map upperChar ≠ "DESC".toList) : directionOf t = .error "UnknownOrder" := by
  obtain ⟨h0, h1, h2⟩ := h
  unfold directionOf
  simp only [h0, h1, h2, false_or, if_false]

/-- `Sorter::from_str`: whatever is left after the getter is the direction word; if
it is not (in any letter case, trimmed) empty, `ASC` or `DESC`, the sorter is rejected. -/
theorem parseSorter_unknown_direction (s : Str) (e : Expr) (r2 : Reader)
    (hget : readGetter (exprFuel s) (eatWhitespace (exprFuel s) (Reader.ofString s)).2 = (.ok e, r2))
    (bs : List Byte) (hr2 : Ready r2 bs) (hf : bs.length < exprFuel s) (t : Str)
    (hdec : utf8Decode? bs = some t)
    (hdir : (trimStr t).map upperChar ≠ [] ∧ (trimStr t).map upperChar ≠ "ASC".toList ∧
      (trimStr t).map upperChar ≠ "DESC".toList) :
    parseSorterParts s = .ok (e, t) ∧ parseSorter s = .error "UnknownOrder" := by
  obtain ⟨r1, h1, _⟩ := eatWhitespace_total (utf8 s) (Reader.ofString s) (ready_ofBytes _ _) (exprFuel s)
    (by unfold exprFuel; omega)
  rw [h1] at hget
  obtain ⟨r3, h3⟩ := readRestPeek_spec bs r2 hr2 (exprFuel s) hf []
  have hparts : parseSorterParts s = .ok (e, t) := by
    unfold parseSorterParts
    simp only
    rw [EM.bind_ok (liftP_ok h1), EM.bind_ok hget, EM.bind_ok h3]
    simp only [EM.pure_apply, List.nil_append, hdec]
  refine ⟨hparts, ?_⟩
  unfold parseSorter
  rw [hparts]
  simp only [directionOf_unknown t hdir]


/-- `parseWholeExpr_trailing_garbage` without a hypothesis about the run of the parser: a renderable getter
followed by optional white space and a non-blank byte `b` (directly after the getter `b` must be a
delimiter, otherwise it would belong to the getter) is rejected with `expectingEof … b`. -/
theorem garbage_after_render (st : Style) (hst : StyleOK st) (e : Expr) (he : WFR st.o e) (s : Str)
    (W : List Byte) (hW : ∀ x ∈ W, isWs x = true) (b : Byte) (hb : isWs b = false) (rest : List Byte)
    (hs : utf8 s = utf8 (render st e) ++ (W ++ b :: rest)) (hdel : W ≠ [] ∨ isDelim b = true) :
    ∃ loc, parseWholeExpr s = .error (.expectingEof loc b) ∧
      parseOptionExpr s = .error (exprErrText (.expectingEof loc b)) := by
  obtain ⟨c, t, hct, hc, _⟩ := render_head st e he
  have hlen := congrArg List.length hs
  simp only [List.length_append, List.length_cons] at hlen
  obtain ⟨r1, r2, h1, h2, hr2⟩ := getter_run ((spec_all st hst).1 e he) ⟨c, t, hct, hc⟩ s [] _
    (fun _ hb => nomatch hb) hs
    (by
      intro x hx
      cases W with
      | nil => cases hx; exact hdel.resolve_left (by simp)
      | cons w W => cases hx; simp [isDelim, hW x (List.mem_cons_self ..)])
  exact parseWholeExpr_trailing_garbage s e r2 (by rw [h1]; exact h2) W hW b hb rest hr2
    (by unfold exprFuel; omega)

/-! ### Non-vacuity: trailing garbage -/

example : isEofErr (parseWholeExpr "(take . 2) x".toList) 120 = true := by decide +kernel
example : isEofErr (parseWholeExpr "(take . 2))".toList) 41 = true := by decide +kernel
example : isEofErr (parseWholeExpr ".a .b".toList) 46 = true := by decide +kernel
example : isErr (parseOptionExpr "(take . 2) x".toList) = true := by decide +kernel
example : isErr (parseSelection ".a x".toList) = true := by decide +kernel
example : isErr (parseSelection ".a = x".toList) = false := by decide +kernel
example : isErr (parsePreSet {} "k=1 x".toList) = true := by decide +kernel
example : isErr (parsePreSet {} "k=1 ".toList) = false := by decide +kernel
example : isErrMsg (parseSorter ".a down".toList) "UnknownOrder" = true := by decide +kernel
example : isErrMsg (parseSorter ".a DeSc ".toList) "UnknownOrder" = false := by decide +kernel
/-- an instance of the hypotheses of `garbage_after_render` -/
example : ∃ loc, parseWholeExpr "(take . 2)  x".toList = .error (.expectingEof loc 120) ∧
    parseOptionExpr "(take . 2)  x".toList = .error (exprErrText (.expectingEof loc 120)) :=
  garbage_after_render {} (SepStyle.style_ok .space) take2
    (wfr_call (by decide +kernel) ⟨root_wfr _, wfr_nat _ (by decide), trivial⟩)
    "(take . 2)  x".toList [32, 32] (by decide) 120 (by decide) [] (by decide +kernel) (Or.inl (by simp))


/-- `.a` -/
def dotA : Expr := .extract 0 [.key "a".toList]
theorem dotA_wfr : WFR {} dotA := by
  intro s hs
  simp only [List.mem_singleton] at hs
  subst hs
  decide

theorem delimRest_space (l : List Byte) : DelimRest (32 :: l) := by
  intro b hb
  have : b = 32 := by simpa [eq_comm] using hb
  subst this; decide

/-- instances of the hypotheses of the theorems for `Selection`, `PreSet` and `Sorter` -/
example : ∃ loc, parseSelection ".a x".toList = .error (exprErrText (.expectingEquals loc 120)) := by
  obtain ⟨⟨r2, hget, hr2⟩, _⟩ := render_run {} (SepStyle.style_ok .space) dotA dotA_wfr ".a x".toList
    [32, 120] (by decide) (delimRest_space _)
  exact parseSelection_trailing_garbage _ _ r2 hget [32] (by decide) 120 (by decide) (by decide) [] hr2
    (by decide)

example : ∃ loc, parsePreSet {} "k=.a x".toList = .error (.config (exprErrText (.expectingEof loc 120))) := by
  obtain ⟨_, ⟨r2, hget, hr2⟩⟩ := render_run {} (SepStyle.style_ok .space) dotA dotA_wfr ".a x".toList
    [32, 120] (by decide) (delimRest_space _)
  exact parsePreSet_trailing_garbage {} "k=.a x".toList (by decide) dotA r2 hget [32] (by decide) 120
    (by decide) [] hr2 (by decide)

example : parseSorter ".a down".toList = .error "UnknownOrder" := by
  obtain ⟨⟨r2, hget, hr2⟩, _⟩ := render_run {} (SepStyle.style_ok .space) dotA dotA_wfr ".a down".toList
    (utf8 " down".toList) (by decide) (delimRest_space _)
  exact (parseSorter_unknown_direction _ _ r2 hget _ hr2 (by decide) " down".toList (utf8Decode_utf8 _)
    (by decide)).2

end Jawk.PR
