/-
  Facts about what the expression parser returns.  `EP P m`: every successful result of the parser
  action `m` satisfies `P`.  `parser_ind`: a property of ASTs that holds of the leaves the parser
  builds and is passed on by call nodes (known name, argument count within the bounds of its entry)
  holds of everything `readGetter` / `parseFunction` / `parseArgs` return.
  (Namespace `Jawk.NoPanic`, shared with NoPanic.lean.)
-/
import Jawk.Model.Expr
namespace Jawk.NoPanic
open Jawk Reader

/-- every successful result of a parser action satisfies `P` -/
structure EP {α} (P : α → Prop) (m : EM α) : Prop where
  h : ∀ r a r', m r = (.ok a, r') → P a

theorem EP.pure {α} {P : α → Prop} {a : α} (h : P a) : EP P (pure a : EM α) :=
  ⟨by intro r b r' hb; cases hb; exact h⟩
theorem EP.fail {α} {P : α → Prop} (e : ExprErr) : EP P (EM.fail e : EM α) :=
  ⟨by intro r b r' hb; cases hb⟩
theorem EP.bind {α β} {P : β → Prop} (Q : α → Prop) {m : EM α} {f : α → EM β}
    (hm : EP Q m) (hf : ∀ a, Q a → EP P (f a)) : EP P (m >>= f) := ⟨by
  intro r b r' hb
  change (match m r with
      | (.ok a, r') => f a r'
      | (.error e, r') => (.error e, r')) = _ at hb
  split at hb
  · next a r1 h1 => exact (hf a (hm.h _ _ _ h1)).h _ _ _ hb
  · cases hb⟩
theorem EP.triv {α} (m : EM α) : EP (fun _ => True) m := ⟨fun _ _ _ _ => True.intro⟩
theorem EP.bind' {α β} {P : β → Prop} {m : EM α} {f : α → EM β}
    (hf : ∀ a, EP P (f a)) : EP P (m >>= f) := EP.bind _ (EP.triv m) (fun a _ => hf a)

theorem EP.fst {α} {P : α → Prop} {m : EM α} (h : EP P m) {r : Reader} {a : α}
    (hh : (m r).fst = .ok a) : P a :=
  h.h r a (m r).2 (Prod.ext hh rfl)

/-- Induction over the expression parser: the three functions are mutually recursive on the
fuel; the proof follows their text once, so that a property of parsed ASTs needs only its seven
closure conditions. -/
theorem parser_ind (P : Expr → Prop)
    (extract : ∀ p s, P (.extract p s)) (var : ∀ n, P (.var n)) (mac : ∀ n, P (.macro n))
    (ictx : ∀ k, P (.ictx k)) (selected : ∀ n, P (.selected n))
    (const : ∀ fuel r v r', nextValue fuel r = (.ok (some v), r') → P (.const v))
    (call : ∀ n sig args, findFunction n = some sig → sig.min ≤ args.length →
      (∀ m, sig.max = some m → args.length ≤ m) → (∀ a ∈ args, P a) → P (.call sig.name args)) :
    ∀ fuel, EP P (readGetter fuel) ∧ EP P (parseFunction fuel) ∧
      ∀ acc, (∀ a ∈ acc, P a) → EP (fun l => ∀ a ∈ l, P a) (parseArgs fuel acc) := by
  intro fuel
  induction fuel with
  | zero =>
    refine ⟨?_, ?_, fun acc _ => ?_⟩
    · rw [readGetter]; exact EP.fail _
    · rw [parseFunction]; exact EP.fail _
    · rw [parseArgs]; exact EP.fail _
  | succ fuel ih =>
    obtain ⟨ihG, ihF, ihA⟩ := ih
    refine ⟨?_, ?_, fun acc hacc => ?_⟩
    · rw [readGetter]
      refine EP.bind' fun _ => EP.bind' fun x => ?_
      split
      · exact EP.fail _
      split
      · exact EP.bind' fun p => EP.bind' fun s => EP.pure (extract p s)
      split
      · exact ihF
      split
      · refine EP.bind' fun nb => ?_
        split
        · exact EP.bind' fun _ => EP.fail _
        · refine EP.bind' fun name => EP.pure ?_
          split
          · exact var _
          · exact mac _
      split
      · refine EP.bind' fun nb => EP.bind' fun name => ?_
        split
        · exact EP.pure (ictx _)
        · exact EP.fail _
      split
      · refine EP.bind' fun nb => EP.bind' fun _ => ?_
        split
        · exact EP.bind' fun _ => EP.fail _
        · exact EP.bind' fun name => EP.pure (selected _)
      · refine EP.bind (fun o => ∀ v, o = some v → P (.const v)) ⟨fun r o r' h v hv => ?_⟩ fun o ho => ?_
        · subst hv
          simp only [liftP] at h
          split at h
          · cases h; exact const _ _ _ _ ‹_›
          · cases h
        · split
          · exact EP.fail _
          · exact EP.pure (ho _ rfl)
    · rw [parseFunction]
      refine EP.bind' fun _ => EP.bind' fun nb => EP.bind' fun name => ?_
      split
      next name' pre hpre =>
      have hpre' : ∀ a ∈ pre, P a := by
        split at hpre
        · cases hpre; intro a ha; rw [List.mem_singleton.1 ha]; exact extract _ _
        · cases hpre; intro a ha; cases ha
      split
      · exact EP.fail _
      next sig hsig =>
      refine EP.bind _ (ihA pre hpre') fun args hargs => EP.bind' fun _ => ?_
      split
      · exact EP.fail _
      next h1 =>
      split
      next m hm =>
        split
        · exact EP.fail _
        next h2 =>
        refine EP.pure (call _ sig args hsig (Nat.le_of_not_lt h1) (fun m' hm' => ?_) hargs)
        cases hm.symm.trans hm'
        exact Nat.le_of_not_lt (of_decide_eq_false (Bool.eq_false_iff.2 h2))
      next hm =>
        split
        · exact EP.fail _
        · exact EP.pure (call _ sig args hsig (Nat.le_of_not_lt h1)
            (fun m' hm' => by cases hm.symm.trans hm') hargs)
    · rw [parseArgs]
      refine EP.bind' fun _ => EP.bind' fun x => ?_
      split
      · exact EP.fail _
      split
      · exact EP.bind' fun _ => ihA acc hacc
      split
      · exact EP.pure hacc
      · refine EP.bind _ ihG fun a ha => ihA _ fun b hb => ?_
        rcases List.mem_append.1 hb with hb | hb
        · exact hacc b hb
        · rw [List.mem_singleton.1 hb]; exact ha

end Jawk.NoPanic
