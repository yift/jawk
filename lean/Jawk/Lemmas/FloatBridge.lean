/-
  Bridge between the float round trip (`Jawk.F64RT`) and the hypothesis `RT.FloatRT` of the
  printer → parser round trip: `FloatRT f` holds for every float the parser can produce on which the digit
  search of `Display for f64` succeeds (it always does: `Ser.h17`).
-/
import Jawk.Lemmas.RoundTripBase
import Jawk.Lemmas.F64RoundTrip
namespace Jawk.Ser
open Jawk Jawk.F64 Jawk.F64RT

/-! ### integers rounded to doubles -/

theorem Q_one_nonneg (N : Nat) {e : Int} (h : 0 ≤ e) : Q N 1 e = N / 2 ^ e.toNat := by
  rw [Q_nonneg h, Nat.one_mul]

/-- An integer `2^53 ≤ N < 2^k` rounds to a double `m * 2^e` with `e ≥ 1` whose value is below `2^k`,
or exactly `2^k`. -/
theorem roundRat_big (s : Bool) (N k : Nat) (hk : k ≤ 1000) (h1 : 2 ^ 53 ≤ N) (h2 : N < 2 ^ k) :
    ∃ (m e : Nat), roundRat s N 1 = fin s m (e : Int) ∧ 1 ≤ e ∧ m ≠ 0 ∧
      (m * 2 ^ e < 2 ^ k ∨ (m = 2 ^ 52 ∧ e + 52 = k)) := by
  have hn : N ≠ 0 := by
    have : 0 < 2 ^ 53 := Nat.pow_pos (by decide)
    omega
  have hd : (1 : Nat) ≠ 0 := by decide
  obtain ⟨s1, s2⟩ := e2Of_spec hn hd
  have he1 : 1 ≤ e2Of N 1 := by
    apply Int.le_of_not_gt
    intro hlt
    have := Q_anti N 1 (show e2Of N 1 ≤ 0 by omega)
    rw [Q_one_nonneg N (Int.le_refl 0)] at this
    simp at this
    omega
  obtain ⟨e, he⟩ : ∃ e : Nat, e2Of N 1 = (e : Int) := ⟨(e2Of N 1).toNat, by omega⟩
  rw [he] at s1 s2 he1
  have he1' : 1 ≤ e := by omega
  rw [Q_one_nonneg N (by omega)] at s1 s2
  simp only [Int.toNat_natCast] at s1 s2
  have hpe : 0 < 2 ^ e := Nat.pow_pos (by decide)
  -- `2^52 * 2^e ≤ N < 2^k`
  have hlow : 2 ^ 52 * 2 ^ e ≤ N := (Nat.le_div_iff_mul_le hpe).1 s1
  have hek : e + 53 ≤ k := by
    apply Nat.le_of_not_gt
    intro hgt
    have : 2 ^ k ≤ 2 ^ (52 + e) := Nat.pow_le_pow_right (by decide) (by omega)
    rw [Nat.pow_add] at this
    omega
  have hclamp : clampE (e2Of N 1) = (e : Int) := by
    rw [he]; unfold clampE; rw [if_neg (by omega)]
  have hsd : scaleDiv N 1 (e : Int) = (N / 2 ^ e, (scaleDiv N 1 (e : Int)).2.1, (scaleDiv N 1 (e : Int)).2.2) := by
    have : (scaleDiv N 1 (e : Int)).1 = N / 2 ^ e := by
      have := Q_one_nonneg N (show (0 : Int) ≤ (e : Int) by omega)
      simpa [Q] using this
    rw [← this]
  rw [roundRat_eq, if_neg (by intro h; rcases h with h | h <;> contradiction), hclamp, hsd, finish_roundUp]
  obtain ⟨b1, b2⟩ := roundUp_bounds (N / 2 ^ e) (scaleDiv N 1 (e : Int)).2.1 (scaleDiv N 1 (e : Int)).2.2
  generalize roundUp (N / 2 ^ e) (scaleDiv N 1 (e : Int)).2.1 (scaleDiv N 1 (e : Int)).2.2 = q' at b1 b2
  by_cases h53 : q' = 2 ^ 53
  · rw [if_pos h53, if_neg (by omega)]
    refine ⟨2 ^ 52, e + 1, by simp, by omega, by decide, ?_⟩
    by_cases hee : e + 53 = k
    · exact Or.inr ⟨rfl, by omega⟩
    · left
      have : 2 ^ 52 * 2 ^ (e + 1) = 2 ^ (52 + (e + 1)) := (Nat.pow_add 2 52 (e + 1)).symm
      rw [this]
      exact Nat.pow_lt_pow_right (by decide) (by omega)
  · rw [if_neg h53, if_neg (by omega)]
    refine ⟨q', e, rfl, he1', by omega, Or.inl ?_⟩
    have hq : q' < 2 ^ 53 := by omega
    have h3 : q' * 2 ^ e < 2 ^ 53 * 2 ^ e := Nat.mul_lt_mul_of_pos_right hq hpe
    have h4 : 2 ^ 53 * 2 ^ e ≤ 2 ^ k := by
      rw [← Nat.pow_add]; exact Nat.pow_le_pow_right (by decide) (by omega)
    omega

/-! ### `From<f64>` on integral doubles -/

theorem ofNat_max : F64.ofNat (2 ^ 64 - 1) = fin false (2 ^ 52) 12 := by decide +kernel
theorem ofInt_min : F64.ofInt (-(2 ^ 63)) = fin true (2 ^ 52) 11 := by decide +kernel

/-- the double `fin s m e` has the integer value `V` -/
def IntVal (m : Nat) (e : Int) (V : Nat) : Prop :=
  m ≠ 0 ∧ (toRat (fin false m e)).1 = V * (toRat (fin false m e)).2

theorem toRat_sign (s : Bool) (m : Nat) (e : Int) : toRat (fin s m e) = toRat (fin false m e) := rfl

theorem toRat_den_pos (m : Nat) (e : Int) : 0 < (toRat (fin false m e)).2 := by
  by_cases h : 0 ≤ e
  · simp [toRat, h]
  · simp only [toRat, h, if_false]; exact Nat.pow_pos (by decide)

theorem IntVal.of_nonneg {m e : Nat} (hm : m ≠ 0) : IntVal m (e : Int) (m * 2 ^ e) := by
  refine ⟨hm, ?_⟩
  simp [toRat]

theorem IntVal.of_neg {N k : Nat} (hN : N ≠ 0) : IntVal (N * 2 ^ k) (-(k : Int)) N := by
  have hp : 0 < 2 ^ k := Nat.pow_pos (by decide)
  refine ⟨Nat.mul_ne_zero hN (by omega), ?_⟩
  by_cases hk : k = 0
  · subst hk; simp [toRat]
  · simp [toRat, hk]

theorem IntVal.fract {m : Nat} {e : Int} {V : Nat} (h : IntVal m e V) (s : Bool) :
    (fin s m e).fractIsZero = true := by
  obtain ⟨hm, hv⟩ := h
  simp only [fractIsZero, if_neg hm]
  by_cases he : 0 ≤ e
  · rw [if_pos he]
  · rw [if_neg he]
    simp only [toRat, he, if_false] at hv
    rw [hv]; simp

theorem lt_pos_pos (m : Nat) (e : Int) (M : Nat) (E : Int) (hm : m ≠ 0) (hM : M ≠ 0) :
    F64.lt (fin false m e) (fin false M E) =
      decide ((toRat (fin false m e)).1 * (toRat (fin false M E)).2 <
        (toRat (fin false M E)).1 * (toRat (fin false m e)).2) := by
  simp only [F64.lt, hm, hM, false_and, if_false, cmpMag]
  by_cases h : (toRat (fin false m e)).1 * (toRat (fin false M E)).2 <
        (toRat (fin false M E)).1 * (toRat (fin false m e)).2
  · simp [h, Nat.compare_eq_lt.2 h]
  · simp only [h, decide_false]
    cases hc : compare ((toRat (fin false m e)).1 * (toRat (fin false M E)).2)
        ((toRat (fin false M E)).1 * (toRat (fin false m e)).2) with
    | lt => exact absurd (Nat.compare_eq_lt.1 hc) h
    | eq => rfl
    | gt => rfl

theorem lt_neg_neg (m : Nat) (e : Int) (M : Nat) (E : Int) (hm : m ≠ 0) (hM : M ≠ 0) :
    F64.lt (fin true M E) (fin true m e) =
      decide ((toRat (fin false m e)).1 * (toRat (fin false M E)).2 <
        (toRat (fin false M E)).1 * (toRat (fin false m e)).2) := by
  simp only [F64.lt, hm, hM, false_and, if_false, cmpMag, toRat_sign]
  by_cases h : (toRat (fin false m e)).1 * (toRat (fin false M E)).2 <
        (toRat (fin false M E)).1 * (toRat (fin false m e)).2
  · simp [h, Nat.compare_eq_gt.2 h]
  · simp only [h, decide_false]
    cases hc : compare ((toRat (fin false M E)).1 * (toRat (fin false m e)).2)
        ((toRat (fin false m e)).1 * (toRat (fin false M E)).2) with
    | gt => exact absurd (Nat.compare_eq_gt.1 hc) h
    | eq => rfl
    | lt => rfl

/-- a positive integral double with value below `2^64` becomes an integer -/
theorem ofF64_pos_of_intVal {m : Nat} {e : Int} {V : Nat} (h : IntVal m e V) (hV : V < 2 ^ 64) :
    ∃ n, Num.ofF64 (fin false m e) = .pos n := by
  have hd := toRat_den_pos m e
  have h1 : F64.le F64.zero (fin false m e) = true := by
    simp [F64.le, F64.lt, F64.zero, h.1]
  have h2 : F64.lt (fin false m e) (F64.ofNat (2 ^ 64 - 1)) = true := by
    rw [ofNat_max, lt_pos_pos m e _ _ h.1 (by decide), h.2]
    have : toRat (fin false (2 ^ 52) 12) = (2 ^ 64, 1) := by decide +kernel
    rw [this]
    simp only [Nat.mul_one, decide_eq_true_eq]
    exact Nat.mul_lt_mul_of_pos_right hV hd
  refine ⟨(fin false m e).toU64, ?_⟩
  simp only [Num.ofF64, h.fract false, h1, h2, Bool.and_self, if_true]

/-- a negative integral double with magnitude below `2^63` becomes an integer -/
theorem ofF64_neg_of_intVal {m : Nat} {e : Int} {V : Nat} (h : IntVal m e V) (hV : V < 2 ^ 63) :
    ∃ i, Num.ofF64 (fin true m e) = .neg i := by
  have hd := toRat_den_pos m e
  have h1 : F64.le F64.zero (fin true m e) = false := by
    simp [F64.le, F64.lt, F64.eq, F64.zero, h.1]
  have h2 : F64.lt (fin true m e) F64.zero = true := by
    simp [F64.lt, F64.zero, h.1]
  have h3 : F64.lt (F64.ofInt (-(2 ^ 63))) (fin true m e) = true := by
    rw [ofInt_min, lt_neg_neg m e _ _ h.1 (by decide), h.2]
    have : toRat (fin false (2 ^ 52) 11) = (2 ^ 63, 1) := by decide +kernel
    rw [this]
    simp only [Nat.mul_one, decide_eq_true_eq]
    exact Nat.mul_lt_mul_of_pos_right hV hd
  have h3' : F64.le (F64.ofInt (-(2 ^ 63))) (fin true m e) = true := by
    simp only [F64.le, h3, Bool.true_or]
  refine ⟨(fin true m e).toI64, ?_⟩
  simp only [Num.ofF64, h.fract true, h1, h2, h3', Bool.false_and, Bool.and_self,
    Bool.false_eq_true, if_true, if_false]

/-- An integer `0 < N < 2^64` converted to a double is normalised back to an integer by `From<f64>`,
unless it rounds up to `2^64`. -/
theorem ofF64_roundRat_pos {N : Nat} (h0 : N ≠ 0) (h : N < 2 ^ 64) :
    (∃ n, Num.ofF64 (roundRat false N 1) = .pos n) ∨ roundRat false N 1 = fin false (2 ^ 52) 12 := by
  by_cases hs : N < 2 ^ 53
  · obtain ⟨m, k, h1, h2, _⟩ := roundRat_nat_value false h0 hs
    rw [h1, h2]
    exact Or.inl (ofF64_pos_of_intVal (IntVal.of_neg h0) h)
  · obtain ⟨m, e, h1, _, hm, h2⟩ := roundRat_big false N 64 (by decide) (by omega) h
    rw [h1]
    rcases h2 with h2 | ⟨rfl, h2⟩
    · exact Or.inl (ofF64_pos_of_intVal (IntVal.of_nonneg hm) h2)
    · right
      have : e = 12 := by omega
      subst this; rfl

/-- An integer `0 < N ≤ 2^63` negated and converted to a double is normalised back to an integer by
`From<f64>`, unless it is (or rounds up to) `2^63`. -/
theorem ofF64_roundRat_neg {N : Nat} (h0 : N ≠ 0) (h : N ≤ 2 ^ 63) :
    (∃ i, Num.ofF64 (roundRat true N 1) = .neg i) ∨ roundRat true N 1 = fin true (2 ^ 52) 11 := by
  by_cases hs : N < 2 ^ 53
  · obtain ⟨m, k, h1, h2, _⟩ := roundRat_nat_value true h0 hs
    rw [h1, h2]
    exact Or.inl (ofF64_neg_of_intVal (IntVal.of_neg h0) (by omega))
  · by_cases h63 : N = 2 ^ 63
    · right; subst h63; decide +kernel
    · obtain ⟨m, e, h1, _, hm, h2⟩ := roundRat_big true N 63 (by decide) (by omega) (by omega)
      rw [h1]
      rcases h2 with h2 | ⟨rfl, h2⟩
      · exact Or.inl (ofF64_neg_of_intVal (IntVal.of_nonneg hm) h2)
      · right
        have : e = 11 := by omega
        subst this; rfl

theorem display_2p64 : toDisplay? (fin false (2 ^ 52) 12) = some "18446744073709552000".toList := by
  rw [String.toList_ofList]
  decide +kernel
theorem display_m2p63 : toDisplay? (fin true (2 ^ 52) 11) = some "-9223372036854776000".toList := by
  rw [String.toList_ofList]
  decide +kernel

/-! ### the shape of the display text, in the form `FloatRT.shape` wants -/

theorem signChars_text (neg : Bool) (b : List Char) :
    (if neg then '-' :: b else b) = RT.signChars neg ++ b := by
  cases neg <;> rfl

theorem ofDecimal_int (neg : Bool) (N nd : Nat) :
    ofDecimal neg N nd 0 = if N = 0 then fin neg 0 (-1074) else roundRat neg N 1 := by
  simp [ofDecimal]

/-- an integer text parses to the rounding of its value -/
theorem parse_int_text (neg : Bool) (ip : List Char) (hip : AllDigits ip) (hne : ip ≠ []) :
    parseDecimal (RT.signChars neg ++ ip) =
      some (if digitsToNat ip = 0 then fin neg 0 (-1074) else roundRat neg (digitsToNat ip) 1) := by
  obtain ⟨c, r, hcr, hc⟩ := exists_cons_of_allDigits_ne_nil hip hne
  rw [← signChars_text, parseDecimal_signed neg ip c r hcr hc, parseAfterSign_int neg ip hip hne,
    ofDecimal_int]

/-- the unsigned part of the shape -/
theorem unsigned_split {b : List Char} (h : UnsignedShape b) :
    ∃ (ip : List Char) (fp : Option (List Char)), b = ip ++ RT.fracChars fp ∧ ip ≠ [] ∧ AllDigits ip ∧
      (∀ d, fp = some d → AllDigits d) := by
  rcases h with ⟨h1, h2⟩ | ⟨ip, fp, rfl, h2, h3, h4, _⟩
  · exact ⟨b, none, by simp [RT.fracChars], h2, h1, by intro d hd; cases hd⟩
  · exact ⟨ip, some fp, rfl, h3, h2, by intro d hd; cases hd; exact h4⟩

theorem decimal_split {t : List Char} (h : DecimalShape t) :
    ∃ (neg : Bool) (ip : List Char) (fp : Option (List Char)),
      t = RT.signChars neg ++ ip ++ RT.fracChars fp ∧ ip ≠ [] ∧ AllDigits ip ∧
      (∀ d, fp = some d → AllDigits d) := by
  rcases h with h | ⟨b, rfl, h⟩
  · obtain ⟨ip, fp, h1, h2, h3, h4⟩ := unsigned_split h
    exact ⟨false, ip, fp, by simpa [RT.signChars] using h1, h2, h3, h4⟩
  · obtain ⟨ip, fp, h1, h2, h3, h4⟩ := unsigned_split h
    exact ⟨true, ip, fp, by simp [RT.signChars, h1], h2, h3, h4⟩

/-! ### `FloatRT` for the floats that occur -/

/-- A finite non-zero double that `From<f64>` keeps as a float, and for which the
digit search of `Display` succeeds, satisfies everything the printer → parser round trip asks of it. -/
theorem floatRT_of_display {f : F64} {s : Bool} {m : Nat} {e : Int} {t : List Char}
    (hf : f = .fin s m e) (hm : m ≠ 0) (hstay : Num.ofF64 f = .flt f) (ht : F64.toDisplay? f = some t) :
    RT.FloatRT f := by
  have hdisp : F64.toDisplay f = t := by simp [F64.toDisplay, ht]
  have hparse : parseDecimal t = some f := display_parse hf hm ht
  have hshape : DecimalShape t := by subst hf; exact toDisplay_shape ht
  refine ⟨?_, by rw [hdisp]; exact hparse, by subst hf; rfl, hstay⟩
  obtain ⟨neg, ip, fp, h1, h2, h3, h4⟩ := decimal_split hshape
  refine ⟨neg, ip, fp, by rw [hdisp]; exact h1, h2, h3, h4, ?_⟩
  intro hnone
  subst hnone
  simp only [RT.fracChars, List.append_nil] at h1
  subst h1
  rw [parse_int_text neg ip h3 h2] at hparse
  have hN : digitsToNat ip ≠ 0 := by
    intro h0
    rw [if_pos h0] at hparse
    simp only [Option.some.injEq] at hparse
    rw [hf] at hparse
    injection hparse with _ hm' _
    exact hm hm'.symm
  rw [if_neg hN] at hparse
  simp only [Option.some.injEq] at hparse
  cases neg with
  | false =>
    simp only [Bool.false_eq_true, if_false]
    apply Nat.le_of_not_gt
    intro hlt
    rcases ofF64_roundRat_pos hN hlt with ⟨n, hn⟩ | h64
    · rw [hparse, hstay] at hn; cases hn
    · rw [hparse] at h64
      rw [h64, display_2p64] at ht
      simp only [Option.some.injEq, RT.signChars, Bool.false_eq_true, if_false, List.nil_append] at ht
      rw [← ht] at hlt
      revert hlt; decide
  | true =>
    simp only [if_true]
    apply Nat.lt_of_not_ge
    intro hle
    rcases ofF64_roundRat_neg hN hle with ⟨n, hn⟩ | h63
    · rw [hparse, hstay] at hn; cases hn
    · rw [hparse] at h63
      rw [h63, display_m2p63] at ht
      simp only [Option.some.injEq, RT.signChars, if_true] at ht
      have : ip = "9223372036854776000".toList := by
        have := ht.symm
        simpa using this
      rw [this] at hle
      revert hle; decide

/-! ### every number the parser can produce is printable -/

/-- the numbers `read_number` can produce: `u64` integers, non-positive `i64` integers, and finite doubles
that `From<f64>` leaves alone -/
def ParsedNum : Num → Prop
  | .pos n => n < 2 ^ 64
  | .neg i => -(2 ^ 63 : Int) ≤ i ∧ i ≤ 0
  | .flt f => f.isFinite = true ∧ Num.ofF64 f = .flt f

/-- zero (of either sign) is normalised to the integer `0` -/
theorem ofF64_zero (s : Bool) (e : Int) : Num.ofF64 (fin s 0 e) = .pos (fin s 0 e).toU64 := by
  have h1 : F64.le F64.zero (fin s 0 e) = true := by simp [F64.le, F64.lt, F64.eq, F64.zero]
  have h2 : F64.lt (fin s 0 e) (F64.ofNat (2 ^ 64 - 1)) = true := by
    rw [ofNat_max]; simp [F64.lt]
  simp only [Num.ofF64, fractIsZero, if_true, h1, h2, Bool.and_self]

theorem flt_stable_ne_zero {s : Bool} {m : Nat} {e : Int} (h : Num.ofF64 (fin s m e) = .flt (fin s m e)) :
    m ≠ 0 := by
  intro hm
  subst hm
  rw [ofF64_zero] at h
  cases h

theorem toU64_lt (f : F64) : f.toU64 < 2 ^ 64 := by
  cases f with
  | nan => simp [toU64]
  | inf s => cases s <;> simp [toU64]
  | fin s m e =>
    simp only [toU64]
    split
    · decide
    · split
      · decide
      · omega

theorem toI64_range (f : F64) : -(2 ^ 63 : Int) ≤ f.toI64 ∧ f.toI64 < 2 ^ 63 := by
  cases f with
  | nan => simp [toI64]
  | inf s => cases s <;> simp [toI64]
  | fin s m e =>
    simp only [toI64]
    have hq : (0 : Int) ≤ ((toRat (fin s m e)).1 : Int) / ((toRat (fin s m e)).2 : Int) :=
      Int.ediv_nonneg (by omega) (by omega)
    generalize ((toRat (fin s m e)).1 : Int) / ((toRat (fin s m e)).2 : Int) = q at hq
    cases s <;> simp only [Bool.false_eq_true, if_false, if_true] <;> split <;> omega

theorem toI64_nonpos_of_neg (m : Nat) (e : Int) : (fin true m e).toI64 ≤ 0 := by
  simp only [toI64, if_true]
  have hq : (0 : Int) ≤ ((toRat (fin true m e)).1 : Int) / ((toRat (fin true m e)).2 : Int) :=
    Int.ediv_nonneg (by omega) (by omega)
  generalize ((toRat (fin true m e)).1 : Int) / ((toRat (fin true m e)).2 : Int) = q at hq
  split <;> omega

/-- `From<f64>` of a finite double is one of the numbers described by `ParsedNum` -/
theorem parsedNum_ofF64 (f : F64) (hf : f.isFinite = true) : ParsedNum (Num.ofF64 f) := by
  unfold Num.ofF64
  split
  · split
    · exact toU64_lt f
    · split
      · rename_i h
        simp only [Bool.and_eq_true] at h
        cases f with
        | nan => simp [isFinite] at hf
        | inf s => simp [isFinite] at hf
        | fin s m e =>
          cases s with
          | true => exact ⟨(toI64_range _).1, toI64_nonpos_of_neg m e⟩
          | false =>
            have := h.1
            simp [F64.lt, F64.zero] at this
      · rename_i h1 h2 h3
        refine ⟨hf, ?_⟩
        simp only [Num.ofF64, h1, h2, h3, if_true, if_false, Bool.false_eq_true]
  · rename_i h1
    refine ⟨hf, ?_⟩
    simp only [Num.ofF64, h1, if_false, Bool.false_eq_true]

/-- Every number the parser can produce is printable (`RT.NumPrintable`) when the digit search of
`Display for f64` succeeds on it (it always does: `Ser.h17`). -/
theorem numPrintable_of_parsed (n : Num) (hn : ParsedNum n)
    (H17 : ∀ f, n = .flt f → (F64.toDisplay? f).isSome = true) : RT.NumPrintable n := by
  cases n with
  | pos n => exact hn
  | neg i => exact ⟨hn.1, by have := hn.2; omega⟩
  | flt f =>
    obtain ⟨hfin, hstay⟩ := hn
    cases f with
    | nan => simp [isFinite] at hfin
    | inf s => simp [isFinite] at hfin
    | fin s m e =>
      obtain ⟨t, ht⟩ := Option.isSome_iff_exists.1 (H17 _ rfl)
      exact floatRT_of_display rfl (flt_stable_ne_zero hstay) hstay ht

/-! ### `read_number` produces only such numbers -/

theorem parseToDouble_parsed {text : List Byte} {r r' : Reader} {v : JV}
    (h : parseToDouble text r = (.ok v, r')) : ∃ n, v = .num n ∧ ParsedNum n := by
  cases hp : F64.parseDecimal (bytesToStr text) with
  | none => simp [parseToDouble, hp] at h
  | some f =>
    by_cases hfin : f.isFinite = true
    · simp only [parseToDouble, hp, hfin, if_true, PM.pure_apply, Prod.mk.injEq, Except.ok.injEq] at h
      exact ⟨_, h.1.symm, parsedNum_ofF64 f hfin⟩
    · simp [parseToDouble, hp, hfin] at h

theorem finishNumber_parsed {negative : Bool} {ip chars : List Byte} {double : Bool} {r r' : Reader} {v : JV}
    (h : RT.finishNumber negative ip chars double r = (.ok v, r')) : ∃ n, v = .num n ∧ ParsedNum n := by
  rw [RT.finishNumber_eq] at h
  cases negative <;> simp only [if_true, Bool.false_eq_true, if_false, false_and, true_and] at h
  · split at h
    · rename_i hC
      simp only [PM.pure_apply, Prod.mk.injEq, Except.ok.injEq] at h
      exact ⟨_, h.1.symm, hC.2⟩
    · exact parseToDouble_parsed h
  · split at h
    · rename_i hC
      split at h
      · simp at h
      · simp only [PM.pure_apply, Prod.mk.injEq, Except.ok.injEq] at h
        exact ⟨_, h.1.symm, by have := hC.2; constructor <;> omega⟩
    · exact parseToDouble_parsed h

/-- whatever `read_number` returns is a number described by `ParsedNum` -/
theorem readNumber_parsed {fuel : Nat} {r r' : Reader} {v : JV}
    (h : readNumber fuel r = (.ok v, r')) : ∃ n, v = .num n ∧ ParsedNum n := by
  rw [RT.readNumber_eq] at h
  obtain ⟨_, _, _, h⟩ := PM.bind_ok_inv h
  obtain ⟨_, _, _, h⟩ := PM.bind_ok_inv h
  obtain ⟨_, _, _, h⟩ := PM.bind_ok_inv h
  obtain ⟨_, _, _, h⟩ := PM.bind_ok_inv h
  exact finishNumber_parsed h

/-! ### parsed doubles are canonical -/

theorem ofDecimal_canonical (neg : Bool) (mant nd : Nat) (e : Int) : Canonical (ofDecimal neg mant nd e) := by
  have hz : Canonical (fin neg 0 (-1074)) := ⟨by decide, by decide, by decide, fun _ => rfl⟩
  unfold ofDecimal
  split
  · exact hz
  · split
    · split
      · trivial
      · exact roundRat_canonical _ _ _
    · split
      · exact hz
      · exact roundRat_canonical _ _ _

/-- every result of the parser is built by `ofDecimal`: the branches of `parseAfterSign` are `none` or
`some (ofDecimal neg ..)` (split down to the `some`, not into the exponent arithmetic under it) -/
theorem parseAfterSign_ofDecimal {neg : Bool} {s : List Char} {f : F64} (h : parseAfterSign neg s = some f) :
    ∃ m nd e, f = ofDecimal neg m nd e := by
  unfold parseAfterSign at h
  split at h  -- integer digits
  split at h  -- fraction digits
  split at h  -- no digit at all
  · cases h
  · split at h  -- what follows the digits
    · exact ⟨_, _, _, (Option.some.inj h).symm⟩
    · split at h  -- `e`/`E`
      · split at h  -- sign of the exponent
        split at h  -- exponent digits
        split at h  -- none, or something after them
        · cases h
        · exact ⟨_, _, _, (Option.some.inj h).symm⟩
      · cases h

/-- whatever `str::parse::<f64>` returns is in canonical form -/
theorem parseDecimal_canonical {s : List Char} {f : F64} (h : parseDecimal s = some f) : Canonical f := by
  have : ∃ neg r, parseDecimal s = parseAfterSign neg r := by
    unfold parseDecimal
    split
    rename_i x neg r heq
    exact ⟨neg, r, rfl⟩
  obtain ⟨neg, r, e⟩ := this
  rw [e] at h
  obtain ⟨m, nd, x, rfl⟩ := parseAfterSign_ofDecimal h
  exact ofDecimal_canonical _ _ _ _

theorem ofF64_flt_inv {f g : F64} (h : Num.ofF64 f = .flt g) : g = f := by
  unfold Num.ofF64 at h
  split at h
  · split at h
    · cases h
    · split at h
      · cases h
      · cases h; rfl
  · cases h; rfl

/-! ### whole values: the round trip printer → parser without `FloatRT` -/

mutual
/-- The values the parser can produce (and the printer can print so that they are read back), stated
without `FloatRT`: numbers as in `ParsedNum` with the digit search succeeding on each float (`Ser.h17`);
strings in the BMP unless `utf8Strings` is set; member names pairwise distinct. -/
def Parsed (o : JsonOpts) : JV → Prop
  | .null => True
  | .bool _ => True
  | .num n => ParsedNum n ∧ ∀ f, n = .flt f → (F64.toDisplay? f).isSome = true
  | .str s => RT.StrOK o s
  | .arr vs => ParsedList o vs
  | .obj kvs => ParsedMembers o kvs ∧ (kvs.map (·.1)).Nodup
def ParsedList (o : JsonOpts) : List JV → Prop
  | [] => True
  | v :: vs => Parsed o v ∧ ParsedList o vs
def ParsedMembers (o : JsonOpts) : List (Str × JV) → Prop
  | [] => True
  | (k, v) :: kvs => RT.StrOK o k ∧ Parsed o v ∧ ParsedMembers o kvs
end

mutual
theorem printable_of_parsed (o : JsonOpts) : ∀ (v : JV), Parsed o v → RT.Printable o v
  | .null, _ => by rw [RT.Printable]; exact True.intro
  | .bool _, _ => by rw [RT.Printable]; exact True.intro
  | .num n, h => by
    rw [Parsed] at h; rw [RT.Printable]
    exact numPrintable_of_parsed n h.1 h.2
  | .str s, h => by rw [Parsed] at h; rw [RT.Printable]; exact h
  | .arr vs, h => by
    rw [Parsed] at h; rw [RT.Printable]
    exact printableList_of_parsed o vs h
  | .obj kvs, h => by
    rw [Parsed] at h; rw [RT.Printable]
    exact ⟨printableMembers_of_parsed o kvs h.1, h.2⟩
theorem printableList_of_parsed (o : JsonOpts) : ∀ (vs : List JV), ParsedList o vs → RT.PrintableList o vs
  | [], _ => by rw [RT.PrintableList]; exact True.intro
  | v :: vs, h => by
    rw [ParsedList] at h; rw [RT.PrintableList]
    exact ⟨printable_of_parsed o v h.1, printableList_of_parsed o vs h.2⟩
theorem printableMembers_of_parsed (o : JsonOpts) :
    ∀ (kvs : List (Str × JV)), ParsedMembers o kvs → RT.PrintableMembers o kvs
  | [], _ => by rw [RT.PrintableMembers]; exact True.intro
  | (k, v) :: kvs, h => by
    rw [ParsedMembers] at h; rw [RT.PrintableMembers]
    exact ⟨h.1, printable_of_parsed o v h.2.1, printableMembers_of_parsed o kvs h.2.2⟩
end

/-- non-vacuity: `[0.1, "é"]` -/
example : Parsed {} (.arr [.num (.flt (fin false 7205759403792794 (-56))), .str ['é']]) := by
  rw [Parsed, ParsedList, ParsedList, ParsedList, Parsed, Parsed]
  refine ⟨⟨⟨rfl, by decide +kernel⟩, ?_⟩, ?_, True.intro⟩
  · intro f hf; cases hf; decide +kernel
  · intro c hc
    simp only [List.mem_cons, List.not_mem_nil, or_false] at hc
    subst hc; exact Or.inl (by decide)

/-- non-vacuity: `0.1` is a parsed number and is printable (its digit search succeeds) -/
example : RT.NumPrintable (.flt (fin false 7205759403792794 (-56))) :=
  numPrintable_of_parsed _ ⟨rfl, by decide +kernel⟩
    (by intro f hf; cases hf; decide +kernel)

/-- non-vacuity of `floatRT_of_display`: the integral float `1e22` -/
example : RT.FloatRT (fin false 4768371582031250 21) :=
  floatRT_of_display (t := "10000000000000000000000".toList) rfl (by decide)
    (by decide +kernel) (by decide +kernel)

end Jawk.Ser
