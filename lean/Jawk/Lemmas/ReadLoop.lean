/-
  The read loop as a transition system: what one iteration of `readLoop` does, in each outcome of `nextJson`
  (`Iter`: the loop goes on; `Final`: it returns), and the trace of a whole loop.
  (Namespace `Jawk.Loc`, shared with Locality.lean.)
-/
import Jawk.Model.Run
namespace Jawk.Loc
open Jawk Reader

/-- a configuration of the read loop: the reader, the ordinal in the file, the run state -/
structure Conf where
  r : Reader
  inFile : Nat
  s : RunState

section Trace
variable (orc : Oracles) (c : Cfg) (p : Pipeline)

/-- the context `readLoop` hands to the pipeline for the value `v` read from `r`, leaving `r'` -/
def rowCtx (r r' : Reader) (v : JV) (inFile : Nat) (s : RunState) : Ctx :=
  { input := v, ictx := some { startLoc := r.loc, endLoc := r'.loc, fileIndex := inFile, index := s.index } }

/-- one iteration of `readLoop` that is followed by another one -/
inductive Iter : Conf → Conf → Prop
  | skip {k : Conf} {v : JV} {r' : Reader} : k.r.nextJson = (.ok (some v), r') →
      (c.onlyObjectsAndArrays && !v.isObjOrArr) = true → Iter k ⟨r', k.inFile, k.s⟩
  | row {k : Conf} {v : JV} {r' : Reader} {ps : PState} : k.r.nextJson = (.ok (some v), r') →
      (c.onlyObjectsAndArrays && !v.isObjOrArr) = false →
      process orc p.sink p.sinkLen p.cfgs k.s.sts k.s.out (rowCtx k.r r' v k.inFile k.s) = .ok (ps, .cont) →
      Iter k ⟨r', k.inFile + 1, { k.s with sts := ps.sts, out := ps.w, index := k.s.index + 1 }⟩
  | ignore {k : Conf} {e : PErr} {r' : Reader} : k.r.nextJson = (.error e, r') → e.canRecover = true →
      c.onError = .ignore → Iter k ⟨r', k.inFile, k.s⟩
  | stdout {k : Conf} {e : PErr} {r' : Reader} : k.r.nextJson = (.error e, r') → e.canRecover = true →
      c.onError = .stdout → (k.s.out.put (reportBytes e)).failed = false →
      Iter k ⟨r', k.inFile, { k.s with out := k.s.out.put (reportBytes e) }⟩
  | stderr {k : Conf} {e : PErr} {r' : Reader} : k.r.nextJson = (.error e, r') → e.canRecover = true →
      c.onError = .stderr → (k.s.err.put (reportBytes e)).failed = false →
      Iter k ⟨r', k.inFile, { k.s with err := k.s.err.put (reportBytes e) }⟩

/-- the last iteration of `readLoop`, and what the loop returns -/
inductive Final : Conf → Except RunEnd (RunState × Reader × Decision) → Prop
  | eof {k : Conf} {r' : Reader} : k.r.nextJson = (.ok none, r') → Final k (.ok (k.s, r', .cont))
  | brk {k : Conf} {v : JV} {r' : Reader} {ps : PState} : k.r.nextJson = (.ok (some v), r') →
      (c.onlyObjectsAndArrays && !v.isObjOrArr) = false →
      process orc p.sink p.sinkLen p.cfgs k.s.sts k.s.out (rowCtx k.r r' v k.inFile k.s) = .ok (ps, .brk) →
      Final k (.ok ({ k.s with sts := ps.sts, out := ps.w }, r', .brk))
  | stage {k : Conf} {v : JV} {r' : Reader} {f : Failure} : k.r.nextJson = (.ok (some v), r') →
      (c.onlyObjectsAndArrays && !v.isObjOrArr) = false →
      process orc p.sink p.sinkLen p.cfgs k.s.sts k.s.out (rowCtx k.r r' v k.inFile k.s) = .error f →
      Final k (.error ⟨.error f.kind, { k.s with out := f.w, pulled := k.s.pulled ++ [r'.pulled] }⟩)
  | fault {k : Conf} {e : PErr} {r' : Reader} : k.r.nextJson = (.error e, r') → e.canRecover = false →
      Final k (.error ⟨.error .io, { k.s with pulled := k.s.pulled ++ [r'.pulled] }⟩)
  | panic {k : Conf} {e : PErr} {r' : Reader} : k.r.nextJson = (.error e, r') → e.canRecover = true →
      c.onError = .panic →
      Final k (.error ⟨.error (.json e), { k.s with pulled := k.s.pulled ++ [r'.pulled] }⟩)
  | stdoutFail {k : Conf} {e : PErr} {r' : Reader} : k.r.nextJson = (.error e, r') → e.canRecover = true →
      c.onError = .stdout → (k.s.out.put (reportBytes e)).failed = true →
      Final k (.error ⟨.error .io, { k.s with out := k.s.out.put (reportBytes e),
                                               pulled := k.s.pulled ++ [r'.pulled] }⟩)
  | stderrFail {k : Conf} {e : PErr} {r' : Reader} : k.r.nextJson = (.error e, r') → e.canRecover = true →
      c.onError = .stderr → (k.s.err.put (reportBytes e)).failed = true →
      Final k (.error ⟨.error .io, { k.s with err := k.s.err.put (reportBytes e),
                                               pulled := k.s.pulled ++ [r'.pulled] }⟩)

/-- `n` iterations lead from the first configuration to the second -/
inductive ReachN : Nat → Conf → Conf → Prop
  | refl (k : Conf) : ReachN 0 k k
  | step {n : Nat} {a b d : Conf} : Iter orc c p a b → ReachN n b d → ReachN (n + 1) a d

/-- the second configuration is reachable from the first -/
def Reach (a b : Conf) : Prop := ∃ n, ReachN orc c p n a b

theorem iter_readLoop {a b : Conf} (h : Iter orc c p a b) (fuel : Nat) :
    readLoop orc c p (fuel + 1) a.r a.inFile a.s = readLoop orc c p fuel b.r b.inFile b.s := by
  rw [readLoop]
  cases h with
  | skip hn hk => simp only [hn, hk, if_true]
  | row hn hk hp =>
    simp only [rowCtx] at hp
    simp only [hn, hk, hp, Bool.false_eq_true, if_false]
  | ignore hn hr hpol => simp only [hn, hr, hpol, Bool.not_true, Bool.false_eq_true, if_false]
  | stdout hn hr hpol hf => simp only [hn, hr, hpol, hf, Bool.not_true, Bool.false_eq_true, if_false]
  | stderr hn hr hpol hf => simp only [hn, hr, hpol, hf, Bool.not_true, Bool.false_eq_true, if_false]

theorem final_readLoop {k : Conf} {res : Except RunEnd (RunState × Reader × Decision)}
    (h : Final orc c p k res) (fuel : Nat) : readLoop orc c p (fuel + 1) k.r k.inFile k.s = res := by
  rw [readLoop]
  cases h with
  | eof hn => simp only [hn]
  | brk hn hk hp =>
    simp only [rowCtx] at hp
    simp only [hn, hk, hp, Bool.false_eq_true, if_false]
  | stage hn hk hp =>
    simp only [rowCtx] at hp
    simp only [hn, hk, hp, Bool.false_eq_true, if_false]
  | fault hn hr => simp only [hn, hr, Bool.not_false, if_true]
  | panic hn hr hpol => simp only [hn, hr, hpol, Bool.not_true, Bool.false_eq_true, if_false]
  | stdoutFail hn hr hpol hf => simp only [hn, hr, hpol, hf, Bool.not_true, Bool.false_eq_true, if_false, if_true]
  | stderrFail hn hr hpol hf => simp only [hn, hr, hpol, hf, Bool.not_true, Bool.false_eq_true, if_false, if_true]

/-- every configuration either steps or is final -/
theorem iter_or_final (k : Conf) : (∃ b, Iter orc c p k b) ∨ (∃ res, Final orc c p k res) := by
  rcases hn : k.r.nextJson with ⟨res, r'⟩
  cases res with
  | error e =>
    cases hr : e.canRecover with
    | false => exact .inr ⟨_, .fault hn hr⟩
    | true =>
      cases hpol : c.onError with
      | ignore => exact .inl ⟨_, .ignore hn hr hpol⟩
      | panic => exact .inr ⟨_, .panic hn hr hpol⟩
      | stdout =>
        cases hf : (k.s.out.put (reportBytes e)).failed with
        | false => exact .inl ⟨_, .stdout hn hr hpol hf⟩
        | true => exact .inr ⟨_, .stdoutFail hn hr hpol hf⟩
      | stderr =>
        cases hf : (k.s.err.put (reportBytes e)).failed with
        | false => exact .inl ⟨_, .stderr hn hr hpol hf⟩
        | true => exact .inr ⟨_, .stderrFail hn hr hpol hf⟩
  | ok o =>
    cases o with
    | none => exact .inr ⟨_, .eof hn⟩
    | some v =>
      cases hk : (c.onlyObjectsAndArrays && !v.isObjOrArr) with
      | true => exact .inl ⟨_, .skip hn hk⟩
      | false =>
        cases hp : process orc p.sink p.sinkLen p.cfgs k.s.sts k.s.out (rowCtx k.r r' v k.inFile k.s) with
        | error f => exact .inr ⟨_, .stage hn hk hp⟩
        | ok x =>
          obtain ⟨ps, d⟩ := x
          cases d with
          | cont => exact .inl ⟨_, .row hn hk hp⟩
          | brk => exact .inr ⟨_, .brk hn hk hp⟩

/-! An iteration looks at its reader only through the outcome of `nextJson` and the two locations. -/

theorem nextJson_eq_of {r r₂ r' : Reader} {res : Except PErr (Option JV)} (hn : r.nextJson = (res, r'))
    (e : r₂.nextJson.1 = r.nextJson.1) : r₂.nextJson = (res, r₂.nextJson.2) := by
  rw [hn] at e
  exact Prod.ext e rfl

theorem rowCtx_congr {r r' r₂ r₂' : Reader} (hl : r.loc = r₂.loc) (hl' : r'.loc = r₂'.loc) (v : JV) (inFile : Nat)
    (s : RunState) : rowCtx r r' v inFile s = rowCtx r₂ r₂' v inFile s := by
  simp only [rowCtx, hl, hl']

/-- an iteration that is not the last one is one `nextJson` call that returned a value or a recoverable error -/
theorem Iter.reader {a b : Conf} (h : Iter orc c p a b) :
    b.r = a.r.nextJson.2 ∧ a.r.nextJson.1 ≠ .ok none ∧ a.r.nextJson.1 ≠ .error .io := by
  cases h with
  | skip hn _ => rw [hn]; exact ⟨rfl, nofun, nofun⟩
  | row hn _ _ => rw [hn]; exact ⟨rfl, nofun, nofun⟩
  | ignore hn hr _ => rw [hn]; exact ⟨rfl, nofun, fun h => by cases h; cases hr⟩
  | stdout hn hr _ _ => rw [hn]; exact ⟨rfl, nofun, fun h => by cases h; cases hr⟩
  | stderr hn hr _ _ => rw [hn]; exact ⟨rfl, nofun, fun h => by cases h; cases hr⟩

/-- the reader that a loop which ends normally returns is the one its last `nextJson` left -/
theorem Final.reader {k : Conf} {s' : RunState} {r' : Reader} {d : Decision}
    (h : Final orc c p k (.ok (s', r', d))) : r' = k.r.nextJson.2 := by
  cases h with
  | eof hn => rw [hn]
  | brk hn _ _ => rw [hn]

/-- a loop that ends with an error records how many items its last `nextJson` left pulled -/
theorem Final.pulled {k : Conf} {e : RunEnd} (h : Final orc c p k (.error e)) :
    e.st.pulled = k.s.pulled ++ [k.r.nextJson.2.pulled] := by
  cases h with
  | stage hn _ _ => rw [hn]
  | fault hn _ => rw [hn]
  | panic hn _ _ => rw [hn]
  | stdoutFail hn _ _ _ => rw [hn]
  | stderrFail hn _ _ _ => rw [hn]

theorem reachN_readLoop {n : Nat} {a b : Conf} (h : ReachN orc c p n a b) (fuel : Nat) :
    readLoop orc c p (fuel + n) a.r a.inFile a.s = readLoop orc c p fuel b.r b.inFile b.s := by
  induction h with
  | refl k => rfl
  | step hi _ ih => rw [← Nat.add_assoc, iter_readLoop orc c p hi, ih]

theorem ReachN.snoc {n : Nat} {a b d : Conf} (h : ReachN orc c p n a b) (hi : Iter orc c p b d) :
    ReachN orc c p (n + 1) a d := by
  induction h with
  | refl k => exact .step hi (.refl _)
  | step hi' _ ih => exact .step hi' (ih hi)

theorem Reach.refl (k : Conf) : Reach orc c p k k := ⟨0, .refl k⟩

theorem Reach.trans {a b d : Conf} (h1 : Reach orc c p a b) (h2 : Reach orc c p b d) : Reach orc c p a d := by
  obtain ⟨n, h1⟩ := h1
  obtain ⟨m, h2⟩ := h2
  induction h1 with
  | refl k => exact ⟨m, h2⟩
  | step hi _ ih =>
    obtain ⟨l, hl⟩ := ih h2
    exact ⟨l + 1, .step hi hl⟩

/-- the trace of a loop: `readLoop` runs `n` iterations to a reachable configuration `k'` and ends there — with
the final iteration described by `Final`, or (model only) because the fuel is used up -/
theorem readLoop_trace (fuel : Nat) (k : Conf) :
    ∃ n k', ReachN orc c p n k k' ∧
      ((n < fuel ∧ Final orc c p k' (readLoop orc c p fuel k.r k.inFile k.s)) ∨
       (n = fuel ∧ readLoop orc c p fuel k.r k.inFile k.s = .error ⟨.error (.json .outOfFuel), k'.s⟩)) := by
  induction fuel generalizing k with
  | zero => exact ⟨0, k, .refl k, .inr ⟨rfl, rfl⟩⟩
  | succ fuel ih =>
    rcases iter_or_final orc c p k with ⟨b, hb⟩ | ⟨res, hres⟩
    · obtain ⟨n, k', hr, h⟩ := ih b
      rw [iter_readLoop orc c p hb]
      refine ⟨n + 1, k', .step hb hr, ?_⟩
      rcases h with ⟨h1, h2⟩ | ⟨h1, h2⟩
      · exact .inl ⟨by omega, h2⟩
      · exact .inr ⟨by omega, h2⟩
    · rw [final_readLoop orc c p hres]
      exact ⟨0, k, .refl k, .inl ⟨by omega, hres⟩⟩

/-- a reflexive, transitive relation that every `nextJson` call respects holds along iterations -/
theorem reachN_rel (Q : Reader → Reader → Prop) (hrefl : ∀ r, Q r r)
    (htrans : ∀ a b c, Q a b → Q b c → Q a c) (hstep : ∀ r, Q r r.nextJson.2)
    {n : Nat} {a b : Conf} (h : ReachN orc c p n a b) : Q a.r b.r := by
  induction h with
  | refl k => exact hrefl _
  | step hi _ ih => exact htrans _ _ _ (hi.reader.1 ▸ hstep _) ih

/-- such a relation holds between the first and the last reader of a loop that ends normally -/
theorem readLoop_rel (Q : Reader → Reader → Prop) (hrefl : ∀ r, Q r r)
    (htrans : ∀ a b c, Q a b → Q b c → Q a c) (hstep : ∀ r, Q r r.nextJson.2)
    (fuel : Nat) (r : Reader) (inFile : Nat) (s : RunState)
    {s' : RunState} {r' : Reader} {d : Decision}
    (h : readLoop orc c p fuel r inFile s = .ok (s', r', d)) : Q r r' := by
  obtain ⟨n, k', hr, ⟨_, hfin⟩ | ⟨_, he⟩⟩ := readLoop_trace orc c p fuel ⟨r, inFile, s⟩
  · dsimp only at hfin
    rw [h] at hfin
    exact htrans _ _ _ (reachN_rel orc c p Q hrefl htrans hstep hr) (hfin.reader ▸ hstep _)
  · dsimp only at he
    rw [h] at he
    cases he

end Trace

end Jawk.Loc
