/-
  Property C19: number-as-string arithmetic is exact, 64-bit integers print/parse exactly.

  `value d : ℚ` is the rational denoted by `d : Dec` (`mant × 10^(-scale)`).
  * `value_add/sub/mul/abs/zero/one`  -- the operations compute the exact rational result
  * `cmp_lt/cmp_eq/cmp_gt/cmp_exact`  -- comparison is comparison of the values
  * `value_normalize`, `normalize_canon`, `normalize_eq_iff`, `render_eq_of_value_eq`
                                      -- spelling independence (the `strip` fuel suffices)
  * `round0_scale`, `round0_isInt`, `value_round0`, `round0_tie_even`
  * `rem_exact`, `rem_lt`, `rem_sign`
  * `parse_digits`, `parse_digits_dot`, `parse_signed*`, `parse_trailing_zero`, `value_trailing_zero`
  * `printNum_pos`, `parseU64_print`, `parseI64Neg_print`, roundtrips (digits: `F64RT.digitsToNat_toDigits`)
-/
import Mathlib.Tactic.Ring
import Mathlib.Tactic.Linarith
import Mathlib.Data.Rat.Defs
import Mathlib.Tactic.FieldSimp
import Mathlib.Tactic.NormNum
import Mathlib.Algebra.Order.Ring.Abs
import Jawk.Model.Decimal
import Jawk.Model.Print
import Jawk.Model.Parser
import Jawk.Lemmas.F64RoundTrip

namespace Jawk.DecExact
open Jawk

/-- the rational number denoted by a decimal: `mant × 10^(-scale)` -/
def value (d : Dec) : ℚ := (d.mant : ℚ) * (10 : ℚ) ^ (-d.scale)

theorem ten_ne : (10 : ℚ) ≠ 0 := by norm_num

theorem ten_zpow_pos (z : ℤ) : (0 : ℚ) < (10 : ℚ) ^ z := zpow_pos (by norm_num) z

/-- rescaling: multiplying the mantissa by `10^k` and adding `k` to the scale keeps the value -/
theorem value_rescale (m : ℤ) (s : ℤ) (k : ℕ) :
    value ⟨m * 10 ^ k, s + k⟩ = value ⟨m, s⟩ := by
  simp only [value]
  rw [neg_add, zpow_add₀ ten_ne, zpow_neg, zpow_neg, zpow_natCast]
  push_cast
  have : (10 : ℚ) ^ k ≠ 0 := pow_ne_zero _ ten_ne
  field_simp

theorem value_trailing_zero (m s : ℤ) : value ⟨m * 10, s + 1⟩ = value ⟨m, s⟩ := by
  have := value_rescale m s 1
  simpa using this

/-- the aligned mantissa is `value * 10^s` -/
theorem cast_scaled (m sc s : ℤ) (h : sc ≤ s) :
    ((m * 10 ^ (s - sc).toNat : ℤ) : ℚ) = value ⟨m, sc⟩ * (10 : ℚ) ^ s := by
  have hk : s = sc + ((s - sc).toNat : ℤ) := by omega
  have := value_rescale m sc (s - sc).toNat
  rw [← hk] at this
  rw [← this]
  simp only [value]
  rw [mul_assoc, ← zpow_add₀ ten_ne]
  simp

theorem align_fst (a b : Dec) :
    (((Dec.align a b).1 : ℤ) : ℚ) = value a * (10 : ℚ) ^ (max a.scale b.scale) := by
  exact cast_scaled a.mant a.scale _ (le_max_left _ _)

theorem align_snd (a b : Dec) :
    (((Dec.align a b).2.1 : ℤ) : ℚ) = value b * (10 : ℚ) ^ (max a.scale b.scale) := by
  exact cast_scaled b.mant b.scale _ (le_max_right _ _)

theorem align_scale (a b : Dec) : (Dec.align a b).2.2 = max a.scale b.scale := rfl

theorem value_mk (m s : ℤ) : value ⟨m, s⟩ = (m : ℚ) * (10 : ℚ) ^ (-s) := rfl

theorem value_of_scaled (x : ℤ) (v : ℚ) (s : ℤ) (h : (x : ℚ) = v * (10 : ℚ) ^ s) :
    value ⟨x, s⟩ = v := by
  rw [value_mk, h, mul_assoc, ← zpow_add₀ ten_ne]; simp

theorem value_add (a b : Dec) : value (Dec.add a b) = value a + value b := by
  show value ⟨(Dec.align a b).1 + (Dec.align a b).2.1, max a.scale b.scale⟩ = _
  apply value_of_scaled
  push_cast
  rw [align_fst, align_snd]; ring

theorem value_sub (a b : Dec) : value (Dec.sub a b) = value a - value b := by
  show value ⟨(Dec.align a b).1 - (Dec.align a b).2.1, max a.scale b.scale⟩ = _
  apply value_of_scaled
  push_cast
  rw [align_fst, align_snd]; ring

theorem value_mul (a b : Dec) : value (Dec.mul a b) = value a * value b := by
  simp only [Dec.mul, value]
  rw [neg_add, zpow_add₀ ten_ne]
  push_cast; ring

theorem value_abs (a : Dec) : value a.abs = |value a| := by
  simp only [Dec.abs, value]
  rw [abs_mul, abs_of_pos (ten_zpow_pos _)]
  simp

theorem value_zero : value Dec.zero = 0 := by simp [value, Dec.zero]
theorem value_one : value Dec.one = 1 := by simp [value, Dec.one]
/-! ### comparison -/

theorem scaled_lt (a b : Dec) :
    (Dec.align a b).1 < (Dec.align a b).2.1 ↔ value a < value b := by
  rw [← @Int.cast_lt ℚ, align_fst, align_snd]
  exact mul_lt_mul_iff_left₀ (ten_zpow_pos _)

theorem scaled_eq (a b : Dec) :
    (Dec.align a b).1 = (Dec.align a b).2.1 ↔ value a = value b := by
  rw [← @Int.cast_inj ℚ, align_fst, align_snd]
  exact mul_left_inj' (ne_of_gt (ten_zpow_pos _))

theorem cmp_def (a b : Dec) : Dec.cmp a b = compare (Dec.align a b).1 (Dec.align a b).2.1 := rfl

theorem cmp_lt (a b : Dec) : Dec.cmp a b = .lt ↔ value a < value b := by
  rw [cmp_def, compare_lt_iff_lt, scaled_lt]

theorem cmp_eq (a b : Dec) : Dec.cmp a b = .eq ↔ value a = value b := by
  rw [cmp_def, compare_eq_iff_eq, scaled_eq]

theorem cmp_gt (a b : Dec) : Dec.cmp a b = .gt ↔ value b < value a := by
  rw [cmp_def, compare_gt_iff_gt]
  rw [← @Int.cast_lt ℚ, align_fst, align_snd]
  exact mul_lt_mul_iff_left₀ (ten_zpow_pos _)

theorem cmp_exact (a b : Dec) : Dec.cmp a b = compare (value a) (value b) := by
  rcases lt_trichotomy (value a) (value b) with h | h | h
  · rw [(cmp_lt a b).2 h, (compare_lt_iff_lt).2 h]
  · rw [(cmp_eq a b).2 h, (compare_eq_iff_eq).2 h]
  · rw [(cmp_gt a b).2 h, (compare_gt_iff_gt).2 h]
/-! ### normalisation -/

theorem strip_spec (fuel n : ℕ) (s : ℤ) :
    ∃ k : ℕ, (Dec.normalize.strip fuel n s).1 * 10 ^ k = n ∧
      (Dec.normalize.strip fuel n s).2 + k = s := by
  induction fuel generalizing n s with
  | zero => exact ⟨0, by simp [Dec.normalize.strip]⟩
  | succ f ih =>
    unfold Dec.normalize.strip
    split
    · obtain ⟨k, h1, h2⟩ := ih (n / 10) (s - 1)
      refine ⟨k + 1, ?_, ?_⟩
      · rw [pow_succ, ← mul_assoc, h1]; omega
      · push_cast; omega
    · exact ⟨0, by simp⟩

theorem strip_not_dvd (fuel n : ℕ) (s : ℤ) (hn : 0 < n) (hf : n < fuel) :
    (Dec.normalize.strip fuel n s).1 % 10 ≠ 0 := by
  induction fuel generalizing n s with
  | zero => omega
  | succ f ih =>
    unfold Dec.normalize.strip
    split
    · apply ih <;> omega
    · assumption

/-- canonical form: zero is `⟨0,0⟩`, otherwise the mantissa has no trailing zero -/
def Canon (d : Dec) : Prop := (d.mant = 0 ∧ d.scale = 0) ∨ d.mant % 10 ≠ 0

theorem normalize_nonzero (a : Dec) (h : a.mant ≠ 0) :
    Dec.normalize a =
      ⟨if a.mant < 0 then -((Dec.normalize.strip (a.mant.natAbs + 1) a.mant.natAbs a.scale).1 : ℤ)
        else ((Dec.normalize.strip (a.mant.natAbs + 1) a.mant.natAbs a.scale).1 : ℤ),
       (Dec.normalize.strip (a.mant.natAbs + 1) a.mant.natAbs a.scale).2⟩ := by
  simp only [Dec.normalize, if_neg h]

theorem normalize_zero (a : Dec) (h : a.mant = 0) : Dec.normalize a = Dec.zero := by
  simp only [Dec.normalize, if_pos h]

theorem value_normalize (a : Dec) : value (Dec.normalize a) = value a := by
  by_cases h : a.mant = 0
  · rw [normalize_zero a h, value_zero, value, h]; simp
  · rw [normalize_nonzero a h]
    obtain ⟨k, h1, h2⟩ := strip_spec (a.mant.natAbs + 1) a.mant.natAbs a.scale
    generalize Dec.normalize.strip (a.mant.natAbs + 1) a.mant.natAbs a.scale = r at *
    obtain ⟨n', s'⟩ := r
    simp only at h1 h2 ⊢
    have hv := value_rescale (if a.mant < 0 then -(n' : ℤ) else n') s' k
    rw [← hv]
    have : (if a.mant < 0 then -(n' : ℤ) else n') * 10 ^ k = a.mant := by
      have : (n' : ℤ) * 10 ^ k = (a.mant.natAbs : ℤ) := by
        rw [← h1]; simp only [Nat.cast_mul, Nat.cast_pow, Nat.cast_ofNat]
      split <;> [rw [neg_mul, this]; rw [this]] <;> omega
    rw [this, h2]

/-- the fuel of `strip` suffices: the result is canonical -/
theorem normalize_canon (a : Dec) : Canon (Dec.normalize a) := by
  by_cases h : a.mant = 0
  · rw [normalize_zero a h]; left; exact ⟨rfl, rfl⟩
  · rw [normalize_nonzero a h]; right
    have := strip_not_dvd (a.mant.natAbs + 1) a.mant.natAbs a.scale (by omega) (by omega)
    simp only
    split <;> omega


theorem value_eq_zero_iff (a : Dec) : value a = 0 ↔ a.mant = 0 := by
  simp only [value, mul_eq_zero, Int.cast_eq_zero, or_iff_left_iff_imp]
  intro h; exact absurd h (ne_of_gt (ten_zpow_pos _))

theorem pow_zero_of_not_dvd (m1 m2 : ℤ) (k : ℕ) (h : m1 * 10 ^ k = m2) (h2 : m2 % 10 ≠ 0) : k = 0 := by
  cases k with
  | zero => rfl
  | succ j =>
    exfalso; apply h2
    rw [← h, pow_succ, ← mul_assoc]; omega

theorem Canon.eq_zero {a : Dec} (h : Canon a) (h0 : a.mant = 0) : a = Dec.zero := by
  rcases h with ⟨h1, h2⟩ | h
  · cases a; simp_all [Dec.zero]
  · rw [h0] at h; omega

theorem canon_unique {a b : Dec} (ha : Canon a) (hb : Canon b) (h : value a = value b) : a = b := by
  by_cases h0 : a.mant = 0
  · have hb0 : b.mant = 0 := by
      rw [← value_eq_zero_iff, ← h, value_eq_zero_iff]; exact h0
    rw [ha.eq_zero h0, hb.eq_zero hb0]
  · have hb0 : b.mant ≠ 0 := by
      rw [Ne, ← value_eq_zero_iff, ← h, value_eq_zero_iff]; exact h0
    have ha' : a.mant % 10 ≠ 0 := by
      rcases ha with ⟨h1, _⟩ | h1 <;> [exact absurd h1 h0; exact h1]
    have hb' : b.mant % 10 ≠ 0 := by
      rcases hb with ⟨h1, _⟩ | h1 <;> [exact absurd h1 hb0; exact h1]
    have hx := (scaled_eq a b).2 h
    simp only [Dec.align] at hx
    obtain ⟨ma, sa⟩ := a
    obtain ⟨mb, sb⟩ := b
    simp only at *
    -- aligned to the larger scale, the mantissa of the smaller scale is a multiple of `10 ^ k`: `k = 0`, as it has no trailing zero
    rcases lt_trichotomy sa sb with hlt | heq | hgt
    · have e1 : max sa sb = sb := by omega
      rw [e1, sub_self] at hx
      simp only [Int.toNat_zero, pow_zero, mul_one] at hx
      have := pow_zero_of_not_dvd _ _ _ hx hb'
      omega
    · subst heq
      rw [max_self, sub_self] at hx
      simp only [Int.toNat_zero, pow_zero, mul_one] at hx
      rw [hx]
    · have e1 : max sa sb = sa := by omega
      rw [e1, sub_self] at hx
      simp only [Int.toNat_zero, pow_zero, mul_one] at hx
      have := pow_zero_of_not_dvd _ _ _ hx.symm ha'
      omega

/-- spelling independence: decimals of equal value have the same normal form (hence print identically) -/
theorem normalize_eq_iff (a b : Dec) : Dec.normalize a = Dec.normalize b ↔ value a = value b := by
  constructor
  · intro h; rw [← value_normalize a, ← value_normalize b, h]
  · intro h
    exact canon_unique (normalize_canon a) (normalize_canon b)
      (by rw [value_normalize, value_normalize, h])

theorem normalize_idem (a : Dec) : Dec.normalize (Dec.normalize a) = Dec.normalize a :=
  (normalize_eq_iff _ _).2 (value_normalize a)

theorem render_eq_of_value_eq (a b : Dec) (h : value a = value b) : Dec.render a = Dec.render b := by
  unfold Dec.render
  rw [(normalize_eq_iff a b).2 h]

/-! ### round(0) -/

/-- the half-even rounded quotient used by `Dec.round0` -/
def rq (n p : ℕ) : ℕ :=
  if 2 * (n % p) > p ∨ (2 * (n % p) = p ∧ (n / p) % 2 = 1) then n / p + 1 else n / p

/-- quotient and remainder in `ℚ` -/
theorem cast_div_add_mod (n p : ℕ) (hp : 0 < p) :
    (n : ℚ) / p = ((n / p : ℕ) : ℚ) + ((n % p : ℕ) : ℚ) / p := by
  rw [add_div' _ _ _ (Nat.cast_pos.2 hp).ne']
  congr 1
  exact_mod_cast (Nat.div_add_mod' n p).symm

/-- a fraction `x / p` with `2 * x ≤ p` is at most one half, and equal to it only when `2 * x = p` -/
theorem frac_le_half (x p : ℕ) (hp : 0 < p) (h : 2 * x ≤ p) :
    |(x : ℚ) / p| ≤ 1 / 2 ∧ (|(x : ℚ) / p| = 1 / 2 → 2 * x = p) := by
  have hp' : (0 : ℚ) < p := Nat.cast_pos.2 hp
  rw [abs_of_nonneg (div_nonneg (Nat.cast_nonneg x) hp'.le), div_le_div_iff₀ hp' two_pos,
    div_eq_div_iff hp'.ne' two_ne_zero, one_mul, mul_comm]
  exact ⟨by exact_mod_cast h, fun e => by exact_mod_cast e⟩

/-- rounding up leaves the error `(p - n % p) / p`, rounding down `-(n % p) / p`; `rq` rounds up exactly when that
keeps the numerator within `p / 2`, and at `p / 2` chooses the even quotient -/
theorem rq_core (n p : ℕ) (hp : 0 < p) :
    |((rq n p : ℕ) : ℚ) - (n : ℚ) / p| ≤ 1 / 2 ∧
    (|((rq n p : ℕ) : ℚ) - (n : ℚ) / p| = 1 / 2 → rq n p % 2 = 0) := by
  have hr := Nat.mod_lt n hp
  rw [cast_div_add_mod n p hp, ← sub_sub]
  by_cases hC : 2 * (n % p) > p ∨ (2 * (n % p) = p ∧ (n / p) % 2 = 1)
  · have e : rq n p = n / p + 1 := if_pos hC
    obtain ⟨h1, h2⟩ := frac_le_half (p - n % p) p hp (by omega)
    rw [e, Nat.cast_succ, add_sub_cancel_left, one_sub_div (Nat.cast_pos.2 hp).ne', ← Nat.cast_sub hr.le]
    exact ⟨h1, fun h => by have := h2 h; omega⟩
  · have e : rq n p = n / p := if_neg hC
    obtain ⟨h1, h2⟩ := frac_le_half (n % p) p hp (by omega)
    rw [e, sub_self, zero_sub, abs_neg]
    exact ⟨h1, fun h => by have := h2 h; omega⟩

theorem round0_of_scale_nonpos (a : Dec) (h : a.scale ≤ 0) : Dec.round0 a = a := by
  simp only [Dec.round0, if_pos h]

/-- the sign by which `Dec.round0` treats the mantissa: `-1` below zero, else `1` -/
def sgn (m : ℤ) : ℤ := if m < 0 then -1 else 1

theorem sgn_mul_natAbs (m : ℤ) : sgn m * m.natAbs = m := by unfold sgn; split <;> omega

theorem abs_sgn (m : ℤ) : |((sgn m : ℤ) : ℚ)| = 1 := by unfold sgn; split <;> simp

theorem round0_of_scale_pos (a : Dec) (h : 0 < a.scale) :
    Dec.round0 a = ⟨sgn a.mant * (rq a.mant.natAbs (10 ^ a.scale.toNat) : ℕ), 0⟩ := by
  simp only [Dec.round0, if_neg (not_le.2 h), rq, sgn]
  by_cases hm : a.mant < 0 <;> simp only [hm, if_true, if_false, neg_one_mul, one_mul]

theorem round0_scale (a : Dec) : (Dec.round0 a).scale ≤ 0 := by
  by_cases h : a.scale ≤ 0
  · rw [round0_of_scale_nonpos a h]; exact h
  · rw [round0_of_scale_pos a (not_le.1 h)]

/-- a decimal of non-positive scale denotes an integer -/
theorem value_int_of_scale_nonpos (d : Dec) (h : d.scale ≤ 0) :
    value d = ((d.mant * 10 ^ (-d.scale).toNat : ℤ) : ℚ) := by
  have := cast_scaled d.mant d.scale 0 h
  simp only [zero_sub, zpow_zero, mul_one] at this
  rw [this]

theorem round0_isInt (a : Dec) : ∃ z : ℤ, value (Dec.round0 a) = z :=
  ⟨_, value_int_of_scale_nonpos _ (round0_scale a)⟩

/-- value of a decimal with positive scale as a signed fraction -/
theorem value_pos_scale (a : Dec) (h : 0 < a.scale) :
    value a = (sgn a.mant : ℚ) * (((a.mant.natAbs : ℕ) : ℚ) / ((10 ^ a.scale.toNat : ℕ) : ℚ)) := by
  have hs : a.scale = (a.scale.toNat : ℤ) := by omega
  rw [value, hs, zpow_neg, zpow_natCast, ← hs, ← div_eq_mul_inv, ← mul_div_assoc, Nat.cast_pow, Nat.cast_ofNat]
  congr 1
  rw [← Int.cast_natCast (R := ℚ) a.mant.natAbs, ← Int.cast_mul, sgn_mul_natAbs]

theorem round0_core (a : Dec) :
    |value (Dec.round0 a) - value a| ≤ 1 / 2 ∧
    (|value (Dec.round0 a) - value a| = 1 / 2 → ∃ k : ℤ, value (Dec.round0 a) = 2 * k) := by
  by_cases h : a.scale ≤ 0
  · rw [round0_of_scale_nonpos a h, sub_self, abs_zero]
    exact ⟨by norm_num, fun h => by norm_num at h⟩
  · have hs := not_le.1 h
    obtain ⟨h1, h2⟩ := rq_core a.mant.natAbs (10 ^ a.scale.toNat) (Nat.pow_pos (by norm_num))
    rw [round0_of_scale_pos a hs, value_pos_scale a hs, value_mk, neg_zero, zpow_zero, mul_one, Int.cast_mul,
      Int.cast_natCast, ← mul_sub, abs_mul, abs_sgn, one_mul]
    generalize rq a.mant.natAbs (10 ^ a.scale.toNat) = Q at *
    refine ⟨h1, fun h => ⟨sgn a.mant * ((Q / 2 : ℕ) : ℤ), ?_⟩⟩
    have hq : Q = 2 * (Q / 2) := by have := h2 h; omega
    rw (occs := [1]) [hq]
    rw [Nat.cast_mul, Int.cast_mul, Int.cast_natCast, Nat.cast_ofNat]
    ring

/-- `round(0)` is within one half of the argument -/
theorem value_round0 (a : Dec) : |value (Dec.round0 a) - value a| ≤ 1 / 2 := (round0_core a).1

/-- ties go to the even integer -/
theorem round0_tie_even (a : Dec) (h : |value (Dec.round0 a) - value a| = 1 / 2) :
    ∃ k : ℤ, value (Dec.round0 a) = 2 * k := (round0_core a).2 h
/-! ### parsing

`isE`, `signSplit`, `parseInt`, `parseBase` are the `let`-pieces of `Dec.parse` under names of their own (`parse_eq`). -/

def isE (c : Char) : Bool := c = 'e' || c = 'E'

def signSplit (t : Str) : Bool × Str :=
  match t with
  | '-' :: r => (true, r)
  | '+' :: r => (false, r)
  | r => (false, r)

def parseInt (t : Str) : Option Int :=
  let (neg, ds) := signSplit t
  if ds.isEmpty || !ds.all Char.isDigit then none
  else some (if neg then -(F64.digitsToNat ds : Int) else F64.digitsToNat ds)

def parseBase (base : Str) (e : Int) : Option Dec :=
  if base.isEmpty then none else
  let lead := base.takeWhile (· ≠ '.')
  let hasDot := base.any (· = '.')
  let trail := (base.dropWhile (· ≠ '.')).drop 1
  if trail.any (· = '.') then none else
  let digits := if hasDot then lead ++ trail else lead
  match parseInt digits with
  | none => none
  | some m =>
    if trail.any (fun c => c = '-' || c = '+') then none
    else some ⟨m, (trail.length : Int) - e⟩

theorem parse_eq (s : Str) :
    Dec.parse s =
      match (if s.any isE then parseInt ((s.dropWhile (fun c => !isE c)).drop 1) else some 0) with
      | none => none
      | some e => parseBase (s.takeWhile (fun c => !isE c)) e := rfl


theorem isDigit_ne {c : Char} (h : c.isDigit = true) :
    c ≠ '.' ∧ c ≠ '-' ∧ c ≠ '+' ∧ c ≠ 'e' ∧ c ≠ 'E' := by
  refine ⟨?_, ?_, ?_, ?_, ?_⟩ <;> (intro e; subst e; revert h; decide)

/-- a sign prefix -/
def IsSign (sg : Str) : Prop := sg = [] ∨ sg = ['-'] ∨ sg = ['+']

def sgnApply (sg : Str) (n : ℕ) : ℤ := if sg = ['-'] then -(n : ℤ) else n

theorem parseInt_signed (sg ds : Str) (hsg : IsSign sg) (hne : ds ≠ [])
    (hd : ds.all Char.isDigit = true) :
    parseInt (sg ++ ds) = some (sgnApply sg (F64.digitsToNat ds)) := by
  have hemp : ds.isEmpty = false := by cases ds <;> simp_all
  rcases hsg with rfl | rfl | rfl
  · cases ds with
    | nil => exact absurd rfl hne
    | cons c r =>
      have hc : c.isDigit = true := by simp [List.all_cons] at hd; exact hd.1
      obtain ⟨_, h1, h2, _, _⟩ := isDigit_ne hc
      have : signSplit (c :: r) = (false, c :: r) := by
        unfold signSplit
        split
        · next heq => simp at heq; exact absurd heq.1 h1
        · next heq => simp at heq; exact absurd heq.1 h2
        · rfl
      simp [parseInt, this, hd, sgnApply]
  · simp [parseInt, signSplit, hemp, hd, sgnApply]
  · simp [parseInt, signSplit, hemp, hd, sgnApply]


theorem IsSign.no_dot {sg : Str} (h : IsSign sg) : ∀ c ∈ sg, c ≠ '.' ∧ c ≠ 'e' ∧ c ≠ 'E' := by
  rcases h with rfl | rfl | rfl <;> simp

theorem digits_mem {ds : Str} (hd : ds.all Char.isDigit = true) : ∀ c ∈ ds, c.isDigit = true := by
  simpa [List.all_eq_true] using hd

theorem takeWhile_of_all {α : Type} {p : α → Bool} {l : List α} (h : ∀ a ∈ l, p a = true) :
    l.takeWhile p = l ∧ l.dropWhile p = [] := by
  have h1 := List.takeWhile_append_of_pos (l₂ := []) h
  have h2 := List.dropWhile_append_of_pos (l₂ := []) h
  rw [List.append_nil] at h1 h2
  exact ⟨by rw [h1, List.takeWhile_nil, List.append_nil], h2⟩

/-- sign and digits contain no point -/
theorem lead_ne_dot {sg ds : Str} (hsg : IsSign sg) (hd : ds.all Char.isDigit = true) :
    ∀ c ∈ sg ++ ds, decide (c ≠ '.') = true := by
  intro c hc
  rcases List.mem_append.1 hc with h | h
  · exact decide_eq_true (hsg.no_dot c h).1
  · exact decide_eq_true (isDigit_ne (digits_mem hd c h)).1

theorem parseBase_dot (sg ds fs : Str) (e : ℤ) (hsg : IsSign sg)
    (hd : ds.all Char.isDigit = true) (hf : fs.all Char.isDigit = true) (hne : ds ++ fs ≠ []) :
    parseBase (sg ++ ds ++ '.' :: fs) e =
      some ⟨sgnApply sg (F64.digitsToNat (ds ++ fs)), (fs.length : ℤ) - e⟩ := by
  have hf' := digits_mem hf
  have hlead := lead_ne_dot hsg hd
  have h1 : (sg ++ ds ++ '.' :: fs).takeWhile (· ≠ '.') = sg ++ ds := by
    rw [List.takeWhile_append_of_pos hlead]; simp
  have h2 : ((sg ++ ds ++ '.' :: fs).dropWhile (· ≠ '.')).drop 1 = fs := by
    rw [List.dropWhile_append_of_pos hlead]; simp
  have h3 : (sg ++ ds ++ '.' :: fs).any (· = '.') = true := by simp
  have h4 : fs.any (· = '.') = false := by
    simp only [List.any_eq_false, decide_eq_true_eq]
    intro c hc; exact (isDigit_ne (hf' c hc)).1
  have h5 : fs.any (fun c => c = '-' || c = '+') = false := by
    simp only [List.any_eq_false, Bool.or_eq_true, decide_eq_true_eq, not_or]
    intro c hc; exact ⟨(isDigit_ne (hf' c hc)).2.1, (isDigit_ne (hf' c hc)).2.2.1⟩
  have h6 : (sg ++ ds ++ '.' :: fs).isEmpty = false := by simp
  have h7 : parseInt (sg ++ ds ++ fs) = some (sgnApply sg (F64.digitsToNat (ds ++ fs))) := by
    rw [List.append_assoc]
    exact parseInt_signed sg (ds ++ fs) hsg hne (by simp [List.all_append, hd, hf])
  simp only [parseBase, h1, h2, h3, h4, h5, h6, h7, if_true, Bool.false_eq_true, if_false]

theorem parseBase_nodot (sg ds : Str) (e : ℤ) (hsg : IsSign sg)
    (hd : ds.all Char.isDigit = true) (hne : ds ≠ []) :
    parseBase (sg ++ ds) e = some ⟨sgnApply sg (F64.digitsToNat ds), -e⟩ := by
  have hlead := lead_ne_dot hsg hd
  have h3 : (sg ++ ds).any (· = '.') = false := by
    rw [List.any_eq_false]
    intro c hc; simpa using hlead c hc
  have h6 : (sg ++ ds).isEmpty = false :=
    List.isEmpty_eq_false_iff.2 (List.append_ne_nil_of_right_ne_nil _ hne)
  simp only [parseBase, (takeWhile_of_all hlead).1, (takeWhile_of_all hlead).2, h3, h6,
    parseInt_signed sg ds hsg hne hd, Bool.false_eq_true, if_false, List.drop_nil, List.any_nil, List.length_nil,
    zero_sub, Nat.cast_zero]


def NoE (base : Str) : Prop := ∀ c ∈ base, (!isE c) = true

theorem isE_iff (c : Char) : isE c = true ↔ c = 'e' ∨ c = 'E' := by simp [isE]

theorem noE_digits {ds : Str} (hd : ds.all Char.isDigit = true) : NoE ds := by
  intro c hc
  have := isDigit_ne (digits_mem hd c hc)
  simp [isE, this.2.2.2.1, this.2.2.2.2]

theorem noE_sign {sg : Str} (h : IsSign sg) : NoE sg := by
  intro c hc
  have := h.no_dot c hc
  simp [isE, this.2.1, this.2.2]

theorem NoE.append {a b : Str} (ha : NoE a) (hb : NoE b) : NoE (a ++ b) := by
  intro c hc
  rcases List.mem_append.1 hc with h | h
  · exact ha c h
  · exact hb c h

theorem noE_dot {fs : Str} (h : NoE fs) : NoE ('.' :: fs) := by
  intro c hc
  rcases List.mem_cons.1 hc with rfl | h'
  · decide
  · exact h c h'

theorem parse_noexp (base : Str) (h : NoE base) : Dec.parse base = parseBase base 0 := by
  rw [parse_eq]
  have h1 : base.any isE = false := by
    simp only [List.any_eq_false]
    intro c hc; simpa using h c hc
  simp only [h1, (takeWhile_of_all h).1, Bool.false_eq_true, if_false]

theorem parse_exp (base : Str) (ec : Char) (esg es : Str) (h : NoE base) (hec : isE ec = true)
    (hsg : IsSign esg) (hes : es.all Char.isDigit = true) (hne : es ≠ []) :
    Dec.parse (base ++ ec :: (esg ++ es)) = parseBase base (sgnApply esg (F64.digitsToNat es)) := by
  rw [parse_eq]
  have h1 : (base ++ ec :: (esg ++ es)).any isE = true := by
    simp only [List.any_append, List.any_cons, hec, Bool.true_or, Bool.or_true]
  have h2 : (base ++ ec :: (esg ++ es)).takeWhile (fun c => !isE c) = base := by
    rw [List.takeWhile_append_of_pos h]; simp [hec]
  have h3 : ((base ++ ec :: (esg ++ es)).dropWhile (fun c => !isE c)).drop 1 = esg ++ es := by
    rw [List.dropWhile_append_of_pos h]; simp [hec]
  simp only [h1, h2, h3, if_true, parseInt_signed esg es hsg hne hes]

/-- a plain digit string -/
theorem parse_digits (ds : Str) (hne : ds ≠ []) (hd : ds.all Char.isDigit = true) :
    Dec.parse ds = some ⟨F64.digitsToNat ds, 0⟩ := by
  rw [parse_noexp ds (noE_digits hd)]
  have := parseBase_nodot [] ds 0 (Or.inl rfl) hd hne
  simpa [sgnApply] using this

/-- digits, a point, digits -/
theorem parse_digits_dot (ds fs : Str) (hne : ds ≠ []) (hd : ds.all Char.isDigit = true)
    (hf : fs.all Char.isDigit = true) :
    Dec.parse (ds ++ '.' :: fs) = some ⟨F64.digitsToNat (ds ++ fs), fs.length⟩ := by
  rw [parse_noexp _ ((noE_digits hd).append (noE_dot (noE_digits hf)))]
  have := parseBase_dot [] ds fs 0 (Or.inl rfl) hd hf (by simp [hne])
  simpa [sgnApply] using this

/-- sign, digits, a point, digits; no exponent -/
theorem parse_signed_dot (sg ds fs : Str) (hsg : IsSign sg)
    (hd : ds.all Char.isDigit = true) (hf : fs.all Char.isDigit = true) (hne : ds ++ fs ≠ []) :
    Dec.parse (sg ++ ds ++ '.' :: fs) =
      some ⟨sgnApply sg (F64.digitsToNat (ds ++ fs)), fs.length⟩ := by
  rw [parse_noexp _ (((noE_sign hsg).append (noE_digits hd)).append (noE_dot (noE_digits hf)))]
  have := parseBase_dot sg ds fs 0 hsg hd hf hne
  simpa using this

theorem parse_signed (sg ds : Str) (hsg : IsSign sg)
    (hd : ds.all Char.isDigit = true) (hne : ds ≠ []) :
    Dec.parse (sg ++ ds) = some ⟨sgnApply sg (F64.digitsToNat ds), 0⟩ := by
  rw [parse_noexp _ ((noE_sign hsg).append (noE_digits hd))]
  have := parseBase_nodot sg ds 0 hsg hd hne
  simpa using this

/-- with exponent: the exponent shifts the scale -/
theorem parse_signed_dot_exp (sg ds fs : Str) (ec : Char) (esg es : Str) (hsg : IsSign sg)
    (hd : ds.all Char.isDigit = true) (hf : fs.all Char.isDigit = true) (hne : ds ++ fs ≠ [])
    (hec : ec = 'e' ∨ ec = 'E') (hesg : IsSign esg)
    (hes : es.all Char.isDigit = true) (hene : es ≠ []) :
    Dec.parse ((sg ++ ds ++ '.' :: fs) ++ ec :: (esg ++ es)) =
      some ⟨sgnApply sg (F64.digitsToNat (ds ++ fs)),
            (fs.length : ℤ) - sgnApply esg (F64.digitsToNat es)⟩ := by
  rw [parse_exp _ ec esg es
    (((noE_sign hsg).append (noE_digits hd)).append (noE_dot (noE_digits hf)))
    ((isE_iff ec).2 hec) hesg hes hene]
  exact parseBase_dot sg ds fs _ hsg hd hf hne

theorem parse_signed_exp (sg ds : Str) (ec : Char) (esg es : Str) (hsg : IsSign sg)
    (hd : ds.all Char.isDigit = true) (hne : ds ≠ [])
    (hec : ec = 'e' ∨ ec = 'E') (hesg : IsSign esg)
    (hes : es.all Char.isDigit = true) (hene : es ≠ []) :
    Dec.parse ((sg ++ ds) ++ ec :: (esg ++ es)) =
      some ⟨sgnApply sg (F64.digitsToNat ds), - sgnApply esg (F64.digitsToNat es)⟩ := by
  rw [parse_exp _ ec esg es ((noE_sign hsg).append (noE_digits hd))
    ((isE_iff ec).2 hec) hesg hes hene]
  exact parseBase_nodot sg ds _ hsg hd hne

example : Dec.parse "-12.50e+3".toList = some ⟨-1250, 2 - 3⟩ :=
  parse_signed_dot_exp ['-'] "12".toList "50".toList 'e' ['+'] "3".toList
    (Or.inr (Or.inl rfl)) (by decide) (by decide) (by decide) (Or.inl rfl) (Or.inr (Or.inr rfl))
    (by decide) (by decide)


/-- a trailing zero after the point does not change the value of the parsed number -/
theorem parse_trailing_zero (ds fs : Str) (hne : ds ≠ []) (hd : ds.all Char.isDigit = true)
    (hf : fs.all Char.isDigit = true) :
    (Dec.parse (ds ++ '.' :: (fs ++ ['0']))).map value = (Dec.parse (ds ++ '.' :: fs)).map value := by
  rw [parse_digits_dot ds fs hne hd hf,
    parse_digits_dot ds (fs ++ ['0']) hne hd (by simp [List.all_append, hf])]
  simp only [Option.map_some, Option.some.injEq]
  rw [← List.append_assoc, show F64.digitsToNat (ds ++ fs ++ ['0']) = _ from F64RT.digitsToNat_append_zeros _ 1, pow_one]
  have := value_trailing_zero (F64.digitsToNat (ds ++ fs)) fs.length
  simpa using this

/-- `"12."` and `"12"` parse to the same decimal -/
theorem parse_dot_nothing (ds : Str) (hne : ds ≠ []) (hd : ds.all Char.isDigit = true) :
    Dec.parse (ds ++ ['.']) = Dec.parse ds := by
  rw [parse_digits ds hne hd, parse_digits_dot ds [] hne hd rfl]; simp

/-! ### integers print and parse back exactly -/

theorem printNum_pos (n : ℕ) : printNum (.pos n) = Nat.toDigits 10 n := rfl

theorem printNum_neg (i : ℤ) (h : i < 0) : printNum (.neg i) = '-' :: Nat.toDigits 10 i.natAbs := by
  simp [printNum, h]

/-- the ASCII bytes of a printed number -/
def toBytes (s : Str) : List Byte := s.map (fun c => c.toNat.toUInt8)

theorem byteToChar_digit (c : Char) (h : c.isDigit = true) : byteToChar c.toNat.toUInt8 = c := by
  have hc : c.toNat ≤ 57 := by
    simp only [Char.isDigit, Bool.and_eq_true, decide_eq_true_eq] at h
    have := h.2
    exact this
  unfold byteToChar
  have : c.toNat.toUInt8.toNat = c.toNat := by
    simp only [Nat.toUInt8, UInt8.toNat_ofNat']
    omega
  rw [this]; exact Char.ofNat_toNat c

theorem bytesToStr_toBytes_toDigits (n : ℕ) : bytesToStr (toBytes (Nat.toDigits 10 n)) = Nat.toDigits 10 n := by
  unfold bytesToStr toBytes
  rw [List.map_map]
  conv => rhs; rw [← List.map_id (Nat.toDigits 10 n)]
  apply List.map_congr_left
  intro c hc
  exact byteToChar_digit c (Nat.isDigit_of_mem_toDigits (by decide) (by decide) hc)

/-- the printed digits, as bytes, read back as the number -/
theorem digits_read_back (n : ℕ) : F64.digitsToNat (bytesToStr (toBytes (Nat.toDigits 10 n))) = n := by
  rw [bytesToStr_toBytes_toDigits, F64RT.digitsToNat_toDigits]

theorem parseU64_toDigits (n : ℕ) :
    parseU64 (toBytes (Nat.toDigits 10 n)) = if n < 2 ^ 64 then some n else none := by
  simp only [parseU64, digits_read_back]

/-- a `u64` prints as digits that parse back to it -/
theorem parseU64_print (n : ℕ) (h : n < 2 ^ 64) : parseU64 (toBytes (printNum (.pos n))) = some n :=
  (parseU64_toDigits n).trans (if_pos h)

theorem parseU64_overflow (n : ℕ) (h : 2 ^ 64 ≤ n) : parseU64 (toBytes (Nat.toDigits 10 n)) = none :=
  (parseU64_toDigits n).trans (if_neg (not_lt.2 h))

theorem parseI64Neg_print (k : ℕ) (h : k ≤ 2 ^ 63) :
    parseI64Neg (toBytes (Nat.toDigits 10 k)) = .ok (-(k : ℤ)) := by
  have hne : (toBytes (Nat.toDigits 10 k)).isEmpty = false := by
    rw [toBytes, List.isEmpty_map, List.isEmpty_eq_false_iff]
    exact Nat.toDigits_ne_nil
  simp only [parseI64Neg, hne, digits_read_back, if_pos h, Bool.false_eq_true, if_false]

/-- an `i64` that is negative prints as `-digits`, and `digits` parses back to it -/
theorem printNum_neg_roundtrip (i : ℤ) (h : i < 0) (hlo : -(2 ^ 63 : ℤ) ≤ i) :
    ∃ ds : Str, printNum (.neg i) = '-' :: ds ∧ parseI64Neg (toBytes ds) = .ok i := by
  refine ⟨Nat.toDigits 10 i.natAbs, printNum_neg i h, ?_⟩
  rw [parseI64Neg_print i.natAbs (by omega)]
  congr 1
  omega

/-! ### remainder -/

theorem nat_div_spec (X Y : ℕ) (hY : 0 < Y) :
    ((X / Y : ℕ) : ℚ) ≤ (X : ℚ) / Y ∧ (X : ℚ) / Y < ((X / Y : ℕ) : ℚ) + 1 := by
  have hY' : (0 : ℚ) < Y := Nat.cast_pos.2 hY
  rw [cast_div_add_mod X Y hY]
  exact ⟨le_add_of_nonneg_right (div_nonneg (Nat.cast_nonneg _) hY'.le),
    add_lt_add_right ((div_lt_iff₀ hY').2 (by rw [one_mul]; exact Nat.cast_lt.2 (Nat.mod_lt X hY))) _⟩
/-- `Int.tdiv` and the rational quotient differ only by a common sign from the natural-number picture -/
theorem tdiv_sign (x y : ℤ) :
    ∃ ε : ℚ, (ε = 1 ∨ ε = -1) ∧
      ((Int.tdiv x y : ℤ) : ℚ) = ε * ((x.natAbs / y.natAbs : ℕ) : ℚ) ∧
      (x : ℚ) / y = ε * ((x.natAbs : ℚ) / (y.natAbs : ℚ)) := by
  obtain ⟨X, rfl | rfl⟩ := Int.eq_nat_or_neg x <;> obtain ⟨Y, rfl | rfl⟩ := Int.eq_nat_or_neg y
  all_goals simp only [Int.natAbs_natCast, Int.natAbs_neg, ← Int.ofNat_tdiv, Int.neg_tdiv, Int.tdiv_neg, neg_neg,
    Int.cast_neg, Int.cast_natCast, neg_div, div_neg]
  exacts [⟨1, Or.inl rfl, (one_mul _).symm, (one_mul _).symm⟩, ⟨-1, Or.inr rfl, (neg_one_mul _).symm, (neg_one_mul _).symm⟩,
    ⟨-1, Or.inr rfl, (neg_one_mul _).symm, (neg_one_mul _).symm⟩, ⟨1, Or.inl rfl, (one_mul _).symm, (one_mul _).symm⟩]
/-- `Int.tdiv x y` is the rational quotient `x / y` truncated toward zero -/
theorem tdiv_spec (x y : ℤ) (hy : y ≠ 0) :
    |((Int.tdiv x y : ℤ) : ℚ)| ≤ |(x : ℚ) / y| ∧ |(x : ℚ) / y| < |((Int.tdiv x y : ℤ) : ℚ)| + 1 ∧
    0 ≤ ((Int.tdiv x y : ℤ) : ℚ) * ((x : ℚ) / y) := by
  obtain ⟨ε, hε, h1, h2⟩ := tdiv_sign x y
  obtain ⟨h3, h4⟩ := nat_div_spec x.natAbs y.natAbs (by omega)
  have hq : (0 : ℚ) ≤ ((x.natAbs / y.natAbs : ℕ) : ℚ) := Nat.cast_nonneg _
  have hF := le_trans hq h3
  have hε1 : |ε| = 1 := by rcases hε with rfl | rfl; exacts [abs_one, (abs_neg 1).trans abs_one]
  have hε2 : ε * ε = 1 := by rw [← abs_mul_abs_self, hε1, one_mul]
  rw [h1, h2, abs_mul, abs_mul, hε1, one_mul, one_mul, abs_of_nonneg hq, abs_of_nonneg hF, mul_mul_mul_comm, hε2,
    one_mul]
  exact ⟨h3, h4, mul_nonneg hq hF⟩
theorem align_snd_ne_zero (a b : Dec) (hb : value b ≠ 0) : (Dec.align a b).2.1 ≠ 0 := by
  intro h
  have := align_snd a b
  rw [h, Int.cast_zero] at this
  exact hb ((mul_eq_zero.1 this.symm).resolve_right (ten_zpow_pos _).ne')

theorem rem_def (a b : Dec) :
    Dec.rem a b = ⟨Int.tmod (Dec.align a b).1 (Dec.align a b).2.1, max a.scale b.scale⟩ := rfl

/-- `%` is exact: `a % b = a - b * t` where the integer `t` is `a / b` truncated toward zero
(`|t| ≤ |a/b| < |t| + 1` and `t` has the sign of `a/b`). -/
theorem rem_exact (a b : Dec) (hb : value b ≠ 0) :
    ∃ t : ℤ, value (Dec.rem a b) = value a - value b * t ∧
      |(t : ℚ)| ≤ |value a / value b| ∧ |value a / value b| < |(t : ℚ)| + 1 ∧
      0 ≤ (t : ℚ) * (value a / value b) := by
  have hy := align_snd_ne_zero a b hb
  refine ⟨Int.tdiv (Dec.align a b).1 (Dec.align a b).2.1, ?_, ?_⟩
  · rw [rem_def]
    apply value_of_scaled
    rw [Int.tmod_def]
    push_cast
    rw [align_fst, align_snd]; ring
  · have := tdiv_spec (Dec.align a b).1 (Dec.align a b).2.1 hy
    rw [align_fst, align_snd, mul_div_mul_right _ _ (ne_of_gt (ten_zpow_pos _))] at this
    exact this

theorem cast_abs_eq (m : ℤ) : |(m : ℚ)| = ((m.natAbs : ℕ) : ℚ) := by
  rw [Nat.cast_natAbs, Int.cast_abs]

theorem abs_value (d : Dec) : |value d| = ((d.mant.natAbs : ℕ) : ℚ) * (10 : ℚ) ^ (-d.scale) := by
  rw [value, abs_mul, abs_of_pos (ten_zpow_pos _), cast_abs_eq]

/-- the remainder is smaller in magnitude than the divisor -/
theorem rem_lt (a b : Dec) (hb : value b ≠ 0) : |value (Dec.rem a b)| < |value b| := by
  have hy := align_snd_ne_zero a b hb
  have hb2 : |value b| * (10 : ℚ) ^ (max a.scale b.scale) = (((Dec.align a b).2.1.natAbs : ℕ) : ℚ) := by
    rw [← cast_abs_eq, align_snd, abs_mul, abs_of_pos (ten_zpow_pos _)]
  have hr : |value (Dec.rem a b)| * (10 : ℚ) ^ (max a.scale b.scale)
      = (((Dec.align a b).1.natAbs % (Dec.align a b).2.1.natAbs : ℕ) : ℚ) := by
    rw [rem_def, abs_value, ← Int.natAbs_tmod, mul_assoc, ← zpow_add₀ ten_ne]; simp
  have hlt : (((Dec.align a b).1.natAbs % (Dec.align a b).2.1.natAbs : ℕ) : ℚ)
      < (((Dec.align a b).2.1.natAbs : ℕ) : ℚ) := by
    exact_mod_cast Nat.mod_lt _ (by omega)
  rw [← hr, ← hb2] at hlt
  exact lt_of_mul_lt_mul_right hlt (ten_zpow_pos _).le

/-- the remainder has the sign of the dividend (or is zero) -/
theorem rem_sign (a b : Dec) : 0 ≤ value (Dec.rem a b) * value a := by
  have h : 0 ≤ Int.tmod (Dec.align a b).1 (Dec.align a b).2.1 * (Dec.align a b).1 := by
    generalize (Dec.align a b).1 = x
    generalize (Dec.align a b).2.1 = y
    rcases le_or_gt 0 x with hx | hx
    · exact mul_nonneg (Int.tmod_nonneg y hx) hx
    · have : 0 ≤ Int.tmod (-x) y := Int.tmod_nonneg y (by omega)
      rw [Int.neg_tmod] at this
      exact mul_nonneg_of_nonpos_of_nonpos (by omega) hx.le
  -- both factors carry the scale of the aligned pair
  rw [rem_def, ← value_of_scaled _ _ _ (align_fst a b), value_mk, value_mk, mul_mul_mul_comm, ← Int.cast_mul]
  exact mul_nonneg (Int.cast_nonneg h) (mul_self_nonneg _)

/-! ### spelling independence of the arithmetic results, examples -/

theorem render_add_congr (a a' b b' : Dec) (ha : value a = value a') (hb : value b = value b') :
    Dec.render (Dec.add a b) = Dec.render (Dec.add a' b') :=
  render_eq_of_value_eq _ _ (by rw [value_add, value_add, ha, hb])

theorem render_sub_congr (a a' b b' : Dec) (ha : value a = value a') (hb : value b = value b') :
    Dec.render (Dec.sub a b) = Dec.render (Dec.sub a' b') :=
  render_eq_of_value_eq _ _ (by rw [value_sub, value_sub, ha, hb])

theorem render_mul_congr (a a' b b' : Dec) (ha : value a = value a') (hb : value b = value b') :
    Dec.render (Dec.mul a b) = Dec.render (Dec.mul a' b') :=
  render_eq_of_value_eq _ _ (by rw [value_mul, value_mul, ha, hb])

theorem render_abs_congr (a a' : Dec) (ha : value a = value a') :
    Dec.render (Dec.abs a) = Dec.render (Dec.abs a') :=
  render_eq_of_value_eq _ _ (by rw [value_abs, value_abs, ha])

theorem cmp_congr (a a' b b' : Dec) (ha : value a = value a') (hb : value b = value b') :
    Dec.cmp a b = Dec.cmp a' b' := by
  rw [cmp_exact, cmp_exact, ha, hb]

-- 0.1 + 0.2 = 0.3 exactly
example : Dec.render (Dec.add ⟨1, 1⟩ ⟨2, 1⟩) = "0.3".toList := by decide
-- 1.0 = 1
example : Dec.cmp ⟨10, 1⟩ ⟨1, 0⟩ = .eq := by decide
example : Dec.normalize ⟨1500, 2⟩ = ⟨15, 0⟩ := by decide
example : Dec.normalize ⟨1500, 2⟩ = Dec.normalize ⟨15, 0⟩ := (normalize_eq_iff _ _).2 (by norm_num [value])
-- ties to even: 2.5 ↦ 2, 3.5 ↦ 4, -2.5 ↦ -2
example : Dec.round0 ⟨25, 1⟩ = ⟨2, 0⟩ ∧ Dec.round0 ⟨35, 1⟩ = ⟨4, 0⟩ ∧ Dec.round0 ⟨-25, 1⟩ = ⟨-2, 0⟩ := by decide
example : |value (Dec.round0 ⟨25, 1⟩) - value ⟨25, 1⟩| = 1 / 2 := by
  have : Dec.round0 ⟨25, 1⟩ = ⟨2, 0⟩ := by decide
  rw [this]; norm_num [value]
-- 7.5 % 2 = 1.5, -7.5 % 2 = -1.5
example : Dec.rem ⟨75, 1⟩ ⟨2, 0⟩ = ⟨15, 1⟩ ∧ Dec.rem ⟨-75, 1⟩ ⟨2, 0⟩ = ⟨-15, 1⟩ := by decide
example : value ⟨2, 0⟩ ≠ 0 := by norm_num [value]
example : Dec.parse "123".toList = some ⟨123, 0⟩ := parse_digits _ (by decide) (by decide)
example : Dec.parse "1.50".toList = some ⟨150, 2⟩ :=
  parse_digits_dot "1".toList "50".toList (by decide) (by decide) (by decide)
example : parseU64 (toBytes (Nat.toDigits 10 18446744073709551615)) = some 18446744073709551615 :=
  parseU64_print _ (by norm_num)
example : parseI64Neg (toBytes (Nat.toDigits 10 9223372036854775808)) = .ok (-9223372036854775808) :=
  parseI64Neg_print 9223372036854775808 (by norm_num)
example : Canon ⟨15, 0⟩ := Or.inr (by decide)


end Jawk.DecExact
