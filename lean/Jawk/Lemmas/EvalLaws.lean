/-
  Property C04: expressions evaluate to what the documentation of each function
  (`/repo/src/functions/**/<name>.rs`, `add_description_line` / `add_example`) prescribes.
  The laws are the theorems of the namespace `Jawk.C04`; what they need about lists, objects and `F64`
  comes first, in `Jawk.EvalLaws`.

  Every law is stated for arbitrary argument EXPRESSIONS `a b … : Expr`; what the arguments
  evaluate to is given by hypotheses `eval orc fuel a ctx = .ok …`, so the laws do not depend
  on how the arguments are spelled, and hold for collections of every size.
  `eval … = .ok none` is the evaluator's "nothing".
-/
import Jawk.Lemmas.EvalEqns
import Jawk.Lemmas.Obj
namespace Jawk.EvalLaws
open Jawk

/-! ## Dispatch: `callFn` tries the groups in order; a name of a later group is skipped by the earlier ones -/
section Dispatch
variable (ev : Ev) (args : List Expr) (ctx : Ctx)

theorem skipB_first : callBasic ev "first" args ctx = none := skipped_of_list (by decide +kernel)
theorem skipB_last : callBasic ev "last" args ctx = none := skipped_of_list (by decide +kernel)
theorem skipB_join : callBasic ev "join" args ctx = none := skipped_of_list (by decide +kernel)
theorem skipB_pop : callBasic ev "pop" args ctx = none := skipped_of_list (by decide +kernel)
theorem skipB_pop_first : callBasic ev "pop_first" args ctx = none := skipped_of_list (by decide +kernel)
theorem skipB_push : callBasic ev "push" args ctx = none := skipped_of_list (by decide +kernel)
theorem skipB_push_front : callBasic ev "push_front" args ctx = none := skipped_of_list (by decide +kernel)
theorem skipB_reverese : callBasic ev "reverese" args ctx = none := skipped_of_list (by decide +kernel)
theorem skipB_map : callBasic ev "map" args ctx = none := skipped_of_list (by decide +kernel)
theorem skipB_filter : callBasic ev "filter" args ctx = none := skipped_of_list (by decide +kernel)
theorem skipB_keys : callBasic ev "keys" args ctx = none := (skipped_of_object (fn := "keys") (by decide +kernel)).1
theorem skipB_values : callBasic ev "values" args ctx = none := (skipped_of_object (fn := "values") (by decide +kernel)).1
theorem skipB_entries : callBasic ev "entries" args ctx = none := (skipped_of_object (fn := "entries") (by decide +kernel)).1
theorem skipB_head : callBasic ev "head" args ctx = none := (skipped_of_string (fn := "head") (by decide +kernel)).1
theorem skipB_tail : callBasic ev "tail" args ctx = none := (skipped_of_string (fn := "tail") (by decide +kernel)).1
theorem skipB_add : callBasic ev "+" args ctx = none := (skipped_of_number (fn := "+") (by decide +kernel)).1
theorem skipL_keys : callList ev "keys" args ctx = none := (skipped_of_object (fn := "keys") (by decide +kernel)).2
theorem skipL_values : callList ev "values" args ctx = none := (skipped_of_object (fn := "values") (by decide +kernel)).2
theorem skipL_entries : callList ev "entries" args ctx = none := (skipped_of_object (fn := "entries") (by decide +kernel)).2
theorem skipL_head : callList ev "head" args ctx = none := (skipped_of_string (fn := "head") (by decide +kernel)).2.1
theorem skipL_tail : callList ev "tail" args ctx = none := (skipped_of_string (fn := "tail") (by decide +kernel)).2.1
theorem skipL_add : callList ev "+" args ctx = none := (skipped_of_number (fn := "+") (by decide +kernel)).2.1
theorem skipO_head : callObject ev "head" args ctx = none := (skipped_of_string (fn := "head") (by decide +kernel)).2.2.1
theorem skipO_tail : callObject ev "tail" args ctx = none := (skipped_of_string (fn := "tail") (by decide +kernel)).2.2.1
theorem skipO_add : callObject ev "+" args ctx = none := (skipped_of_number (fn := "+") (by decide +kernel)).2.2
theorem skipN_head : callNumber ev "head" args ctx = none := callNumber_eq_none (by decide +kernel)
theorem skipN_tail : callNumber ev "tail" args ctx = none := callNumber_eq_none (by decide +kernel)

end Dispatch

/-! ## Lists, objects and iteration (not about `eval`) -/

/-- the last `n` elements: a suffix of exactly `min n size` elements, so that
`whole = (the first size - n) ++ result` -/
theorem drop_length_sub {α} (l : List α) (n : Nat) :
    l.drop (l.length - n) <:+ l ∧ (l.drop (l.length - n)).Sublist l ∧
    (l.drop (l.length - n)).length = min n l.length ∧
    l.take (l.length - n) ++ l.drop (l.length - n) = l :=
  ⟨List.drop_suffix _ l, List.drop_sublist _ l, by rw [List.length_drop]; omega, List.take_append_drop _ l⟩

/-- shape of `sub`: a contiguous piece, in order, of `min len (size - start)` elements, whose `i`-th element is
element `start + i` of the whole -/
theorem drop_take_spec {α} (l : List α) (start len : Nat) :
    (l.drop start).take len <:+: l ∧ ((l.drop start).take len).Sublist l ∧
    ((l.drop start).take len).length = min len (l.length - start) ∧
    ∀ i, i < len → ((l.drop start).take len)[i]? = l[start + i]? := by
  refine ⟨?_, ?_, by simp, ?_⟩
  · exact List.IsInfix.trans (List.take_prefix _ _).isInfix (List.drop_suffix _ _).isInfix
  · exact (List.take_sublist _ _).trans (List.drop_sublist _ _)
  · intro i hi
    rw [List.getElem?_take_of_lt hi, List.getElem?_drop]

/-- after the first item every further string is preceded by the separator -/
theorem joinGo_strs_rest (sep acc : Str) (ss : List Str) :
    callList.joinGo sep false acc (ss.map JV.str) = some (acc ++ (ss.map (sep ++ ·)).flatten) := by
  induction ss generalizing acc with
  | nil => simp [callList.joinGo]
  | cons s ss ih =>
    simp only [List.map_cons, callList.joinGo, Bool.false_eq_true, if_false]
    rw [ih]
    simp [List.append_assoc]

theorem intercalate_cons_eq (sep s : Str) (ss : List Str) :
    s ++ (ss.map (sep ++ ·)).flatten = sep.intercalate (s :: ss) := by
  induction ss generalizing s with
  | nil => simp [List.intercalate]
  | cons t ss ih =>
    have h := ih t
    simp only [List.intercalate] at h ⊢
    simp only [List.map_cons, List.flatten_cons, List.intersperse_cons_cons, ← h, List.append_assoc]

/-- a list of strings is joined with the separator between consecutive items — empty strings included -/
theorem joinGo_strs (sep s : Str) (ss : List Str) :
    callList.joinGo sep true [] ((s :: ss).map JV.str) = some (sep.intercalate (s :: ss)) := by
  simp only [List.map_cons, callList.joinGo, if_true, List.nil_append, joinGo_strs_rest sep s ss]
  rw [intercalate_cons_eq]

theorem joinGo_nil (sep : Str) : callList.joinGo sep true [] [] = some [] := rfl

/-- an item that is not a string makes the result nothing -/
theorem joinGo_non_string (sep : Str) (first : Bool) (acc : Str) (l : List JV) (h : ∃ v ∈ l, ∀ s, v ≠ JV.str s) :
    callList.joinGo sep first acc l = none := by
  induction l generalizing acc first with
  | nil => simp at h
  | cons x xs ih =>
    obtain ⟨v, hv, hns⟩ := h
    cases x with
    | str s =>
      rw [callList.joinGo]
      apply ih
      rcases List.mem_cons.1 hv with rfl | h'
      · exact absurd rfl (hns s)
      · exact ⟨v, h', hns⟩
    | _ => simp [callList.joinGo]

/-- the entry objects carry the key under `"key"` and the value under `"value"` -/
theorem entry_get (k : Str) (v : JV) :
    objGet? [("value".toList, v), ("key".toList, JV.str k)] "key".toList = some (.str k) ∧
    objGet? [("value".toList, v), ("key".toList, JV.str k)] "value".toList = some v := by
  constructor <;> simp [objGet?]

/-! ## `mapM'`: evaluating a function on every item -/

/-- all evaluations return: the results, in order -/
theorem mapM'_ok_iff {α β} (f : α → Except Abort β) (l : List α) (r : List β) :
    mapM' f l = .ok r ↔ l.map f = r.map .ok := by
  induction l generalizing r with
  | nil => cases r <;> simp [mapM']
  | cons x xs ih =>
    cases hx : f x <;> cases hxs : mapM' f xs <;> cases r <;> simp_all [mapM', bind, Except.bind]

theorem mapM'_ok {α β} (f : α → Except Abort β) (g : α → β) (l : List α) (h : ∀ x ∈ l, f x = .ok (g x)) :
    mapM' f l = .ok (l.map g) := by
  rw [mapM'_ok_iff, List.map_map]
  exact List.map_congr_left h

theorem mapM'_length {α β} (f : α → Except Abort β) (l : List α) (r : List β) (h : mapM' f l = .ok r) :
    r.length = l.length := by
  have := congrArg List.length ((mapM'_ok_iff f l r).1 h)
  simpa using this.symm

/-- an abort of the iteration is the abort of one of the evaluations -/
theorem mapM'_error {α β} (f : α → Except Abort β) (l : List α) (e : Abort) (h : mapM' f l = .error e) :
    ∃ x ∈ l, f x = .error e := by
  induction l with
  | nil => simp [mapM'] at h
  | cons x xs ih =>
    cases hx : f x <;> cases hxs : mapM' f xs <;> simp_all [mapM', bind, Except.bind]

theorem mapM'_cons_ok {α β} {f : α → Except Abort β} {x : α} {xs : List α} {y : β} {ys : List β}
    (hx : f x = .ok y) (hxs : mapM' f xs = .ok ys) : mapM' f (x :: xs) = .ok (y :: ys) := by
  simp only [mapM', hx, hxs, ok_bind]

theorem mapM'_cons_error {α β} {f : α → Except Abort β} {x : α} {xs : List α} {e : Abort}
    (hx : f x = .error e) : mapM' f (x :: xs) = .error e := by
  simp only [mapM', hx, error_bind]

/-! ## The kinds of argument the laws distinguish -/

/-- the test of `filter`: the item is kept exactly when the function's value is `true` -/
def isTrue : Option JV → Bool
  | some (.bool true) => true
  | _ => false

theorem isTrue_iff (r : Option JV) : isTrue r = true ↔ r = some (.bool true) := by
  rcases r with _ | (_ | (_ | _) | _ | _ | _ | _) <;> simp [isTrue]

/-- the values `take` / `take_last` / `sub` / `size` work on: objects, arrays, strings -/
def isColl : Option JV → Bool
  | some (.obj _) => true
  | some (.arr _) => true
  | some (.str _) => true
  | _ => false

def isArr : Option JV → Bool
  | some (.arr _) => true
  | _ => false

def isObj : Option JV → Bool
  | some (.obj _) => true
  | _ => false

/-- a count / index argument is usable exactly when it is a non-negative integer (`NumberValue::Positive`) -/
theorem usizeArg_eq_some (w : Option JV) (n : Nat) : usizeArg w = some n ↔ w = some (.num (.pos n)) := by
  rcases w with _ | (_ | _ | _ | (_ | _ | _) | _ | _) <;> simp [usizeArg, Num.toUsize?]

theorem usizeArg_eq_none (w : Option JV) : usizeArg w = none ↔ ∀ n, w ≠ some (.num (.pos n)) := by
  rcases w with _ | (_ | _ | _ | (_ | _ | _) | _ | _) <;> simp [usizeArg, Num.toUsize?]

/-- nothing, a string, a negative integer, a float, a boolean, … are not counts -/
theorem usizeArg_nothing : usizeArg none = none := rfl

theorem usizeArg_str (s : Str) : usizeArg (some (.str s)) = none := rfl

theorem usizeArg_neg (i : Int) : usizeArg (some (.num (.neg i))) = none := rfl

theorem usizeArg_flt (f : F64) : usizeArg (some (.num (.flt f))) = none := rfl

theorem usizeArg_bool (b : Bool) : usizeArg (some (.bool b)) = none := rfl

theorem usizeArg_null : usizeArg (some .null) = none := rfl

theorem usizeArg_arr (l : List JV) : usizeArg (some (.arr l)) = none := rfl

theorem usizeArg_obj (m : List (Str × JV)) : usizeArg (some (.obj m)) = none := rfl

theorem strArg_eq_some (w : Option JV) (s : Str) : strArg w = some s ↔ w = some (.str s) := by
  rcases w with _ | (_ | _ | _ | _ | _ | _) <;> simp [strArg]

def isNull : Option JV → Bool
  | some .null => true
  | _ => false

def isBool : Option JV → Bool
  | some (.bool _) => true
  | _ => false

/-! ## `select`: the items `filter` keeps -/

/-- the items whose flag is set -/
def select {α} (l : List α) (keep : List Bool) : List α :=
  (l.zip keep).filterMap (fun x => if x.2 = true then some x.1 else none)

theorem select_sublist {α} (l : List α) (keep : List Bool) : (select l keep).Sublist l := by
  induction l generalizing keep with
  | nil => simp [select]
  | cons x xs ih =>
    cases keep with
    | nil => simp [select]
    | cons k ks =>
      cases k
      · simpa [select] using (ih ks).cons x
      · simpa [select] using (ih ks).cons_cons x

theorem select_map {α} (l : List α) (p : α → Bool) : select l (l.map p) = l.filter p := by
  induction l with
  | nil => rfl
  | cons x xs ih =>
    simp only [select] at ih
    cases h : p x <;> simp [select, h, ih]

/-- keeping the items flagged by a test that may abort gives a sub-list, or the abort of the test on one of the items -/
theorem select_result {α} (F : α → R) (l : List α) (G : List α → JV) (r : R)
    (hr : r = (mapM' (fun x => (F x).map isTrue) l).bind fun keep => .ok (some (G (select l keep)))) :
    (∃ l', r = .ok (some (G l')) ∧ l'.Sublist l) ∨ (∃ e, r = .error e ∧ ∃ x ∈ l, F x = .error e) := by
  subst hr
  cases h : mapM' (fun x => (F x).map isTrue) l with
  | error e =>
    obtain ⟨x, hx, hxe⟩ := mapM'_error _ l e h
    refine .inr ⟨e, rfl, x, hx, ?_⟩
    cases hF : F x with
    | error e' => rw [hF] at hxe; exact congrArg Except.error (Except.error.inj hxe)
    | ok r => rw [hF] at hxe; cases hxe
  | ok keep => exact .inl ⟨_, rfl, select_sublist l keep⟩

/-! ## `F64` arithmetic on integers -/

/-- a value below zero is not at least zero (IEEE comparisons of the model) -/
theorem not_le_zero_of_lt_zero (f : F64) (h : F64.lt f F64.zero = true) : F64.le F64.zero f = false := by
  cases f with
  | nan => simp [F64.lt] at h
  | inf s => cases s <;> simp_all [F64.lt, F64.le, F64.eq, F64.zero]
  | fin s m e =>
    by_cases hm : m = 0
    · simp [F64.lt, F64.zero, hm] at h
    · cases s <;> simp_all [F64.lt, F64.le, F64.eq, F64.zero]

theorem scaleDiv_exact (k j t : Nat) :
    F64.scaleDiv (k * 2 ^ j) (2 ^ j) (-(t : Int)) = (k * 2 ^ t, 0, 2 ^ j) := by
  unfold F64.scaleDiv
  by_cases ht : t = 0
  · subst ht
    simp [Nat.mul_div_cancel _ (Nat.two_pow_pos j)]
  · have h1 : ¬ (0 : Int) ≤ -(t : Int) := by omega
    have h2 : (- -(t : Int)).toNat = t := by omega
    simp only [h1, if_false, h2]
    have : k * 2 ^ j * 2 ^ t = (k * 2 ^ t) * 2 ^ j := by
      rw [Nat.mul_assoc, Nat.mul_comm (2 ^ j), ← Nat.mul_assoc]
    rw [this, Nat.mul_div_cancel _ (Nat.two_pow_pos j), Nat.mul_mod_left]

theorem log2_mul_two_pow (k j : Nat) (hk0 : k ≠ 0) : Nat.log2 (k * 2 ^ j) = Nat.log2 k + j := by
  have hpos : k * 2 ^ j ≠ 0 := Nat.mul_ne_zero hk0 (Nat.pos_iff_ne_zero.1 (Nat.two_pow_pos j))
  rw [Nat.log2_eq_iff hpos]
  constructor
  · rw [Nat.pow_add]; exact Nat.mul_le_mul_right _ (Nat.log2_self_le hk0)
  · rw [show Nat.log2 k + j + 1 = (Nat.log2 k + 1) + j by omega, Nat.pow_add]
    exact Nat.mul_lt_mul_of_pos_right Nat.lt_log2_self (Nat.two_pow_pos j)

/-- the exact value of a double holding the integer `n` scaled by `2^t` -/
theorem toRat_scaled (s : Bool) (n t : Nat) :
    (F64.fin s (n * 2 ^ t) (-(t : Int))).toRat = (n * 2 ^ t, 2 ^ t) := by
  unfold F64.toRat
  by_cases ht : t = 0
  · subst ht; simp
  · have h1 : ¬ (0 : Int) ≤ -(t : Int) := by omega
    have h2 : (- -(t : Int)).toNat = t := by omega
    simp only [h1, if_false, h2]

/-! ## For the examples -/

/-- the call by which the examples show an abort, or that an argument is not evaluated -/
theorem eval_no_such_function (orc : Oracles) (fuel : Nat) (args : List Expr) (ctx : Ctx) :
    eval orc (fuel + 1) (.call "no-such-function" args) ctx = .error (.panic "unmodelled-function:no-such-function") :=
  eval_unknown (by decide +kernel) (by decide +kernel) (by decide +kernel) (by decide +kernel) (by decide +kernel)
    (by decide +kernel)

private def l3 : List JV := [.num (.pos 1), .str "x".toList, .null]

private def o2 : List (Str × JV) := [("k1".toList, .num (.pos 1)), ("k2".toList, .bool false)]

end Jawk.EvalLaws

namespace Jawk.C04
open Jawk EvalLaws

/-! ## Numeric results with zero fractional part are integers (`impl From<f64> for JsonValue`) -/

/-- integral and in `[0, 2^64-1)`: a `Positive` integer, never a float -/
theorem ofF64_pos (f : F64) (hfr : f.fractIsZero = true) (h0 : F64.le F64.zero f = true)
    (h1 : F64.lt f (F64.ofNat (2 ^ 64 - 1)) = true) :
    Num.ofF64 f = .pos f.toU64 := by
  simp only [Num.ofF64, hfr, h0, h1, Bool.and_self, if_true]

/-- integral and in `[-2^63, 0)`: a `Negative` integer, never a float -/
theorem ofF64_neg (f : F64) (hfr : f.fractIsZero = true) (h0 : F64.lt f F64.zero = true)
    (h1 : F64.le (F64.ofInt (-(2 ^ 63))) f = true) :
    Num.ofF64 f = .neg f.toI64 := by
  simp only [Num.ofF64, hfr, h0, h1, not_le_zero_of_lt_zero f h0, Bool.false_and, Bool.and_self, if_true,
    Bool.false_eq_true, if_false]

/-- a non-zero fractional part (or an infinity / NaN): a float -/
theorem ofF64_flt (f : F64) (hfr : f.fractIsZero = false) : Num.ofF64 f = .flt f := by
  simp [Num.ofF64, hfr]

/-- integral but outside both ranges: a float -/
theorem ofF64_flt_big (f : F64)
    (hp : (F64.le F64.zero f && F64.lt f (F64.ofNat (2 ^ 64 - 1))) = false)
    (hn : (F64.lt f F64.zero && F64.le (F64.ofInt (-(2 ^ 63))) f) = false) : Num.ofF64 f = .flt f := by
  unfold Num.ofF64
  rw [hp, hn]
  simp

/-- so an integral value in range is never rendered through the float printer -/
theorem ofF64_not_flt (f : F64) (hfr : f.fractIsZero = true)
    (h : (F64.le F64.zero f = true ∧ F64.lt f (F64.ofNat (2 ^ 64 - 1)) = true) ∨
         (F64.lt f F64.zero = true ∧ F64.le (F64.ofInt (-(2 ^ 63))) f = true)) :
    ∀ g, Num.ofF64 f ≠ .flt g := by
  intro g
  rcases h with ⟨h0, h1⟩ | ⟨h0, h1⟩
  · rw [ofF64_pos f hfr h0 h1]; exact fun h => Num.noConfusion h
  · rw [ofF64_neg f hfr h0 h1]; exact fun h => Num.noConfusion h

example : Num.ofF64 (F64.ofNat 7) = .pos 7 := by
  rw [ofF64_pos _ (by decide) (by decide) (by decide)]; decide

example : Num.ofF64 (F64.ofInt (-7)) = .neg (-7) := by
  rw [ofF64_neg _ (by decide) (by decide) (by decide)]; decide

example : Num.ofF64 (F64.fin false 3 (-1)) = .flt (F64.fin false 3 (-1)) := ofF64_flt _ (by decide)

/-- an integer below `2^53`, given as a fraction with a power of two as denominator, is rounded to itself:
with `t = 52 - log2 k` the scaled quotient `k * 2^t` lies in `[2^52, 2^53)` with remainder 0, so no rounding or
renormalising branch of `roundRat` fires -/
theorem roundRat_exact (s : Bool) (k j : Nat) (hk0 : k ≠ 0) (hk : k < 2 ^ 53) :
    F64.roundRat s (k * 2 ^ j) (2 ^ j) = .fin s (k * 2 ^ (52 - Nat.log2 k)) (-((52 - Nat.log2 k : Nat) : Int)) := by
  have hL : Nat.log2 k < 53 := (Nat.log2_lt hk0).2 hk
  have hpos : k * 2 ^ j ≠ 0 := Nat.mul_ne_zero hk0 (Nat.pos_iff_ne_zero.1 (Nat.two_pow_pos j))
  have hden : (2 : Nat) ^ j ≠ 0 := Nat.pos_iff_ne_zero.1 (Nat.two_pow_pos j)
  have he1 : ((Nat.log2 (k * 2 ^ j) : Nat) : Int) - ((Nat.log2 (2 ^ j) : Nat) : Int) - 52
      = -((52 - Nat.log2 k : Nat) : Int) := by
    rw [log2_mul_two_pow k j hk0, Nat.log2_two_pow]; omega
  generalize ht : 52 - Nat.log2 k = t at he1 ⊢
  have hq1 : 2 ^ 52 ≤ k * 2 ^ t := by
    have h := Nat.mul_le_mul_right (2 ^ t) (Nat.log2_self_le hk0)
    rw [← Nat.pow_add, show Nat.log2 k + t = 52 by omega] at h
    exact h
  have hq2 : k * 2 ^ t < 2 ^ 53 := by
    have h := Nat.mul_lt_mul_of_pos_right (Nat.lt_log2_self (n := k)) (Nat.two_pow_pos t)
    rw [← Nat.pow_add, show Nat.log2 k + 1 + t = 53 by omega] at h
    exact h
  unfold F64.roundRat
  simp only [hpos, hden, or_self, if_false, he1, scaleDiv_exact]
  have hge : k * 2 ^ t ≥ 2 ^ 52 := hq1
  have hlt : ¬ (-(t : Int) < -1074) := by omega
  simp only [hge, if_true, hlt, if_false, scaleDiv_exact]
  have hd1 : ¬ (2 * 0 > 2 ^ j) := by simp
  have hd2 : ¬ (2 * 0 = 2 ^ j) := by have := Nat.two_pow_pos j; omega
  have hne : k * 2 ^ t ≠ 2 ^ 53 := Nat.ne_of_lt hq2
  have h971 : ¬ (-(t : Int) > 971) := by omega
  simp only [hd1, hd2, decide_false, Bool.false_and, Bool.or_self, Bool.false_eq_true, if_false, hne, h971]

set_option exponentiation.threshold 2000 in
/-- every natural number below `2^53` is a double, exactly: `ofNat n` is `n * 2^p / 2^p` -/
theorem ofNat_exact (n : Nat) (hn : n < 2 ^ 53) :
    ∃ m e p, F64.ofNat n = .fin false m e ∧ (F64.fin false m e).toRat = (n * 2 ^ p, 2 ^ p) := by
  by_cases h0 : n = 0
  · subst h0
    refine ⟨0, -1074, 1074, rfl, ?_⟩
    simp only [F64.toRat]
    rw [if_neg (by decide)]
    exact Prod.ext (Nat.zero_mul _).symm rfl
  · refine ⟨_, _, 52 - Nat.log2 n, ?_, toRat_scaled false n _⟩
    have := roundRat_exact false n 0 h0 hn
    simpa [F64.ofNat] using this

end Jawk.C04

namespace Jawk.EvalLaws
open Jawk

theorem ofNat_zero : F64.ofNat 0 = F64.zero := rfl

/-- the sum of two non-negative doubles holding integers, when the sum is below `2^53`, is the exact integer -/
theorem add_exact (m1 m2 : Nat) (e1 e2 : Int) (x y p q : Nat)
    (h1 : (F64.fin false m1 e1).toRat = (x * 2 ^ p, 2 ^ p))
    (h2 : (F64.fin false m2 e2).toRat = (y * 2 ^ q, 2 ^ q)) (hlt : x + y < 2 ^ 53) :
    F64.add (.fin false m1 e1) (.fin false m2 e2) = F64.ofNat (x + y) := by
  have hN : x * 2 ^ p * 2 ^ q + y * 2 ^ q * 2 ^ p = (x + y) * 2 ^ (p + q) := by
    rw [Nat.pow_add, Nat.add_mul, Nat.mul_assoc, Nat.mul_assoc, Nat.mul_comm (2 ^ q) (2 ^ p)]
  simp only [F64.add, h1, h2, F64.addRat, BEq.rfl, if_true, hN, ← Nat.pow_add, Bool.and_self]
  by_cases h0 : x + y = 0
  · simp [h0, F64.ofNat, F64.roundRat]
  · have hne : (x + y) * 2 ^ (p + q) ≠ 0 := Nat.mul_ne_zero h0 (Nat.pos_iff_ne_zero.1 (Nat.two_pow_pos _))
    rw [if_neg hne, C04.roundRat_exact false (x + y) (p + q) h0 hlt]
    have := C04.roundRat_exact false (x + y) 0 h0 hlt
    simp only [Nat.pow_zero, Nat.mul_one] at this
    rw [F64.ofNat, this]

/-- `f64` addition of two natural numbers is exact as long as the sum is below `2^53` -/
theorem add_ofNat (m n : Nat) (h : m + n < 2 ^ 53) : F64.add (F64.ofNat m) (F64.ofNat n) = F64.ofNat (m + n) := by
  obtain ⟨m1, e1, p, hm, hm'⟩ := C04.ofNat_exact m (by omega)
  obtain ⟨m2, e2, q, hn, hn'⟩ := C04.ofNat_exact n (by omega)
  rw [hm, hn, add_exact m1 m2 e1 e2 m n p q hm' hn' h]

theorem zero_add_ofNat (n : Nat) (h : n < 2 ^ 53) : F64.add F64.zero (F64.ofNat n) = F64.ofNat n := by
  have := add_ofNat 0 n (by omega)
  rwa [ofNat_zero, Nat.zero_add] at this

theorem ofNat_max : F64.ofNat (2 ^ 64 - 1) = .fin false (2 ^ 52) 12 := by decide +kernel

/-- a natural number below `2^53` survives the trip through `f64` -/
theorem ofF64_ofNat (k : Nat) (hk : k < 2 ^ 53) : Num.ofF64 (F64.ofNat k) = .pos k := by
  by_cases h0 : k = 0
  · subst h0; decide +kernel
  · have hex := C04.roundRat_exact false k 0 h0 hk
    simp only [Nat.pow_zero, Nat.mul_one] at hex
    generalize ht : 52 - Nat.log2 k = t at hex
    have hf : F64.ofNat k = .fin false (k * 2 ^ t) (-(t : Int)) := hex
    have hM : k * 2 ^ t ≠ 0 := Nat.mul_ne_zero h0 (Nat.pos_iff_ne_zero.1 (Nat.two_pow_pos _))
    have hfr : (F64.ofNat k).fractIsZero = true := by
      rw [hf]; unfold F64.fractIsZero
      simp [hM]
    have hle : F64.le F64.zero (F64.ofNat k) = true := by
      rw [hf]; simp [F64.le, F64.lt, F64.zero, hM]
    have hlt : F64.lt (F64.ofNat k) (F64.ofNat (2 ^ 64 - 1)) = true := by
      rw [ofNat_max, hf]
      have h12 : (F64.fin false (2 ^ 52) 12).toRat = (2 ^ 64, 1) := by decide +kernel
      simp only [F64.lt, hM, false_and, if_false, show (2 : Nat) ^ 52 ≠ 0 by decide, F64.cmpMag, toRat_scaled, h12]
      have : k * 2 ^ t * 1 < 2 ^ 64 * 2 ^ t := by
        rw [Nat.mul_one]; exact Nat.mul_lt_mul_of_pos_right (by omega) (Nat.two_pow_pos t)
      rw [Nat.compare_eq_lt.2 this]; rfl
    have hu : (F64.ofNat k).toU64 = k := by
      rw [hf]
      simp only [F64.toU64, toRat_scaled, Bool.false_eq_true, if_false, Nat.mul_div_cancel _ (Nat.two_pow_pos t)]
      rw [if_neg (by omega)]
    rw [C04.ofF64_pos _ hfr hle hlt, hu]

/-- a natural number below `2^53`, as a double, is rendered back as that integer -/
theorem jnumFinite_ofNat_exact (k : Nat) (hk : k < 2 ^ 53) : jnumFinite (F64.ofNat k) = some (.num (.pos k)) := by
  obtain ⟨m, e, p, hm, -⟩ := C04.ofNat_exact k hk
  simp only [jnumFinite, jnum, ofF64_ofNat k hk]
  rw [hm]; rfl

/-- summing natural numbers in `f64` is exact as long as the total stays below `2^53` -/
theorem numFoldl_add_ofNat (ns : List Nat) (k : Nat) (h : k + ns.sum < 2 ^ 53) :
    (ns.map Num.pos).foldl (fun s x => F64.add s x.toF64) (F64.ofNat k) = F64.ofNat (k + ns.sum) := by
  induction ns generalizing k with
  | nil => simp
  | cons n ns ih =>
    simp only [List.sum_cons] at h
    simp only [List.map_cons, List.foldl_cons, List.sum_cons]
    rw [show (Num.pos n).toF64 = F64.ofNat n from rfl, add_ofNat k n (by omega), ih (k + n) (by omega), Nat.add_assoc]

/-! ## One equation per function: what the call computes from what its arguments evaluate to -/

/-- a cut (`f`) of the items of an array, the members of an object or the characters of a string -/
def mapColl (f : {α : Type} → List α → List α) : Option JV → Option JV
  | some (.obj m) => some (.obj (f m))
  | some (.arr l) => some (.arr (f l))
  | some (.str s) => some (.str (f s))
  | _ => none

theorem mapColl_eq_none (f : {α : Type} → List α → List α) {v : Option JV} (hv : isColl v = false) :
    mapColl f v = none := by
  unfold mapColl
  split
  · cases hv
  · cases hv
  · cases hv
  · rfl

section
variable (orc : Oracles) (fuel : Nat) (ctx : Ctx)

/-- the count is evaluated and looked at first, the collection only when the count is usable -/
theorem take_eq (a b : Expr) :
    eval orc (fuel + 1) (.call "take" [a, b]) ctx = (do
      match usizeArg (← eval orc fuel b ctx) with
      | none => .ok none
      | some n => .ok (mapColl (List.take n) (← eval orc fuel a ctx))) := by
  apply eval_basic
  call_simp callBasic []
  refine congrArg some (bind_congr fun vb => ?_)
  cases usizeArg vb
  · rfl
  · refine bind_congr fun va => ?_
    rcases va with _ | (_ | _ | _ | _ | _ | _) <;> rfl

theorem take_last_eq (a b : Expr) :
    eval orc (fuel + 1) (.call "take_last" [a, b]) ctx = (do
      match usizeArg (← eval orc fuel b ctx) with
      | none => .ok none
      | some n => .ok (mapColl (fun l => l.drop (l.length - n)) (← eval orc fuel a ctx))) := by
  apply eval_basic
  call_simp callBasic []
  refine congrArg some (bind_congr fun vb => ?_)
  cases usizeArg vb
  · rfl
  · refine bind_congr fun va => ?_
    rcases va with _ | (_ | _ | _ | _ | _ | _) <;> rfl

theorem sub_eq (a b c : Expr) :
    eval orc (fuel + 1) (.call "sub" [a, b, c]) ctx = (do
      match usizeArg (← eval orc fuel b ctx) with
      | none => .ok none
      | some start => do
        match usizeArg (← eval orc fuel c ctx) with
        | none => .ok none
        | some len => .ok (mapColl (fun l => (l.drop start).take len) (← eval orc fuel a ctx))) := by
  apply eval_basic
  call_simp callBasic []
  refine congrArg some (bind_congr fun vb => ?_)
  cases usizeArg vb
  · rfl
  · refine bind_congr fun vc => ?_
    cases usizeArg vc
    · rfl
    · refine bind_congr fun va => ?_
      rcases va with _ | (_ | _ | _ | _ | _ | _) <;> rfl

theorem get_eq (a b : Expr) :
    eval orc (fuel + 1) (.call "get" [a, b]) ctx = (do
      match (← eval orc fuel a ctx) with
      | some (.obj m) => do
        match strArg (← eval orc fuel b ctx) with
        | some k => .ok (objGet? m k)
        | none => .ok none
      | some (.arr l) => do
        match usizeArg (← eval orc fuel b ctx) with
        | some i => .ok l[i]?
        | none => .ok none
      | _ => .ok none) := by
  apply eval_basic
  call_simp callBasic []
  rfl

end

end Jawk.EvalLaws

namespace Jawk.C04
open Jawk EvalLaws

variable (orc : Oracles) (fuel : Nat) (ctx : Ctx)

/-! ## `take`: "Take the first N of element in an array, object of string" -/

theorem take_arr (a b : Expr) (l : List JV) (n : Nat)
    (ha : eval orc fuel a ctx = .ok (some (.arr l))) (hb : eval orc fuel b ctx = .ok (some (.num (.pos n)))) :
    eval orc (fuel + 1) (.call "take" [a, b]) ctx = .ok (some (.arr (l.take n))) := by
  rw [take_eq, ha, hb]; rfl

theorem take_obj (a b : Expr) (m : List (Str × JV)) (n : Nat)
    (ha : eval orc fuel a ctx = .ok (some (.obj m))) (hb : eval orc fuel b ctx = .ok (some (.num (.pos n)))) :
    eval orc (fuel + 1) (.call "take" [a, b]) ctx = .ok (some (.obj (m.take n))) := by
  rw [take_eq, ha, hb]; rfl

theorem take_str (a b : Expr) (s : Str) (n : Nat)
    (ha : eval orc fuel a ctx = .ok (some (.str s))) (hb : eval orc fuel b ctx = .ok (some (.num (.pos n)))) :
    eval orc (fuel + 1) (.call "take" [a, b]) ctx = .ok (some (.str (s.take n))) := by
  rw [take_eq, ha, hb]; rfl

/-- `take 0` is the empty collection -/
theorem take_arr_zero (a b : Expr) (l : List JV)
    (ha : eval orc fuel a ctx = .ok (some (.arr l))) (hb : eval orc fuel b ctx = .ok (some (.num (.pos 0)))) :
    eval orc (fuel + 1) (.call "take" [a, b]) ctx = .ok (some (.arr [])) := by
  rw [take_arr orc fuel ctx a b l 0 ha hb, List.take_zero]

theorem take_obj_zero (a b : Expr) (m : List (Str × JV))
    (ha : eval orc fuel a ctx = .ok (some (.obj m))) (hb : eval orc fuel b ctx = .ok (some (.num (.pos 0)))) :
    eval orc (fuel + 1) (.call "take" [a, b]) ctx = .ok (some (.obj [])) := by
  rw [take_obj orc fuel ctx a b m 0 ha hb, List.take_zero]

theorem take_str_zero (a b : Expr) (s : Str)
    (ha : eval orc fuel a ctx = .ok (some (.str s))) (hb : eval orc fuel b ctx = .ok (some (.num (.pos 0)))) :
    eval orc (fuel + 1) (.call "take" [a, b]) ctx = .ok (some (.str [])) := by
  rw [take_str orc fuel ctx a b s 0 ha hb, List.take_zero]

/-- `take n` with `n ≥ size` is the whole collection -/
theorem take_arr_all (a b : Expr) (l : List JV) (n : Nat) (hn : l.length ≤ n)
    (ha : eval orc fuel a ctx = .ok (some (.arr l))) (hb : eval orc fuel b ctx = .ok (some (.num (.pos n)))) :
    eval orc (fuel + 1) (.call "take" [a, b]) ctx = .ok (some (.arr l)) := by
  rw [take_arr orc fuel ctx a b l n ha hb, List.take_of_length_le hn]

theorem take_obj_all (a b : Expr) (m : List (Str × JV)) (n : Nat) (hn : m.length ≤ n)
    (ha : eval orc fuel a ctx = .ok (some (.obj m))) (hb : eval orc fuel b ctx = .ok (some (.num (.pos n)))) :
    eval orc (fuel + 1) (.call "take" [a, b]) ctx = .ok (some (.obj m)) := by
  rw [take_obj orc fuel ctx a b m n ha hb, List.take_of_length_le hn]

theorem take_str_all (a b : Expr) (s : Str) (n : Nat) (hn : s.length ≤ n)
    (ha : eval orc fuel a ctx = .ok (some (.str s))) (hb : eval orc fuel b ctx = .ok (some (.num (.pos n)))) :
    eval orc (fuel + 1) (.call "take" [a, b]) ctx = .ok (some (.str s)) := by
  rw [take_str orc fuel ctx a b s n ha hb, List.take_of_length_le hn]

/-- the result of `take` is a prefix (same elements, same order) of exactly `min n size` elements -/
theorem take_arr_prefix (a b : Expr) (l : List JV) (n : Nat)
    (ha : eval orc fuel a ctx = .ok (some (.arr l))) (hb : eval orc fuel b ctx = .ok (some (.num (.pos n)))) :
    ∃ r, eval orc (fuel + 1) (.call "take" [a, b]) ctx = .ok (some (.arr r)) ∧
      r <+: l ∧ r.Sublist l ∧ r.length = min n l.length :=
  ⟨_, take_arr orc fuel ctx a b l n ha hb, List.take_prefix n l, List.take_sublist n l, List.length_take⟩

theorem take_obj_prefix (a b : Expr) (m : List (Str × JV)) (n : Nat)
    (ha : eval orc fuel a ctx = .ok (some (.obj m))) (hb : eval orc fuel b ctx = .ok (some (.num (.pos n)))) :
    ∃ r, eval orc (fuel + 1) (.call "take" [a, b]) ctx = .ok (some (.obj r)) ∧
      r <+: m ∧ r.Sublist m ∧ r.length = min n m.length :=
  ⟨_, take_obj orc fuel ctx a b m n ha hb, List.take_prefix n m, List.take_sublist n m, List.length_take⟩

theorem take_str_prefix (a b : Expr) (s : Str) (n : Nat)
    (ha : eval orc fuel a ctx = .ok (some (.str s))) (hb : eval orc fuel b ctx = .ok (some (.num (.pos n)))) :
    ∃ r, eval orc (fuel + 1) (.call "take" [a, b]) ctx = .ok (some (.str r)) ∧
      r <+: s ∧ r.Sublist s ∧ r.length = min n s.length :=
  ⟨_, take_str orc fuel ctx a b s n ha hb, List.take_prefix n s, List.take_sublist n s, List.length_take⟩

example : eval {} 10 (.call "take" [.const (.arr [.null, .bool true]), .const (.num (.pos 0))]) {} = .ok (some (.arr [])) := by
  rfl

example : eval {} 10 (.call "take" [.const (.arr [.null, .bool true, .null]), .const (.num (.pos 2))]) {}
    = .ok (some (.arr [.null, .bool true])) :=
  take_arr {} 9 {} _ _ [.null, .bool true, .null] 2 rfl rfl

example : eval {} 10 (.call "take" [.const (.str "abc".toList), .const (.num (.pos 7))]) {}
    = .ok (some (.str "abc".toList)) :=
  take_str_all {} 9 {} _ _ _ 7 (by decide) rfl rfl

/-! ## `take_last`: "Take the last N of element in an array, object of string" -/

theorem take_last_arr (a b : Expr) (l : List JV) (n : Nat)
    (ha : eval orc fuel a ctx = .ok (some (.arr l))) (hb : eval orc fuel b ctx = .ok (some (.num (.pos n)))) :
    eval orc (fuel + 1) (.call "take_last" [a, b]) ctx = .ok (some (.arr (l.drop (l.length - n)))) := by
  rw [take_last_eq, ha, hb]; rfl

theorem take_last_obj (a b : Expr) (m : List (Str × JV)) (n : Nat)
    (ha : eval orc fuel a ctx = .ok (some (.obj m))) (hb : eval orc fuel b ctx = .ok (some (.num (.pos n)))) :
    eval orc (fuel + 1) (.call "take_last" [a, b]) ctx = .ok (some (.obj (m.drop (m.length - n)))) := by
  rw [take_last_eq, ha, hb]; rfl

theorem take_last_str (a b : Expr) (s : Str) (n : Nat)
    (ha : eval orc fuel a ctx = .ok (some (.str s))) (hb : eval orc fuel b ctx = .ok (some (.num (.pos n)))) :
    eval orc (fuel + 1) (.call "take_last" [a, b]) ctx = .ok (some (.str (s.drop (s.length - n)))) := by
  rw [take_last_eq, ha, hb]; rfl

theorem take_last_arr_suffix (a b : Expr) (l : List JV) (n : Nat)
    (ha : eval orc fuel a ctx = .ok (some (.arr l))) (hb : eval orc fuel b ctx = .ok (some (.num (.pos n)))) :
    ∃ r, eval orc (fuel + 1) (.call "take_last" [a, b]) ctx = .ok (some (.arr r)) ∧
      r <:+ l ∧ r.Sublist l ∧ r.length = min n l.length :=
  ⟨_, take_last_arr orc fuel ctx a b l n ha hb, (drop_length_sub l n).1, (drop_length_sub l n).2.1, (drop_length_sub l n).2.2.1⟩

theorem take_last_obj_suffix (a b : Expr) (m : List (Str × JV)) (n : Nat)
    (ha : eval orc fuel a ctx = .ok (some (.obj m))) (hb : eval orc fuel b ctx = .ok (some (.num (.pos n)))) :
    ∃ r, eval orc (fuel + 1) (.call "take_last" [a, b]) ctx = .ok (some (.obj r)) ∧
      r <:+ m ∧ r.Sublist m ∧ r.length = min n m.length :=
  ⟨_, take_last_obj orc fuel ctx a b m n ha hb, (drop_length_sub m n).1, (drop_length_sub m n).2.1, (drop_length_sub m n).2.2.1⟩

theorem take_last_str_suffix (a b : Expr) (s : Str) (n : Nat)
    (ha : eval orc fuel a ctx = .ok (some (.str s))) (hb : eval orc fuel b ctx = .ok (some (.num (.pos n)))) :
    ∃ r, eval orc (fuel + 1) (.call "take_last" [a, b]) ctx = .ok (some (.str r)) ∧
      r <:+ s ∧ r.Sublist s ∧ r.length = min n s.length :=
  ⟨_, take_last_str orc fuel ctx a b s n ha hb, (drop_length_sub s n).1, (drop_length_sub s n).2.1, (drop_length_sub s n).2.2.1⟩

/-- `take_last 0` is the empty collection -/
theorem take_last_arr_zero (a b : Expr) (l : List JV)
    (ha : eval orc fuel a ctx = .ok (some (.arr l))) (hb : eval orc fuel b ctx = .ok (some (.num (.pos 0)))) :
    eval orc (fuel + 1) (.call "take_last" [a, b]) ctx = .ok (some (.arr [])) := by
  rw [take_last_arr orc fuel ctx a b l 0 ha hb, Nat.sub_zero, List.drop_length]

theorem take_last_obj_zero (a b : Expr) (m : List (Str × JV))
    (ha : eval orc fuel a ctx = .ok (some (.obj m))) (hb : eval orc fuel b ctx = .ok (some (.num (.pos 0)))) :
    eval orc (fuel + 1) (.call "take_last" [a, b]) ctx = .ok (some (.obj [])) := by
  rw [take_last_obj orc fuel ctx a b m 0 ha hb, Nat.sub_zero, List.drop_length]

theorem take_last_str_zero (a b : Expr) (s : Str)
    (ha : eval orc fuel a ctx = .ok (some (.str s))) (hb : eval orc fuel b ctx = .ok (some (.num (.pos 0)))) :
    eval orc (fuel + 1) (.call "take_last" [a, b]) ctx = .ok (some (.str [])) := by
  rw [take_last_str orc fuel ctx a b s 0 ha hb, Nat.sub_zero, List.drop_length]

/-- `take_last n` with `n ≥ size` is the whole collection -/
theorem take_last_arr_all (a b : Expr) (l : List JV) (n : Nat) (hn : l.length ≤ n)
    (ha : eval orc fuel a ctx = .ok (some (.arr l))) (hb : eval orc fuel b ctx = .ok (some (.num (.pos n)))) :
    eval orc (fuel + 1) (.call "take_last" [a, b]) ctx = .ok (some (.arr l)) := by
  rw [take_last_arr orc fuel ctx a b l n ha hb, Nat.sub_eq_zero_of_le hn, List.drop_zero]

theorem take_last_obj_all (a b : Expr) (m : List (Str × JV)) (n : Nat) (hn : m.length ≤ n)
    (ha : eval orc fuel a ctx = .ok (some (.obj m))) (hb : eval orc fuel b ctx = .ok (some (.num (.pos n)))) :
    eval orc (fuel + 1) (.call "take_last" [a, b]) ctx = .ok (some (.obj m)) := by
  rw [take_last_obj orc fuel ctx a b m n ha hb, Nat.sub_eq_zero_of_le hn, List.drop_zero]

theorem take_last_str_all (a b : Expr) (s : Str) (n : Nat) (hn : s.length ≤ n)
    (ha : eval orc fuel a ctx = .ok (some (.str s))) (hb : eval orc fuel b ctx = .ok (some (.num (.pos n)))) :
    eval orc (fuel + 1) (.call "take_last" [a, b]) ctx = .ok (some (.str s)) := by
  rw [take_last_str orc fuel ctx a b s n ha hb, Nat.sub_eq_zero_of_le hn, List.drop_zero]

/-! ## `sub`: "creates a new list that start from the second arguments and has the size of the third argument" -/

theorem sub_arr (a b c : Expr) (l : List JV) (start len : Nat)
    (ha : eval orc fuel a ctx = .ok (some (.arr l))) (hb : eval orc fuel b ctx = .ok (some (.num (.pos start))))
    (hc : eval orc fuel c ctx = .ok (some (.num (.pos len)))) :
    eval orc (fuel + 1) (.call "sub" [a, b, c]) ctx = .ok (some (.arr ((l.drop start).take len))) := by
  rw [sub_eq, ha, hb, hc]; rfl

theorem sub_obj (a b c : Expr) (m : List (Str × JV)) (start len : Nat)
    (ha : eval orc fuel a ctx = .ok (some (.obj m))) (hb : eval orc fuel b ctx = .ok (some (.num (.pos start))))
    (hc : eval orc fuel c ctx = .ok (some (.num (.pos len)))) :
    eval orc (fuel + 1) (.call "sub" [a, b, c]) ctx = .ok (some (.obj ((m.drop start).take len))) := by
  rw [sub_eq, ha, hb, hc]; rfl

theorem sub_str (a b c : Expr) (s : Str) (start len : Nat)
    (ha : eval orc fuel a ctx = .ok (some (.str s))) (hb : eval orc fuel b ctx = .ok (some (.num (.pos start))))
    (hc : eval orc fuel c ctx = .ok (some (.num (.pos len)))) :
    eval orc (fuel + 1) (.call "sub" [a, b, c]) ctx = .ok (some (.str ((s.drop start).take len))) := by
  rw [sub_eq, ha, hb, hc]; rfl

/-- `sub x 0 n` is `take x n` -/
theorem sub_zero_eq_take_arr (a b c : Expr) (l : List JV) (len : Nat)
    (ha : eval orc fuel a ctx = .ok (some (.arr l))) (hb : eval orc fuel b ctx = .ok (some (.num (.pos 0))))
    (hc : eval orc fuel c ctx = .ok (some (.num (.pos len)))) :
    eval orc (fuel + 1) (.call "sub" [a, b, c]) ctx = eval orc (fuel + 1) (.call "take" [a, c]) ctx := by
  rw [sub_arr orc fuel ctx a b c l 0 len ha hb hc, take_arr orc fuel ctx a c l len ha hc, List.drop_zero]

/-- a start beyond the end gives the empty collection -/
theorem sub_arr_beyond (a b c : Expr) (l : List JV) (start len : Nat) (h : l.length ≤ start)
    (ha : eval orc fuel a ctx = .ok (some (.arr l))) (hb : eval orc fuel b ctx = .ok (some (.num (.pos start))))
    (hc : eval orc fuel c ctx = .ok (some (.num (.pos len)))) :
    eval orc (fuel + 1) (.call "sub" [a, b, c]) ctx = .ok (some (.arr [])) := by
  rw [sub_arr orc fuel ctx a b c l start len ha hb hc, List.drop_of_length_le h, List.take_nil]

/-! ## `first`, `last`, `pop`, `pop_first`, `push`, `push_front`, `reverese` -/

/-- "The first item in a list." (nothing for the empty list) -/
theorem first_arr (a : Expr) (l : List JV) (ha : eval orc fuel a ctx = .ok (some (.arr l))) :
    eval orc (fuel + 1) (.call "first" [a]) ctx = .ok l.head? := by
  apply eval_list
  call_simp callList [ha]

/-- "The last item in a list." (nothing for the empty list) -/
theorem last_arr (a : Expr) (l : List JV) (ha : eval orc fuel a ctx = .ok (some (.arr l))) :
    eval orc (fuel + 1) (.call "last" [a]) ctx = .ok l.getLast? := by
  apply eval_list
  call_simp callList [ha]

/-- "will return the list without it's last argument" -/
theorem pop_arr (a : Expr) (l : List JV) (ha : eval orc fuel a ctx = .ok (some (.arr l))) :
    eval orc (fuel + 1) (.call "pop" [a]) ctx = .ok (some (.arr l.dropLast)) := by
  apply eval_list
  call_simp callList [ha]

/-- "will return the list without it's first argument" -/
theorem pop_first_arr (a : Expr) (l : List JV) (ha : eval orc fuel a ctx = .ok (some (.arr l))) :
    eval orc (fuel + 1) (.call "pop_first" [a]) ctx = .ok (some (.arr l.tail)) := by
  apply eval_list
  call_simp callList [ha]
  simp

/-- "Reveres the order of a list." -/
theorem reverese_arr (a : Expr) (l : List JV) (ha : eval orc fuel a ctx = .ok (some (.arr l))) :
    eval orc (fuel + 1) (.call "reverese" [a]) ctx = .ok (some (.arr l.reverse)) := by
  apply eval_list
  call_simp callList [ha]

/-- "will iterate over all the other arguments and add them to the list if they exists": general form,
`vs` are the values of the other arguments -/
theorem push_arr_many (a : Expr) (xs : List Expr) (l : List JV) (vs : List (Option JV))
    (ha : eval orc fuel a ctx = .ok (some (.arr l)))
    (hxs : mapM' (fun e => eval orc fuel e ctx) xs = .ok vs) :
    eval orc (fuel + 1) (.call "push" (a :: xs)) ctx = .ok (some (.arr (l ++ vs.filterMap id))) := by
  apply eval_list
  call_simp callList [ha, List.drop_succ_cons, List.drop_zero, hxs]

theorem push_arr (a x : Expr) (l : List JV) (v : JV)
    (ha : eval orc fuel a ctx = .ok (some (.arr l))) (hx : eval orc fuel x ctx = .ok (some v)) :
    eval orc (fuel + 1) (.call "push" [a, x]) ctx = .ok (some (.arr (l ++ [v]))) :=
  push_arr_many orc fuel ctx a [x] l [some v] ha (mapM'_cons_ok hx rfl)

/-- an argument that is nothing is not added -/
theorem push_arr_nothing (a x : Expr) (l : List JV)
    (ha : eval orc fuel a ctx = .ok (some (.arr l))) (hx : eval orc fuel x ctx = .ok none) :
    eval orc (fuel + 1) (.call "push" [a, x]) ctx = .ok (some (.arr l)) := by
  rw [push_arr_many orc fuel ctx a [x] l [none] ha (mapM'_cons_ok hx rfl)]
  simp only [List.filterMap_cons, id, List.filterMap_nil, List.append_nil]

theorem push_arr2 (a x y : Expr) (l : List JV) (v w : JV)
    (ha : eval orc fuel a ctx = .ok (some (.arr l))) (hx : eval orc fuel x ctx = .ok (some v))
    (hy : eval orc fuel y ctx = .ok (some w)) :
    eval orc (fuel + 1) (.call "push" [a, x, y]) ctx = .ok (some (.arr (l ++ [v, w]))) :=
  push_arr_many orc fuel ctx a [x, y] l [some v, some w] ha (mapM'_cons_ok hx (mapM'_cons_ok hy rfl))

theorem push_front_arr_many (a : Expr) (xs : List Expr) (l : List JV) (vs : List (Option JV))
    (ha : eval orc fuel a ctx = .ok (some (.arr l)))
    (hxs : mapM' (fun e => eval orc fuel e ctx) xs = .ok vs) :
    eval orc (fuel + 1) (.call "push_front" (a :: xs)) ctx = .ok (some (.arr ((vs.filterMap id).reverse ++ l))) := by
  apply eval_list
  call_simp callList [ha, List.drop_succ_cons, List.drop_zero, hxs]

theorem push_front_arr (a x : Expr) (l : List JV) (v : JV)
    (ha : eval orc fuel a ctx = .ok (some (.arr l))) (hx : eval orc fuel x ctx = .ok (some v)) :
    eval orc (fuel + 1) (.call "push_front" [a, x]) ctx = .ok (some (.arr (v :: l))) :=
  push_front_arr_many orc fuel ctx a [x] l [some v] ha (mapM'_cons_ok hx rfl)

/-- each further argument is put in front of the previous ones -/
theorem push_front_arr2 (a x y : Expr) (l : List JV) (v w : JV)
    (ha : eval orc fuel a ctx = .ok (some (.arr l))) (hx : eval orc fuel x ctx = .ok (some v))
    (hy : eval orc fuel y ctx = .ok (some w)) :
    eval orc (fuel + 1) (.call "push_front" [a, x, y]) ctx = .ok (some (.arr (w :: v :: l))) :=
  push_front_arr_many orc fuel ctx a [x, y] l [some v, some w] ha (mapM'_cons_ok hx (mapM'_cons_ok hy rfl))

/-! composite laws (the inner call is an argument expression of the outer one) -/

/-- `reverese` is an involution -/
theorem reverese_reverese (a : Expr) (l : List JV) (ha : eval orc fuel a ctx = .ok (some (.arr l))) :
    eval orc (fuel + 2) (.call "reverese" [.call "reverese" [a]]) ctx = .ok (some (.arr l)) := by
  rw [reverese_arr orc (fuel + 1) ctx _ _ (reverese_arr orc fuel ctx a l ha), List.reverse_reverse]

/-- `pop (push l x) = l` -/
theorem pop_push (a x : Expr) (l : List JV) (v : JV)
    (ha : eval orc fuel a ctx = .ok (some (.arr l))) (hx : eval orc fuel x ctx = .ok (some v)) :
    eval orc (fuel + 2) (.call "pop" [.call "push" [a, x]]) ctx = .ok (some (.arr l)) := by
  rw [pop_arr orc (fuel + 1) ctx _ _ (push_arr orc fuel ctx a x l v ha hx), List.dropLast_concat]

/-- `last (push l x) = x` -/
theorem last_push (a x : Expr) (l : List JV) (v : JV)
    (ha : eval orc fuel a ctx = .ok (some (.arr l))) (hx : eval orc fuel x ctx = .ok (some v)) :
    eval orc (fuel + 2) (.call "last" [.call "push" [a, x]]) ctx = .ok (some v) := by
  rw [last_arr orc (fuel + 1) ctx _ _ (push_arr orc fuel ctx a x l v ha hx), List.getLast?_concat]

/-- `first (push_front l x) = x` and `pop_first (push_front l x) = l` -/
theorem first_push_front (a x : Expr) (l : List JV) (v : JV)
    (ha : eval orc fuel a ctx = .ok (some (.arr l))) (hx : eval orc fuel x ctx = .ok (some v)) :
    eval orc (fuel + 2) (.call "first" [.call "push_front" [a, x]]) ctx = .ok (some v) := by
  rw [first_arr orc (fuel + 1) ctx _ _ (push_front_arr orc fuel ctx a x l v ha hx), List.head?_cons]

theorem pop_first_push_front (a x : Expr) (l : List JV) (v : JV)
    (ha : eval orc fuel a ctx = .ok (some (.arr l))) (hx : eval orc fuel x ctx = .ok (some v)) :
    eval orc (fuel + 2) (.call "pop_first" [.call "push_front" [a, x]]) ctx = .ok (some (.arr l)) := by
  rw [pop_first_arr orc (fuel + 1) ctx _ _ (push_front_arr orc fuel ctx a x l v ha hx), List.tail_cons]

/-- `first` is `get 0` -/
theorem first_eq_get_zero (a z : Expr) (l : List JV) (ha : eval orc fuel a ctx = .ok (some (.arr l)))
    (hz : eval orc fuel z ctx = .ok (some (.num (.pos 0)))) :
    eval orc (fuel + 1) (.call "first" [a]) ctx = eval orc (fuel + 1) (.call "get" [a, z]) ctx := by
  rw [first_arr orc fuel ctx a l ha]
  symm
  apply eval_basic
  call_simp callBasic [ha, hz]
  cases l <;> rfl

/-! ## string `head` / `tail` -/

/-- "a string with the beggining of the first argument" -/
theorem head_str (a b : Expr) (s : Str) (n : Nat)
    (ha : eval orc fuel a ctx = .ok (some (.str s))) (hb : eval orc fuel b ctx = .ok (some (.num (.pos n)))) :
    eval orc (fuel + 1) (.call "head" [a, b]) ctx = .ok (some (.str (s.take n))) := by
  apply eval_string
  call_simp callString [ha, hb]

/-- `head` on a string is `take` on a string -/
theorem head_eq_take (a b : Expr) (s : Str) (n : Nat)
    (ha : eval orc fuel a ctx = .ok (some (.str s))) (hb : eval orc fuel b ctx = .ok (some (.num (.pos n)))) :
    eval orc (fuel + 1) (.call "head" [a, b]) ctx = eval orc (fuel + 1) (.call "take" [a, b]) ctx := by
  rw [head_str orc fuel ctx a b s n ha hb, take_str orc fuel ctx a b s n ha hb]

/-- "a string with the end of the first argument": the string WITHOUT its first `n` characters
(the whole string when it has fewer than `n`) -/
theorem tail_str (a b : Expr) (s : Str) (n : Nat)
    (ha : eval orc fuel a ctx = .ok (some (.str s))) (hb : eval orc fuel b ctx = .ok (some (.num (.pos n)))) :
    eval orc (fuel + 1) (.call "tail" [a, b]) ctx = .ok (some (.str (if s.length < n then s else s.drop n))) := by
  apply eval_string
  call_simp callString [ha, hb]

/-- the result of `tail` is a suffix, and `head s n ++ tail s n = s` whenever `n ≤ size` -/
theorem tail_str_suffix (a b : Expr) (s : Str) (n : Nat)
    (ha : eval orc fuel a ctx = .ok (some (.str s))) (hb : eval orc fuel b ctx = .ok (some (.num (.pos n)))) :
    ∃ r, eval orc (fuel + 1) (.call "tail" [a, b]) ctx = .ok (some (.str r)) ∧ r <:+ s ∧
      (n ≤ s.length → s.take n ++ r = s) := by
  refine ⟨_, tail_str orc fuel ctx a b s n ha hb, ?_, ?_⟩
  · split
    · exact List.suffix_refl s
    · exact List.drop_suffix n s
  · intro h
    rw [if_neg (by omega), List.take_append_drop]

/-! ## `size`: "the number of element in an array, the number of keys in an object or the number of characters in a string" -/

theorem size_arr (a : Expr) (l : List JV) (ha : eval orc fuel a ctx = .ok (some (.arr l))) :
    eval orc (fuel + 1) (.call "size" [a]) ctx = .ok (some (.num (.pos l.length))) := by
  apply eval_basic
  call_simp callBasic [ha]

theorem size_obj (a : Expr) (m : List (Str × JV)) (ha : eval orc fuel a ctx = .ok (some (.obj m))) :
    eval orc (fuel + 1) (.call "size" [a]) ctx = .ok (some (.num (.pos m.length))) := by
  apply eval_basic
  call_simp callBasic [ha]

/-- characters (Unicode scalar values), not bytes -/
theorem size_str (a : Expr) (s : Str) (ha : eval orc fuel a ctx = .ok (some (.str s))) :
    eval orc (fuel + 1) (.call "size" [a]) ctx = .ok (some (.num (.pos s.length))) := by
  apply eval_basic
  call_simp callBasic [ha]

/-- `size (push l x) = size l + 1` -/
theorem size_push (a x : Expr) (l : List JV) (v : JV)
    (ha : eval orc fuel a ctx = .ok (some (.arr l))) (hx : eval orc fuel x ctx = .ok (some v)) :
    eval orc (fuel + 2) (.call "size" [.call "push" [a, x]]) ctx = .ok (some (.num (.pos (l.length + 1)))) := by
  rw [size_arr orc (fuel + 1) ctx _ _ (push_arr orc fuel ctx a x l v ha hx), List.length_append]; rfl

/-- `size (take x n) = min n (size x)` -/
theorem size_take_arr (a b : Expr) (l : List JV) (n : Nat)
    (ha : eval orc fuel a ctx = .ok (some (.arr l))) (hb : eval orc fuel b ctx = .ok (some (.num (.pos n)))) :
    eval orc (fuel + 2) (.call "size" [.call "take" [a, b]]) ctx = .ok (some (.num (.pos (min n l.length)))) := by
  rw [size_arr orc (fuel + 1) ctx _ _ (take_arr orc fuel ctx a b l n ha hb), List.length_take]

theorem size_take_last_arr (a b : Expr) (l : List JV) (n : Nat)
    (ha : eval orc fuel a ctx = .ok (some (.arr l))) (hb : eval orc fuel b ctx = .ok (some (.num (.pos n)))) :
    eval orc (fuel + 2) (.call "size" [.call "take_last" [a, b]]) ctx = .ok (some (.num (.pos (min n l.length)))) := by
  rw [size_arr orc (fuel + 1) ctx _ _ (take_last_arr orc fuel ctx a b l n ha hb), (drop_length_sub l n).2.2.1]

/-- `size (reverese l) = size l` -/
theorem size_reverese (a : Expr) (l : List JV) (ha : eval orc fuel a ctx = .ok (some (.arr l))) :
    eval orc (fuel + 2) (.call "size" [.call "reverese" [a]]) ctx = .ok (some (.num (.pos l.length))) := by
  rw [size_arr orc (fuel + 1) ctx _ _ (reverese_arr orc fuel ctx a l ha), List.length_reverse]

example : eval {} 5 (.call "size" [.const (.str "añb".toList)]) {} = .ok (some (.num (.pos 3))) := by
  rw [size_str {} 4 {} _ "añb".toList rfl]; rfl

example : eval {} 5 (.call "size" [.call "push" [.const (.arr [.null]), .const (.bool true)]]) {} = .ok (some (.num (.pos 2))) :=
  size_push {} 3 {} _ _ [.null] (.bool true) rfl rfl

example : eval {} 5 (.call "take_last" [.const (.arr [.null, .bool true, .bool false]), .const (.num (.pos 2))]) {}
    = .ok (some (.arr [.bool true, .bool false])) :=
  take_last_arr {} 4 {} _ _ [.null, .bool true, .bool false] 2 rfl rfl

example : eval {} 5 (.call "sub" [.const (.str "123456".toList), .const (.num (.pos 1)), .const (.num (.pos 3))]) {}
    = .ok (some (.str "234".toList)) :=
  sub_str {} 4 {} _ _ _ "123456".toList 1 3 rfl rfl rfl

example : eval {} 5 (.call "tail" [.const (.str "test-123".toList), .const (.num (.pos 4))]) {}
    = .ok (some (.str "-123".toList)) :=
  tail_str {} 4 {} _ _ "test-123".toList 4 rfl rfl

example : eval {} 5 (.call "reverese" [.call "reverese" [.const (.arr [.null, .bool true])]]) {}
    = .ok (some (.arr [.null, .bool true])) :=
  reverese_reverese {} 3 {} _ [.null, .bool true] rfl

/-! ## `join`: "Join all the items in the list into a String. If list have non string items, it will return nuthing.
If the second argument is ommited, the items will be seperated by comma." -/

/-- the evaluator's `join` in terms of the model's loop `joinGo` (separator given) -/
theorem join_arr (a b : Expr) (l : List JV) (sep : Str)
    (ha : eval orc fuel a ctx = .ok (some (.arr l))) (hb : eval orc fuel b ctx = .ok (some (.str sep))) :
    eval orc (fuel + 1) (.call "join" [a, b]) ctx = .ok ((callList.joinGo sep true [] l).map JV.str) := by
  apply eval_list
  call_simp callList [ha, hb]
  rfl

/-- separator omitted: `", "` -/
theorem join_arr_default (a : Expr) (l : List JV) (ha : eval orc fuel a ctx = .ok (some (.arr l))) :
    eval orc (fuel + 1) (.call "join" [a]) ctx = .ok ((callList.joinGo ", ".toList true [] l).map JV.str) := by
  apply eval_list
  call_simp callList [ha]
  rfl

theorem join_strs (a b : Expr) (s : Str) (ss : List Str) (sep : Str)
    (ha : eval orc fuel a ctx = .ok (some (.arr ((s :: ss).map JV.str))))
    (hb : eval orc fuel b ctx = .ok (some (.str sep))) :
    eval orc (fuel + 1) (.call "join" [a, b]) ctx = .ok (some (.str (sep.intercalate (s :: ss)))) := by
  rw [join_arr orc fuel ctx a b _ sep ha hb, joinGo_strs sep s ss]; rfl

theorem join_non_string (a b : Expr) (l : List JV) (sep : Str) (h : ∃ v ∈ l, ∀ s, v ≠ JV.str s)
    (ha : eval orc fuel a ctx = .ok (some (.arr l))) (hb : eval orc fuel b ctx = .ok (some (.str sep))) :
    eval orc (fuel + 1) (.call "join" [a, b]) ctx = .ok none := by
  rw [join_arr orc fuel ctx a b _ sep ha hb, joinGo_non_string sep true [] l h]; rfl

example : eval {} 5 (.call "join" [.const (.arr [.str "one".toList, .str "two".toList, .str "three".toList])]) {}
    = .ok (some (.str "one, two, three".toList)) := by
  rw [join_arr_default {} 4 {} _ _ rfl]; rfl

example : eval {} 5 (.call "join" [.const (.arr [.str "a".toList, .str "b".toList]), .const (.str ";".toList)]) {}
    = .ok (some (.str "a;b".toList)) :=
  join_strs {} 4 {} _ _ "a".toList ["b".toList] ";".toList rfl rfl

/-- an empty first item is an item like any other: `join ["", "a"]` is `", a"` -/
example : eval {} 5 (.call "join" [.const (.arr [.str [], .str "a".toList])]) {} = .ok (some (.str ", a".toList)) := by
  rw [join_arr_default {} 4 {} _ _ rfl]; rfl

/-! ## `get` ("Get an item from an array by index or from a map by key"), `keys`, `values`, `entries` -/

theorem get_arr (a b : Expr) (l : List JV) (i : Nat)
    (ha : eval orc fuel a ctx = .ok (some (.arr l))) (hb : eval orc fuel b ctx = .ok (some (.num (.pos i)))) :
    eval orc (fuel + 1) (.call "get" [a, b]) ctx = .ok l[i]? := by
  rw [get_eq, ha, hb]; rfl

theorem get_arr_lt (a b : Expr) (l : List JV) (i : Nat) (h : i < l.length)
    (ha : eval orc fuel a ctx = .ok (some (.arr l))) (hb : eval orc fuel b ctx = .ok (some (.num (.pos i)))) :
    eval orc (fuel + 1) (.call "get" [a, b]) ctx = .ok (some l[i]) := by
  rw [get_arr orc fuel ctx a b l i ha hb, List.getElem?_eq_getElem h]

/-- an index past the end gives nothing -/
theorem get_arr_out (a b : Expr) (l : List JV) (i : Nat) (h : l.length ≤ i)
    (ha : eval orc fuel a ctx = .ok (some (.arr l))) (hb : eval orc fuel b ctx = .ok (some (.num (.pos i)))) :
    eval orc (fuel + 1) (.call "get" [a, b]) ctx = .ok none := by
  rw [get_arr orc fuel ctx a b l i ha hb, List.getElem?_eq_none h]

theorem get_obj (a b : Expr) (m : List (Str × JV)) (k : Str)
    (ha : eval orc fuel a ctx = .ok (some (.obj m))) (hb : eval orc fuel b ctx = .ok (some (.str k))) :
    eval orc (fuel + 1) (.call "get" [a, b]) ctx = .ok (objGet? m k) := by
  rw [get_eq, ha, hb]; rfl

/-- a key that is present gives a member of the object; an absent key gives nothing -/
theorem get_obj_present (a b : Expr) (m : List (Str × JV)) (k : Str) (v : JV) (h : objGet? m k = some v)
    (ha : eval orc fuel a ctx = .ok (some (.obj m))) (hb : eval orc fuel b ctx = .ok (some (.str k))) :
    eval orc (fuel + 1) (.call "get" [a, b]) ctx = .ok (some v) ∧ (k, v) ∈ m :=
  ⟨by rw [get_obj orc fuel ctx a b m k ha hb, h], objGet?_mem h⟩

theorem get_obj_absent (a b : Expr) (m : List (Str × JV)) (k : Str) (h : ∀ kv ∈ m, kv.1 ≠ k)
    (ha : eval orc fuel a ctx = .ok (some (.obj m))) (hb : eval orc fuel b ctx = .ok (some (.str k))) :
    eval orc (fuel + 1) (.call "get" [a, b]) ctx = .ok none := by
  rw [get_obj orc fuel ctx a b m k ha hb, (objGet?_none_iff m k).2 h]

/-- "Get the list of keys from an object.": in member order -/
theorem keys_obj (a : Expr) (m : List (Str × JV)) (ha : eval orc fuel a ctx = .ok (some (.obj m))) :
    eval orc (fuel + 1) (.call "keys" [a]) ctx = .ok (some (.arr (m.map (fun kv => JV.str kv.1)))) := by
  apply eval_object
  call_simp callObject [ha]

/-- "Get the list of values from an object.": in member order -/
theorem values_obj (a : Expr) (m : List (Str × JV)) (ha : eval orc fuel a ctx = .ok (some (.obj m))) :
    eval orc (fuel + 1) (.call "values" [a]) ctx = .ok (some (.arr (m.map (·.2)))) := by
  apply eval_object
  call_simp callObject [ha]

/-- "Each item of the list will be an object with `key` and `value` entries": in member order -/
theorem entries_obj (a : Expr) (m : List (Str × JV)) (ha : eval orc fuel a ctx = .ok (some (.obj m))) :
    eval orc (fuel + 1) (.call "entries" [a]) ctx =
      .ok (some (.arr (m.map (fun kv => JV.obj [("value".toList, kv.2), ("key".toList, .str kv.1)])))) := by
  apply eval_object
  call_simp callObject [ha]

/-- `size (keys o) = size (values o) = size (entries o) = size o` -/
theorem size_keys (a : Expr) (m : List (Str × JV)) (ha : eval orc fuel a ctx = .ok (some (.obj m))) :
    eval orc (fuel + 2) (.call "size" [.call "keys" [a]]) ctx = .ok (some (.num (.pos m.length))) := by
  rw [size_arr orc (fuel + 1) ctx _ _ (keys_obj orc fuel ctx a m ha), List.length_map]

theorem size_values (a : Expr) (m : List (Str × JV)) (ha : eval orc fuel a ctx = .ok (some (.obj m))) :
    eval orc (fuel + 2) (.call "size" [.call "values" [a]]) ctx = .ok (some (.num (.pos m.length))) := by
  rw [size_arr orc (fuel + 1) ctx _ _ (values_obj orc fuel ctx a m ha), List.length_map]

theorem size_entries (a : Expr) (m : List (Str × JV)) (ha : eval orc fuel a ctx = .ok (some (.obj m))) :
    eval orc (fuel + 2) (.call "size" [.call "entries" [a]]) ctx = .ok (some (.num (.pos m.length))) := by
  rw [size_arr orc (fuel + 1) ctx _ _ (entries_obj orc fuel ctx a m ha), List.length_map]

/-- the `i`-th key / value is the key / value of the `i`-th member -/
theorem get_keys (a b : Expr) (m : List (Str × JV)) (i : Nat)
    (ha : eval orc fuel a ctx = .ok (some (.obj m))) (hb : eval orc (fuel + 1) b ctx = .ok (some (.num (.pos i)))) :
    eval orc (fuel + 2) (.call "get" [.call "keys" [a], b]) ctx = .ok (m[i]?.map (fun kv => JV.str kv.1)) := by
  rw [get_arr orc (fuel + 1) ctx _ b _ i (keys_obj orc fuel ctx a m ha) hb, List.getElem?_map]

theorem get_values (a b : Expr) (m : List (Str × JV)) (i : Nat)
    (ha : eval orc fuel a ctx = .ok (some (.obj m))) (hb : eval orc (fuel + 1) b ctx = .ok (some (.num (.pos i)))) :
    eval orc (fuel + 2) (.call "get" [.call "values" [a], b]) ctx = .ok (m[i]?.map (·.2)) := by
  rw [get_arr orc (fuel + 1) ctx _ b _ i (values_obj orc fuel ctx a m ha) hb, List.getElem?_map]

example : eval {} 5 (.call "get" [.const (.arr [.str "a".toList, .str "b".toList]), .const (.num (.pos 1))]) {}
    = .ok (some (.str "b".toList)) :=
  get_arr_lt {} 4 {} _ _ [.str "a".toList, .str "b".toList] 1 (by decide) rfl rfl

example : eval {} 5 (.call "get" [.const (.obj [("k1".toList, .null), ("k2".toList, .bool true)]), .const (.str "k2".toList)]) {}
    = .ok (some (.bool true)) :=
  (get_obj_present {} 4 {} _ _ [("k1".toList, .null), ("k2".toList, .bool true)] "k2".toList (.bool true) rfl rfl rfl).1

example : eval {} 5 (.call "keys" [.const (.obj [("k1".toList, .null), ("k2".toList, .bool true)])]) {}
    = .ok (some (.arr [.str "k1".toList, .str "k2".toList])) :=
  keys_obj {} 4 {} _ [("k1".toList, .null), ("k2".toList, .bool true)] rfl

/-! ## `map` and `filter` -/

/-- `map`: "activate the second argument on each item and collect into a new list": the function is evaluated
with each item as input, results that are nothing are dropped -/
theorem map_arr_ok (a f : Expr) (l : List JV) (rs : List (Option JV))
    (ha : eval orc fuel a ctx = .ok (some (.arr l)))
    (hf : mapM' (fun v => eval orc fuel f (ctx.withInput v)) l = .ok rs) :
    eval orc (fuel + 1) (.call "map" [a, f]) ctx = .ok (some (.arr (rs.filterMap id))) := by
  apply eval_list
  call_simp callList [ha, hf]

theorem map_arr_error (a f : Expr) (l : List JV) (e : Abort)
    (ha : eval orc fuel a ctx = .ok (some (.arr l)))
    (hf : mapM' (fun v => eval orc fuel f (ctx.withInput v)) l = .error e) :
    eval orc (fuel + 1) (.call "map" [a, f]) ctx = .error e := by
  apply eval_list
  call_simp callList [ha, hf]

theorem map_arr (a f : Expr) (l : List JV) (g : JV → Option JV)
    (ha : eval orc fuel a ctx = .ok (some (.arr l)))
    (hf : ∀ v ∈ l, eval orc fuel f (ctx.withInput v) = .ok (g v)) :
    eval orc (fuel + 1) (.call "map" [a, f]) ctx = .ok (some (.arr (l.filterMap g))) := by
  rw [map_arr_ok orc fuel ctx a f l _ ha (mapM'_ok _ g l hf)]
  simp [List.filterMap_map]

/-- when the function gives a value for every item, `map` preserves length and order: item `i` of the result
is the function's value on item `i` -/
theorem map_arr_total (a f : Expr) (l : List JV) (g : JV → JV)
    (ha : eval orc fuel a ctx = .ok (some (.arr l)))
    (hf : ∀ v ∈ l, eval orc fuel f (ctx.withInput v) = .ok (some (g v))) :
    eval orc (fuel + 1) (.call "map" [a, f]) ctx = .ok (some (.arr (l.map g))) := by
  rw [map_arr orc fuel ctx a f l (fun v => some (g v)) ha hf, List.filterMap_eq_map']

theorem size_map_total (a f : Expr) (l : List JV) (g : JV → JV)
    (ha : eval orc fuel a ctx = .ok (some (.arr l)))
    (hf : ∀ v ∈ l, eval orc fuel f (ctx.withInput v) = .ok (some (g v))) :
    eval orc (fuel + 2) (.call "size" [.call "map" [a, f]]) ctx = .ok (some (.num (.pos l.length))) := by
  rw [size_arr orc (fuel + 1) ctx _ _ (map_arr_total orc fuel ctx a f l g ha hf), List.length_map]

/-- whatever the function is: a result of `map` on an array is an array of at most as many items, and an abort
of `map` is an abort of the function on one of the items -/
theorem map_arr_result (a f : Expr) (l : List JV) (ha : eval orc fuel a ctx = .ok (some (.arr l))) :
    (∃ rs : List (Option JV), rs.length = l.length ∧
        l.map (fun v => eval orc fuel f (ctx.withInput v)) = rs.map .ok ∧
        eval orc (fuel + 1) (.call "map" [a, f]) ctx = .ok (some (.arr (rs.filterMap id))) ∧
        (rs.filterMap id).length ≤ l.length) ∨
    (∃ e, eval orc (fuel + 1) (.call "map" [a, f]) ctx = .error e ∧
        ∃ v ∈ l, eval orc fuel f (ctx.withInput v) = .error e) := by
  cases h : mapM' (fun v => eval orc fuel f (ctx.withInput v)) l with
  | error e => exact .inr ⟨e, map_arr_error orc fuel ctx a f l e ha h, mapM'_error _ l e h⟩
  | ok rs =>
    have hl := mapM'_length _ l rs h
    exact .inl ⟨rs, hl, (mapM'_ok_iff _ l rs).1 h, map_arr_ok orc fuel ctx a f l rs ha h,
      hl ▸ List.length_filterMap_le _ _⟩

theorem filter_arr_aux (a f : Expr) (l : List JV) (x : Except Abort (List Bool))
    (ha : eval orc fuel a ctx = .ok (some (.arr l)))
    (hf : mapM' (fun v => (eval orc fuel f (ctx.withInput v)).map isTrue) l = x) :
    eval orc (fuel + 1) (.call "filter" [a, f]) ctx =
      x.bind (fun keep => .ok (some (.arr (select l keep)))) := by
  apply eval_list
  call_simp callList [ha]
  generalize hF : mapM' _ l = y
  have : mapM' (fun v => (eval orc fuel f (ctx.withInput v)).map isTrue) l = y := by
    rw [← hF]; congr 1; funext v
    cases eval orc fuel f (ctx.withInput v) with
    | error e => rfl
    | ok r =>
      simp only [Except.map, ok_bind]
      split <;> simp_all [EvalLaws.isTrue]
  rw [← hf, this]
  rfl

theorem filter_arr_ok (a f : Expr) (l : List JV) (keep : List Bool)
    (ha : eval orc fuel a ctx = .ok (some (.arr l)))
    (hf : mapM' (fun v => (eval orc fuel f (ctx.withInput v)).map isTrue) l = .ok keep) :
    eval orc (fuel + 1) (.call "filter" [a, f]) ctx = .ok (some (.arr (select l keep))) :=
  filter_arr_aux orc fuel ctx a f l _ ha hf

theorem filter_arr_error (a f : Expr) (l : List JV) (e : Abort)
    (ha : eval orc fuel a ctx = .ok (some (.arr l)))
    (hf : mapM' (fun v => (eval orc fuel f (ctx.withInput v)).map isTrue) l = .error e) :
    eval orc (fuel + 1) (.call "filter" [a, f]) ctx = .error e :=
  filter_arr_aux orc fuel ctx a f l _ ha hf

/-- `filter`: the items for which the function is `true`, in their original order -/
theorem filter_arr (a f : Expr) (l : List JV) (p : JV → Option JV)
    (ha : eval orc fuel a ctx = .ok (some (.arr l)))
    (hf : ∀ v ∈ l, eval orc fuel f (ctx.withInput v) = .ok (p v)) :
    eval orc (fuel + 1) (.call "filter" [a, f]) ctx = .ok (some (.arr (l.filter (fun v => isTrue (p v))))) := by
  rw [filter_arr_ok orc fuel ctx a f l _ ha (mapM'_ok _ (fun v => isTrue (p v)) l (fun v hv => by rw [hf v hv]; rfl)),
    select_map]

/-- whatever the function is: a result of `filter` on an array is a sub-list (`List.Sublist`: same items, same
order, some left out) of the array, and an abort is an abort of the function on one of the items -/
theorem filter_arr_result (a f : Expr) (l : List JV) (ha : eval orc fuel a ctx = .ok (some (.arr l))) :
    (∃ l' : List JV, eval orc (fuel + 1) (.call "filter" [a, f]) ctx = .ok (some (.arr l')) ∧ l'.Sublist l) ∨
    (∃ e, eval orc (fuel + 1) (.call "filter" [a, f]) ctx = .error e ∧
        ∃ v ∈ l, eval orc fuel f (ctx.withInput v) = .error e) :=
  select_result (fun v => eval orc fuel f (ctx.withInput v)) l JV.arr _ (filter_arr_aux orc fuel ctx a f l _ ha rfl)

/-- `filter x true` keeps everything, `filter x null` nothing (the documentation's examples) -/
theorem filter_const_true (a : Expr) (l : List JV) (ha : eval orc (fuel + 1) a ctx = .ok (some (.arr l))) :
    eval orc (fuel + 2) (.call "filter" [a, .const (.bool true)]) ctx = .ok (some (.arr l)) := by
  rw [filter_arr orc (fuel + 1) ctx a _ l (fun _ => some (.bool true)) ha (fun _ _ => rfl)]
  simp [EvalLaws.isTrue]

theorem filter_const_not_true (a : Expr) (l : List JV) (c : JV) (hc : isTrue (some c) = false)
    (ha : eval orc (fuel + 1) a ctx = .ok (some (.arr l))) :
    eval orc (fuel + 2) (.call "filter" [a, .const c]) ctx = .ok (some (.arr [])) := by
  rw [filter_arr orc (fuel + 1) ctx a _ l (fun _ => some c) ha (fun _ _ => rfl)]
  simp [hc]

/-- `map x .` (the identity selection) is `x` -/
theorem map_identity (a : Expr) (l : List JV) (ha : eval orc (fuel + 1) a ctx = .ok (some (.arr l))) :
    eval orc (fuel + 2) (.call "map" [a, .extract 0 []]) ctx = .ok (some (.arr l)) := by
  rw [map_arr_total orc (fuel + 1) ctx a _ l id ha (fun _ _ => rfl), List.map_id]

example : eval {} 5 (.call "map" [.const (.arr [.arr [.null], .arr []]), .call "size" [.extract 0 []]]) {}
    = .ok (some (.arr [.num (.pos 1), .num (.pos 0)])) := by
  rw [map_arr_total {} 4 {} _ _ [.arr [.null], .arr []]
    (fun v => match v with | .arr l => .num (.pos l.length) | _ => .null) rfl (by intro v hv; simp at hv; rcases hv with rfl | rfl <;> rfl)]
  rfl

example : eval {} 5 (.call "filter" [.const (.arr [.arr [.null], .bool true, .arr []]), .call "array?" [.extract 0 []]]) {}
    = .ok (some (.arr [.arr [.null], .arr []])) := by
  rw [filter_arr {} 4 {} _ _ [.arr [.null], .bool true, .arr []]
    (fun v => match v with | .arr _ => some (.bool true) | _ => some (.bool false)) rfl (by intro v hv; simp at hv; rcases hv with rfl | rfl | rfl <;> rfl)]
  rfl

/-! ## Wrong type ⇒ nothing; never an abort unless an argument's own evaluation aborts -/

/-! ### `take` -/

/-- the count is not a non-negative integer ⇒ nothing (the first argument is not even looked at) -/
theorem take_bad_count (a b : Expr) (w : Option JV) (hw : usizeArg w = none)
    (hb : eval orc fuel b ctx = .ok w) :
    eval orc (fuel + 1) (.call "take" [a, b]) ctx = .ok none := by
  rw [take_eq, hb, ok_bind, hw]

/-- the first argument is not an object, array or string ⇒ nothing -/
theorem take_wrong_type (a b : Expr) (v w : Option JV) (hv : isColl v = false)
    (ha : eval orc fuel a ctx = .ok v) (hb : eval orc fuel b ctx = .ok w) :
    eval orc (fuel + 1) (.call "take" [a, b]) ctx = .ok none := by
  rw [take_eq, ha, hb, ok_bind]
  cases usizeArg w
  · rfl
  · exact congrArg Except.ok (mapColl_eq_none _ hv)

/-- `take` aborts only when the evaluation of one of its arguments aborts -/
theorem take_total (a b : Expr) (v w : Option JV)
    (ha : eval orc fuel a ctx = .ok v) (hb : eval orc fuel b ctx = .ok w) :
    ∃ r, eval orc (fuel + 1) (.call "take" [a, b]) ctx = .ok r := by
  rw [take_eq, ha, hb, ok_bind]
  cases usizeArg w <;> exact ⟨_, rfl⟩

/-- abort propagation for `take` (the count is evaluated first) -/
theorem take_abort_count (a b : Expr) (e : Abort) (hb : eval orc fuel b ctx = .error e) :
    eval orc (fuel + 1) (.call "take" [a, b]) ctx = .error e := by
  rw [take_eq, hb]; rfl

theorem take_abort_coll (a b : Expr) (n : Nat) (e : Abort)
    (ha : eval orc fuel a ctx = .error e) (hb : eval orc fuel b ctx = .ok (some (.num (.pos n)))) :
    eval orc (fuel + 1) (.call "take" [a, b]) ctx = .error e := by
  rw [take_eq, ha, hb]; rfl

/-! ### `take_last` -/

theorem take_last_bad_count (a b : Expr) (w : Option JV) (hw : usizeArg w = none)
    (hb : eval orc fuel b ctx = .ok w) :
    eval orc (fuel + 1) (.call "take_last" [a, b]) ctx = .ok none := by
  rw [take_last_eq, hb, ok_bind, hw]

theorem take_last_wrong_type (a b : Expr) (v w : Option JV) (hv : isColl v = false)
    (ha : eval orc fuel a ctx = .ok v) (hb : eval orc fuel b ctx = .ok w) :
    eval orc (fuel + 1) (.call "take_last" [a, b]) ctx = .ok none := by
  rw [take_last_eq, ha, hb, ok_bind]
  cases usizeArg w
  · rfl
  · exact congrArg Except.ok (mapColl_eq_none _ hv)

theorem take_last_total (a b : Expr) (v w : Option JV)
    (ha : eval orc fuel a ctx = .ok v) (hb : eval orc fuel b ctx = .ok w) :
    ∃ r, eval orc (fuel + 1) (.call "take_last" [a, b]) ctx = .ok r := by
  rw [take_last_eq, ha, hb, ok_bind]
  cases usizeArg w <;> exact ⟨_, rfl⟩

/-! ### `sub` -/

theorem sub_bad_start (a b c : Expr) (w : Option JV) (hw : usizeArg w = none)
    (hb : eval orc fuel b ctx = .ok w) :
    eval orc (fuel + 1) (.call "sub" [a, b, c]) ctx = .ok none := by
  rw [sub_eq, hb, ok_bind, hw]

theorem sub_bad_len (a b c : Expr) (start : Nat) (w : Option JV) (hw : usizeArg w = none)
    (hb : eval orc fuel b ctx = .ok (some (.num (.pos start)))) (hc : eval orc fuel c ctx = .ok w) :
    eval orc (fuel + 1) (.call "sub" [a, b, c]) ctx = .ok none := by
  simp only [sub_eq, hb, hc, ok_bind, usizeArg_pos, hw]

theorem sub_wrong_type (a b c : Expr) (v : Option JV) (start len : Nat) (hv : isColl v = false)
    (ha : eval orc fuel a ctx = .ok v) (hb : eval orc fuel b ctx = .ok (some (.num (.pos start))))
    (hc : eval orc fuel c ctx = .ok (some (.num (.pos len)))) :
    eval orc (fuel + 1) (.call "sub" [a, b, c]) ctx = .ok none := by
  rw [sub_eq, ha, hb, hc]
  exact congrArg Except.ok (mapColl_eq_none _ hv)

/-! ### `size` -/

/-- "50 is not an array, not an object nor a string." -/
theorem size_wrong_type (a : Expr) (v : Option JV) (hv : isColl v = false)
    (ha : eval orc fuel a ctx = .ok v) :
    eval orc (fuel + 1) (.call "size" [a]) ctx = .ok none := by
  apply eval_basic
  call_simp callBasic [ha]
  split
  · cases hv
  · cases hv
  · cases hv
  · rfl

theorem size_total (a : Expr) (v : Option JV) (ha : eval orc fuel a ctx = .ok v) :
    ∃ r, eval orc (fuel + 1) (.call "size" [a]) ctx = .ok r := by
  rcases v with _ | (_ | _ | s | _ | m | l)
  case some.obj => exact ⟨_, size_obj orc fuel ctx a m ha⟩
  case some.arr => exact ⟨_, size_arr orc fuel ctx a l ha⟩
  case some.str => exact ⟨_, size_str orc fuel ctx a s ha⟩
  all_goals exact ⟨_, size_wrong_type orc fuel ctx a _ rfl ha⟩

/-- an abort of the argument is the abort of the call -/
theorem size_abort (a : Expr) (e : Abort) (ha : eval orc fuel a ctx = .error e) :
    eval orc (fuel + 1) (.call "size" [a]) ctx = .error e := by
  apply eval_basic
  call_simp callBasic [ha]

/-! ### `get` -/

/-- the first argument is neither an object nor an array ⇒ nothing (the second is not even looked at) -/
theorem get_wrong_type (a b : Expr) (v : Option JV) (hv : isObj v = false) (hv' : isArr v = false)
    (ha : eval orc fuel a ctx = .ok v) :
    eval orc (fuel + 1) (.call "get" [a, b]) ctx = .ok none := by
  rw [get_eq, ha, ok_bind]
  split
  · cases hv
  · cases hv'
  · rfl

/-- an array indexed by something that is not a non-negative integer ⇒ nothing -/
theorem get_arr_bad_index (a b : Expr) (l : List JV) (w : Option JV) (hw : usizeArg w = none)
    (ha : eval orc fuel a ctx = .ok (some (.arr l))) (hb : eval orc fuel b ctx = .ok w) :
    eval orc (fuel + 1) (.call "get" [a, b]) ctx = .ok none := by
  simp only [get_eq, ha, hb, ok_bind, hw]

/-- an object indexed by something that is not a string ⇒ nothing -/
theorem get_obj_bad_key (a b : Expr) (m : List (Str × JV)) (w : Option JV) (hw : strArg w = none)
    (ha : eval orc fuel a ctx = .ok (some (.obj m))) (hb : eval orc fuel b ctx = .ok w) :
    eval orc (fuel + 1) (.call "get" [a, b]) ctx = .ok none := by
  simp only [get_eq, ha, hb, ok_bind, hw]

theorem get_total (a b : Expr) (v w : Option JV)
    (ha : eval orc fuel a ctx = .ok v) (hb : eval orc fuel b ctx = .ok w) :
    ∃ r, eval orc (fuel + 1) (.call "get" [a, b]) ctx = .ok r := by
  simp only [get_eq, ha, hb, ok_bind]
  split
  · split <;> exact ⟨_, rfl⟩
  · split <;> exact ⟨_, rfl⟩
  · exact ⟨_, rfl⟩

/-! ### `keys`, `values`, `entries`: not an object ⇒ nothing -/

theorem keys_wrong_type (a : Expr) (v : Option JV) (hv : isObj v = false) (ha : eval orc fuel a ctx = .ok v) :
    eval orc (fuel + 1) (.call "keys" [a]) ctx = .ok none := by
  apply eval_object
  call_simp callObject [ha]
  split
  · cases hv
  · rfl

theorem values_wrong_type (a : Expr) (v : Option JV) (hv : isObj v = false) (ha : eval orc fuel a ctx = .ok v) :
    eval orc (fuel + 1) (.call "values" [a]) ctx = .ok none := by
  apply eval_object
  call_simp callObject [ha]
  split
  · cases hv
  · rfl

theorem entries_wrong_type (a : Expr) (v : Option JV) (hv : isObj v = false) (ha : eval orc fuel a ctx = .ok v) :
    eval orc (fuel + 1) (.call "entries" [a]) ctx = .ok none := by
  apply eval_object
  call_simp callObject [ha]
  split
  · cases hv
  · rfl

theorem keys_total (a : Expr) (v : Option JV) (ha : eval orc fuel a ctx = .ok v) :
    ∃ r, eval orc (fuel + 1) (.call "keys" [a]) ctx = .ok r := by
  rcases v with _ | (_ | _ | s | _ | m | l)
  case some.obj => exact ⟨_, keys_obj orc fuel ctx a m ha⟩
  all_goals exact ⟨_, keys_wrong_type orc fuel ctx a _ rfl ha⟩

/-! ### list functions: not an array ⇒ nothing -/

theorem first_wrong_type (a : Expr) (v : Option JV) (hv : isArr v = false) (ha : eval orc fuel a ctx = .ok v) :
    eval orc (fuel + 1) (.call "first" [a]) ctx = .ok none := by
  apply eval_list
  call_simp callList [ha]
  split
  · cases hv
  · rfl

theorem last_wrong_type (a : Expr) (v : Option JV) (hv : isArr v = false) (ha : eval orc fuel a ctx = .ok v) :
    eval orc (fuel + 1) (.call "last" [a]) ctx = .ok none := by
  apply eval_list
  call_simp callList [ha]
  split
  · cases hv
  · rfl

theorem pop_wrong_type (a : Expr) (v : Option JV) (hv : isArr v = false) (ha : eval orc fuel a ctx = .ok v) :
    eval orc (fuel + 1) (.call "pop" [a]) ctx = .ok none := by
  apply eval_list
  call_simp callList [ha]
  split
  · cases hv
  · rfl

theorem reverese_wrong_type (a : Expr) (v : Option JV) (hv : isArr v = false) (ha : eval orc fuel a ctx = .ok v) :
    eval orc (fuel + 1) (.call "reverese" [a]) ctx = .ok none := by
  apply eval_list
  call_simp callList [ha]
  split
  · cases hv
  · rfl

theorem push_wrong_type (a : Expr) (xs : List Expr) (v : Option JV) (hv : isArr v = false)
    (ha : eval orc fuel a ctx = .ok v) :
    eval orc (fuel + 1) (.call "push" (a :: xs)) ctx = .ok none := by
  apply eval_list
  call_simp callList [ha]
  split
  · cases hv
  · rfl

theorem map_wrong_type (a f : Expr) (v : Option JV) (hv : isArr v = false) (ha : eval orc fuel a ctx = .ok v) :
    eval orc (fuel + 1) (.call "map" [a, f]) ctx = .ok none := by
  apply eval_list
  call_simp callList [ha]
  split
  · cases hv
  · rfl

theorem filter_wrong_type (a f : Expr) (v : Option JV) (hv : isArr v = false) (ha : eval orc fuel a ctx = .ok v) :
    eval orc (fuel + 1) (.call "filter" [a, f]) ctx = .ok none := by
  apply eval_list
  call_simp callList [ha]
  split
  · cases hv
  · rfl

/-! ### string `head` / `tail` -/

theorem head_wrong_type (a b : Expr) (v w : Option JV) (h : strArg v = none ∨ usizeArg w = none)
    (ha : eval orc fuel a ctx = .ok v) (hb : eval orc fuel b ctx = .ok w) :
    eval orc (fuel + 1) (.call "head" [a, b]) ctx = .ok none := by
  apply eval_string
  call_simp callString [ha, hb]
  rcases h with h | h
  · simp only [h]
  · simp only [h]; split <;> simp_all

theorem tail_wrong_type (a b : Expr) (v w : Option JV) (h : strArg v = none ∨ usizeArg w = none)
    (ha : eval orc fuel a ctx = .ok v) (hb : eval orc fuel b ctx = .ok w) :
    eval orc (fuel + 1) (.call "tail" [a, b]) ctx = .ok none := by
  apply eval_string
  call_simp callString [ha, hb]
  rcases h with h | h
  · simp only [h]
  · simp only [h]; split <;> simp_all

/-- the documentation's examples `(take 50 10)` and `(take "123" false)` give nothing -/
example : eval {} 5 (.call "take" [.const (.num (.pos 50)), .const (.num (.pos 10))]) {} = .ok none :=
  take_wrong_type {} 4 {} _ _ (some (.num (.pos 50))) _ rfl rfl rfl

example : eval {} 5 (.call "take" [.const (.str "123".toList), .const (.bool false)]) {} = .ok none :=
  take_bad_count {} 4 {} _ _ (some (.bool false)) rfl rfl

example : eval {} 5 (.call "take_last" [.const (.str "123".toList), .const (.num (.neg (-1)))]) {} = .ok none :=
  take_last_bad_count {} 4 {} _ _ (some (.num (.neg (-1)))) rfl rfl

example : eval {} 5 (.call "size" [.const (.num (.pos 50))]) {} = .ok none :=
  size_wrong_type {} 4 {} _ (some (.num (.pos 50))) rfl rfl

example : eval {} 5 (.call "get" [.const (.arr [.null]), .const (.str "a".toList)]) {} = .ok none :=
  get_arr_bad_index {} 4 {} _ _ [.null] (some (.str "a".toList)) rfl rfl rfl

example : eval {} 5 (.call "keys" [.const (.arr [.null])]) {} = .ok none :=
  keys_wrong_type {} 4 {} _ (some (.arr [.null])) rfl rfl

/-- an argument that is nothing (here: a variable that is not set) -/
example : eval {} 5 (.call "size" [.var "x".toList]) {} = .ok none :=
  size_wrong_type {} 4 {} _ none rfl rfl

/-! ## Boolean functions -/

/-- `and`: "Return true if all the arguments are true, nothing if there is a non boolean argument and false if
there is a false argument." — truth table on two booleans -/
theorem and_bool (a b : Expr) (x y : Bool)
    (ha : eval orc fuel a ctx = .ok (some (.bool x))) (hb : eval orc fuel b ctx = .ok (some (.bool y))) :
    eval orc (fuel + 1) (.call "and" [a, b]) ctx = .ok (some (.bool (x && y))) := by
  apply eval_basic
  call_simp callBasic [ha, hb, foldArgs]
  cases x <;> cases y <;> simp

/-- evaluation is left to right and stops at the first `false`: the second argument is not evaluated -/
theorem and_false_left (a b : Expr) (ha : eval orc fuel a ctx = .ok (some (.bool false))) :
    eval orc (fuel + 1) (.call "and" [a, b]) ctx = .ok (some (.bool false)) := by
  apply eval_basic
  call_simp callBasic [ha, foldArgs]

theorem and_non_bool_left (a b : Expr) (v : Option JV) (hv : isBool v = false)
    (ha : eval orc fuel a ctx = .ok v) :
    eval orc (fuel + 1) (.call "and" [a, b]) ctx = .ok none := by
  apply eval_basic
  call_simp callBasic [ha, foldArgs]
  rcases v with _ | (_ | (_ | _) | _ | _ | _ | _) <;> simp_all [isBool]

theorem and_non_bool_right (a b : Expr) (w : Option JV) (hw : isBool w = false)
    (ha : eval orc fuel a ctx = .ok (some (.bool true))) (hb : eval orc fuel b ctx = .ok w) :
    eval orc (fuel + 1) (.call "and" [a, b]) ctx = .ok none := by
  apply eval_basic
  call_simp callBasic [ha, hb, foldArgs]
  rcases w with _ | (_ | (_ | _) | _ | _ | _ | _) <;> simp_all [isBool]

/-- any number of arguments, all `true` -/
theorem and_all_true (args : List Expr) (h : ∀ e ∈ args, eval orc fuel e ctx = .ok (some (.bool true))) :
    eval orc (fuel + 1) (.call "and" args) ctx = .ok (some (.bool true)) := by
  apply eval_basic
  rw [callBasic]
  apply congrArg some
  induction args with
  | nil => rfl
  | cons e es ih =>
    simp only [foldArgs, h e List.mem_cons_self, bind, Except.bind]
    exact ih (fun e' he' => h e' (List.mem_cons_of_mem _ he'))

/-- any number of arguments: `true`s, then a `false` (the rest is not evaluated) -/
theorem and_first_false (pre post : List Expr) (e : Expr)
    (h : ∀ e' ∈ pre, eval orc fuel e' ctx = .ok (some (.bool true)))
    (he : eval orc fuel e ctx = .ok (some (.bool false))) :
    eval orc (fuel + 1) (.call "and" (pre ++ e :: post)) ctx = .ok (some (.bool false)) := by
  apply eval_basic
  rw [callBasic]
  apply congrArg some
  induction pre with
  | nil => simp only [List.nil_append, foldArgs, he, bind, Except.bind, jbool]
  | cons p ps ih =>
    simp only [List.cons_append, foldArgs, h p List.mem_cons_self, bind, Except.bind]
    exact ih (fun e' he' => h e' (List.mem_cons_of_mem _ he'))

/-- `or`: "Return true if any of the arguments are true, nothing if there is a non boolean argument and false if
all the arguments are false." -/
theorem or_bool (a b : Expr) (x y : Bool)
    (ha : eval orc fuel a ctx = .ok (some (.bool x))) (hb : eval orc fuel b ctx = .ok (some (.bool y))) :
    eval orc (fuel + 1) (.call "or" [a, b]) ctx = .ok (some (.bool (x || y))) := by
  apply eval_basic
  call_simp callBasic [ha, hb, foldArgs]
  cases x <;> cases y <;> simp

theorem or_true_left (a b : Expr) (ha : eval orc fuel a ctx = .ok (some (.bool true))) :
    eval orc (fuel + 1) (.call "or" [a, b]) ctx = .ok (some (.bool true)) := by
  apply eval_basic
  call_simp callBasic [ha, foldArgs]

theorem or_non_bool_left (a b : Expr) (v : Option JV) (hv : isBool v = false)
    (ha : eval orc fuel a ctx = .ok v) :
    eval orc (fuel + 1) (.call "or" [a, b]) ctx = .ok none := by
  apply eval_basic
  call_simp callBasic [ha, foldArgs]
  rcases v with _ | (_ | (_ | _) | _ | _ | _ | _) <;> simp_all [isBool]

theorem or_non_bool_right (a b : Expr) (w : Option JV) (hw : isBool w = false)
    (ha : eval orc fuel a ctx = .ok (some (.bool false))) (hb : eval orc fuel b ctx = .ok w) :
    eval orc (fuel + 1) (.call "or" [a, b]) ctx = .ok none := by
  apply eval_basic
  call_simp callBasic [ha, hb, foldArgs]
  rcases w with _ | (_ | (_ | _) | _ | _ | _ | _) <;> simp_all [isBool]

theorem or_all_false (args : List Expr) (h : ∀ e ∈ args, eval orc fuel e ctx = .ok (some (.bool false))) :
    eval orc (fuel + 1) (.call "or" args) ctx = .ok (some (.bool false)) := by
  apply eval_basic
  rw [callBasic]
  apply congrArg some
  induction args with
  | nil => rfl
  | cons e es ih =>
    simp only [foldArgs, h e List.mem_cons_self, bind, Except.bind]
    exact ih (fun e' he' => h e' (List.mem_cons_of_mem _ he'))

theorem or_first_true (pre post : List Expr) (e : Expr)
    (h : ∀ e' ∈ pre, eval orc fuel e' ctx = .ok (some (.bool false)))
    (he : eval orc fuel e ctx = .ok (some (.bool true))) :
    eval orc (fuel + 1) (.call "or" (pre ++ e :: post)) ctx = .ok (some (.bool true)) := by
  apply eval_basic
  rw [callBasic]
  apply congrArg some
  induction pre with
  | nil => simp only [List.nil_append, foldArgs, he, bind, Except.bind, jbool]
  | cons p ps ih =>
    simp only [List.cons_append, foldArgs, h p List.mem_cons_self, bind, Except.bind]
    exact ih (fun e' he' => h e' (List.mem_cons_of_mem _ he'))

/-- `not`: "Return false if the argument is true and true if the argument is false." -/
theorem not_bool (a : Expr) (x : Bool) (ha : eval orc fuel a ctx = .ok (some (.bool x))) :
    eval orc (fuel + 1) (.call "not" [a]) ctx = .ok (some (.bool (!x))) := by
  apply eval_basic
  call_simp callBasic [ha]

theorem not_non_bool (a : Expr) (v : Option JV) (hv : isBool v = false) (ha : eval orc fuel a ctx = .ok v) :
    eval orc (fuel + 1) (.call "not" [a]) ctx = .ok none := by
  apply eval_basic
  call_simp callBasic [ha]
  split
  · cases hv
  · rfl

theorem not_not (a : Expr) (x : Bool) (ha : eval orc fuel a ctx = .ok (some (.bool x))) :
    eval orc (fuel + 2) (.call "not" [.call "not" [a]]) ctx = .ok (some (.bool x)) := by
  rw [not_bool orc (fuel + 1) ctx _ _ (not_bool orc fuel ctx a x ha), Bool.not_not]

/-- `xor`: "Return true if one, and only one, of the argument is true." -/
theorem xor_bool (a b : Expr) (x y : Bool)
    (ha : eval orc fuel a ctx = .ok (some (.bool x))) (hb : eval orc fuel b ctx = .ok (some (.bool y))) :
    eval orc (fuel + 1) (.call "xor" [a, b]) ctx = .ok (some (.bool (x != y))) := by
  apply eval_basic
  call_simp callBasic [ha, hb]

theorem xor_non_bool (a b : Expr) (v w : Option JV) (h : isBool v = false ∨ isBool w = false)
    (ha : eval orc fuel a ctx = .ok v) (hb : eval orc fuel b ctx = .ok w) :
    eval orc (fuel + 1) (.call "xor" [a, b]) ctx = .ok none := by
  apply eval_basic
  call_simp callBasic [ha, hb]
  split
  · rcases h with h | h <;> cases h
  · rfl

/-- De Morgan: `(not (and a b)) = (or (not a) (not b))` on booleans -/
theorem not_and (a b : Expr) (x y : Bool)
    (ha : eval orc fuel a ctx = .ok (some (.bool x))) (hb : eval orc fuel b ctx = .ok (some (.bool y))) :
    eval orc (fuel + 2) (.call "not" [.call "and" [a, b]]) ctx =
      eval orc (fuel + 2) (.call "or" [.call "not" [a], .call "not" [b]]) ctx := by
  rw [not_bool orc (fuel + 1) ctx _ _ (and_bool orc fuel ctx a b x y ha hb),
    or_bool orc (fuel + 1) ctx _ _ _ _ (not_bool orc fuel ctx a x ha) (not_bool orc fuel ctx b y hb), Bool.not_and]

example : eval {} 5 (.call "and" [.const (.bool true), .const (.bool false)]) {} = .ok (some (.bool false)) :=
  and_bool {} 4 {} _ _ true false rfl rfl

example : eval {} 5 (.call "or" [.const (.bool false), .const (.num (.pos 1))]) {} = .ok none :=
  or_non_bool_right {} 4 {} _ _ (some (.num (.pos 1))) rfl rfl rfl

/-- short circuit: `(and false <abort>)` is `false` -/
example : eval {} 5 (.call "and" [.const (.bool false), .call "no-such-function" []]) {} = .ok (some (.bool false)) :=
  and_false_left {} 4 {} _ _ rfl

example : eval {} 5 (.call "xor" [.const (.bool true), .const (.bool true)]) {} = .ok (some (.bool false)) :=
  xor_bool {} 4 {} _ _ true true rfl rfl

/-! ## Comparison and flow -/

/-- `=`: "Compare two value and return true if both are equals." -/
theorem eq_vals (a b : Expr) (x y : JV)
    (ha : eval orc fuel a ctx = .ok (some x)) (hb : eval orc fuel b ctx = .ok (some y)) :
    eval orc (fuel + 1) (.call "=" [a, b]) ctx = .ok (some (.bool (JV.beq x y))) := by
  apply eval_basic
  call_simp callBasic [ha, hb]

theorem neq_vals (a b : Expr) (x y : JV)
    (ha : eval orc fuel a ctx = .ok (some x)) (hb : eval orc fuel b ctx = .ok (some y)) :
    eval orc (fuel + 1) (.call "!=" [a, b]) ctx = .ok (some (.bool (!JV.beq x y))) := by
  apply eval_basic
  call_simp callBasic [ha, hb]

/-- the order comparisons are those of `JV.cmp` (`impl Ord for JsonValue`) -/
theorem lt_vals (a b : Expr) (x y : JV)
    (ha : eval orc fuel a ctx = .ok (some x)) (hb : eval orc fuel b ctx = .ok (some y)) :
    eval orc (fuel + 1) (.call "<" [a, b]) ctx = .ok (some (.bool (JV.cmp x y == .lt))) := by
  apply eval_basic
  call_simp callBasic [ha, hb]

theorem le_vals (a b : Expr) (x y : JV)
    (ha : eval orc fuel a ctx = .ok (some x)) (hb : eval orc fuel b ctx = .ok (some y)) :
    eval orc (fuel + 1) (.call "<=" [a, b]) ctx = .ok (some (.bool (JV.cmp x y != .gt))) := by
  apply eval_basic
  call_simp callBasic [ha, hb]

theorem gt_vals (a b : Expr) (x y : JV)
    (ha : eval orc fuel a ctx = .ok (some x)) (hb : eval orc fuel b ctx = .ok (some y)) :
    eval orc (fuel + 1) (.call ">" [a, b]) ctx = .ok (some (.bool (JV.cmp x y == .gt))) := by
  apply eval_basic
  call_simp callBasic [ha, hb]

theorem ge_vals (a b : Expr) (x y : JV)
    (ha : eval orc fuel a ctx = .ok (some x)) (hb : eval orc fuel b ctx = .ok (some y)) :
    eval orc (fuel + 1) (.call ">=" [a, b]) ctx = .ok (some (.bool (JV.cmp x y != .lt))) := by
  apply eval_basic
  call_simp callBasic [ha, hb]

/-- a comparison with nothing on either side is nothing -/
theorem cmp_nothing (op : String) (hop : op ∈ ["=", "!=", "<", "<=", ">", ">="]) (a b : Expr) (v w : Option JV)
    (h : v = none ∨ w = none)
    (ha : eval orc fuel a ctx = .ok v) (hb : eval orc fuel b ctx = .ok w) :
    eval orc (fuel + 1) (.call op [a, b]) ctx = .ok none := by
  simp only [List.mem_cons, List.not_mem_nil, or_false] at hop
  rcases hop with rfl | rfl | rfl | rfl | rfl | rfl <;>
  · apply eval_basic
    call_simp callBasic [ha, hb]
    rcases h with rfl | rfl
    · rfl
    · cases v <;> rfl

/-- the six comparisons are consistent with one another: `!=` negates `=`, `>=` negates `<`, `<=` negates `>` -/
theorem neq_eq_not_eq (a b : Expr) (x y : JV)
    (ha : eval orc fuel a ctx = .ok (some x)) (hb : eval orc fuel b ctx = .ok (some y)) :
    eval orc (fuel + 2) (.call "not" [.call "=" [a, b]]) ctx = eval orc (fuel + 1) (.call "!=" [a, b]) ctx := by
  rw [not_bool orc (fuel + 1) ctx _ _ (eq_vals orc fuel ctx a b x y ha hb), neq_vals orc fuel ctx a b x y ha hb]

theorem ge_eq_not_lt (a b : Expr) (x y : JV)
    (ha : eval orc fuel a ctx = .ok (some x)) (hb : eval orc fuel b ctx = .ok (some y)) :
    eval orc (fuel + 2) (.call "not" [.call "<" [a, b]]) ctx = eval orc (fuel + 1) (.call ">=" [a, b]) ctx := by
  rw [not_bool orc (fuel + 1) ctx _ _ (lt_vals orc fuel ctx a b x y ha hb), ge_vals orc fuel ctx a b x y ha hb]
  rfl

theorem le_eq_not_gt (a b : Expr) (x y : JV)
    (ha : eval orc fuel a ctx = .ok (some x)) (hb : eval orc fuel b ctx = .ok (some y)) :
    eval orc (fuel + 2) (.call "not" [.call ">" [a, b]]) ctx = eval orc (fuel + 1) (.call "<=" [a, b]) ctx := by
  rw [not_bool orc (fuel + 1) ctx _ _ (gt_vals orc fuel ctx a b x y ha hb), le_vals orc fuel ctx a b x y ha hb]
  rfl

/-- `?` / `if`: "Return the second argument if the first argument is true. Return the third argument if the first
is false. Return nothing if the first argument is not Boolean".  Only the selected branch is evaluated. -/
theorem cond_true (c a b : Expr) (hc : eval orc fuel c ctx = .ok (some (.bool true))) :
    eval orc (fuel + 1) (.call "?" [c, a, b]) ctx = eval orc fuel a ctx := by
  apply eval_basic
  call_simp callBasic [hc]

theorem cond_false (c a b : Expr) (hc : eval orc fuel c ctx = .ok (some (.bool false))) :
    eval orc (fuel + 1) (.call "?" [c, a, b]) ctx = eval orc fuel b ctx := by
  apply eval_basic
  call_simp callBasic [hc]

theorem cond_non_bool (c a b : Expr) (v : Option JV) (hv : isBool v = false) (hc : eval orc fuel c ctx = .ok v) :
    eval orc (fuel + 1) (.call "?" [c, a, b]) ctx = .ok none := by
  apply eval_basic
  call_simp callBasic [hc]
  split
  · cases hv
  · cases hv
  · rfl

/-- without an else branch a false condition gives nothing -/
theorem cond_false_no_else (c a : Expr) (hc : eval orc fuel c ctx = .ok (some (.bool false))) :
    eval orc (fuel + 1) (.call "?" [c, a]) ctx = .ok none := by
  apply eval_basic
  call_simp callBasic [hc]

/-- `default`: "Get the first non empty value." -/
theorem default_nil : eval orc (fuel + 1) (.call "default" []) ctx = .ok none := rfl

theorem default_value (a : Expr) (rest : List Expr) (v : JV) (ha : eval orc fuel a ctx = .ok (some v)) :
    eval orc (fuel + 1) (.call "default" (a :: rest)) ctx = .ok (some v) := by
  apply eval_basic
  call_simp callBasic [ha, foldArgs]

theorem default_nothing (a : Expr) (rest : List Expr) (ha : eval orc fuel a ctx = .ok none) :
    eval orc (fuel + 1) (.call "default" (a :: rest)) ctx = eval orc (fuel + 1) (.call "default" rest) ctx := by
  rw [eval_basic (args := a :: rest) (by rw [callBasic]), eval_basic (args := rest) (by rw [callBasic])]
  simp only [foldArgs, ha, ok_bind]

/-- the general form: nothings, then a value -/
theorem default_first_value (pre post : List Expr) (e : Expr) (v : JV)
    (h : ∀ e' ∈ pre, eval orc fuel e' ctx = .ok none) (he : eval orc fuel e ctx = .ok (some v)) :
    eval orc (fuel + 1) (.call "default" (pre ++ e :: post)) ctx = .ok (some v) := by
  induction pre with
  | nil => exact default_value orc fuel ctx e post v he
  | cons p ps ih =>
    rw [List.cons_append, default_nothing orc fuel ctx p _ (h p List.mem_cons_self)]
    exact ih (fun e' he' => h e' (List.mem_cons_of_mem _ he'))

theorem default_all_nothing (args : List Expr) (h : ∀ e ∈ args, eval orc fuel e ctx = .ok none) :
    eval orc (fuel + 1) (.call "default" args) ctx = .ok none := by
  induction args with
  | nil => rfl
  | cons p ps ih =>
    rw [default_nothing orc fuel ctx p _ (h p List.mem_cons_self)]
    exact ih (fun e' he' => h e' (List.mem_cons_of_mem _ he'))

/-- `empty?` / `nothing?`: "return true if the argument is nothing." -/
theorem empty_nothing (a : Expr) (ha : eval orc fuel a ctx = .ok none) :
    eval orc (fuel + 1) (.call "empty?" [a]) ctx = .ok (some (.bool true)) := by
  apply eval_basic
  call_simp callBasic [ha]

theorem empty_value (a : Expr) (v : JV) (ha : eval orc fuel a ctx = .ok (some v)) :
    eval orc (fuel + 1) (.call "empty?" [a]) ctx = .ok (some (.bool false)) := by
  apply eval_basic
  call_simp callBasic [ha]

/-- the type tests always answer with a boolean (never nothing) -/
theorem type_tests (a : Expr) (v : Option JV) (ha : eval orc fuel a ctx = .ok v) :
    eval orc (fuel + 1) (.call "array?" [a]) ctx = .ok (some (.bool (isArr v))) ∧
    eval orc (fuel + 1) (.call "object?" [a]) ctx = .ok (some (.bool (isObj v))) ∧
    eval orc (fuel + 1) (.call "bool?" [a]) ctx = .ok (some (.bool (isBool v))) ∧
    eval orc (fuel + 1) (.call "string?" [a]) ctx = .ok (some (.bool (strArg v).isSome)) ∧
    eval orc (fuel + 1) (.call "number?" [a]) ctx = .ok (some (.bool (numArg v).isSome)) ∧
    eval orc (fuel + 1) (.call "empty?" [a]) ctx = .ok (some (.bool v.isNone)) := by
  refine ⟨?_, ?_, ?_, ?_, ?_, ?_⟩ <;>
  · apply eval_basic
    call_simp callBasic [ha]
    rcases v with _ | (_ | _ | _ | _ | _ | _) <;> rfl

/-- `|`: "Pipe the output of one function to the next function." -/
theorem pipe_one (a : Expr) : 
    eval orc (fuel + 1) (.call "|" [a]) ctx = eval orc fuel a (ctx.withInput ctx.input) := by
  apply eval_basic
  call_simp callBasic [callBasic.go]
  cases eval orc fuel a (ctx.withInput ctx.input) with
  | error e => rfl
  | ok v => cases v <;> rfl

theorem pipe_two (a b : Expr) (v : JV) (ha : eval orc fuel a (ctx.withInput ctx.input) = .ok (some v)) :
    eval orc (fuel + 1) (.call "|" [a, b]) ctx = eval orc fuel b ((ctx.withInput ctx.input).withInput v) := by
  apply eval_basic
  call_simp callBasic [callBasic.go, ha]
  cases eval orc fuel b ((ctx.withInput ctx.input).withInput v) with
  | error e => rfl
  | ok v => cases v <;> rfl

/-- the pipe stops at the first nothing -/
theorem pipe_nothing (a : Expr) (rest : List Expr) (ha : eval orc fuel a (ctx.withInput ctx.input) = .ok none) :
    eval orc (fuel + 1) (.call "|" (a :: rest)) ctx = .ok none := by
  apply eval_basic
  call_simp callBasic [callBasic.go, ha]

example : eval {} 5 (.call "=" [.const (.num (.pos 1)), .const (.num (.pos 3))]) {} = .ok (some (.bool false)) := by
  rw [eq_vals {} 4 {} _ _ (.num (.pos 1)) (.num (.pos 3)) rfl rfl]; simp [JV.beq, Num.beq]

example : eval {} 5 (.call "?" [.const (.bool true), .const (.num (.pos 1)), .const (.num (.pos 3))]) {}
    = .ok (some (.num (.pos 1))) :=
  cond_true {} 4 {} _ _ _ rfl

example : eval {} 5 (.call "default" [.var "x".toList, .const (.num (.pos 3)), .const .null]) {}
    = .ok (some (.num (.pos 3))) :=
  default_first_value {} 4 {} [.var "x".toList] [.const .null] (.const (.num (.pos 3))) _
    (by intro e he; simp at he; subst he; rfl) rfl

/-! ## `+` -/

/-- `+` on two numbers: the `f64` sum (starting from `0.0`), converted back by `From<f64>`; an overflow is nothing -/
theorem add_nums (a b : Expr) (x y : Num)
    (ha : eval orc fuel a ctx = .ok (some (.num x))) (hb : eval orc fuel b ctx = .ok (some (.num y))) :
    eval orc (fuel + 1) (.call "+" [a, b]) ctx =
      .ok (jnumFinite (F64.add (F64.add F64.zero x.toF64) y.toF64)) := by
  apply eval_number
  call_simp callNumber [ha, hb, foldArgs]

/-- a non-number argument ⇒ nothing -/
theorem add_non_number_left (a b : Expr) (v : Option JV) (hv : numArg v = none)
    (ha : eval orc fuel a ctx = .ok v) :
    eval orc (fuel + 1) (.call "+" [a, b]) ctx = .ok none := by
  apply eval_number
  call_simp callNumber [ha, foldArgs]
  simp only [hv]

theorem add_non_number_right (a b : Expr) (x : Num) (w : Option JV) (hw : numArg w = none)
    (ha : eval orc fuel a ctx = .ok (some (.num x))) (hb : eval orc fuel b ctx = .ok w) :
    eval orc (fuel + 1) (.call "+" [a, b]) ctx = .ok none := by
  apply eval_number
  call_simp callNumber [ha, hb, foldArgs]
  simp only [hw]

/-- when the `f64` sum is finite, integral and in `[0, 2^64-1)` the result of `+` is an integer value -/
theorem add_nums_integral (a b : Expr) (x y : Num) (s : F64)
    (hs : F64.add (F64.add F64.zero x.toF64) y.toF64 = s)
    (hfin : s.isFinite = true) (hfr : s.fractIsZero = true) (h0 : F64.le F64.zero s = true)
    (h1 : F64.lt s (F64.ofNat (2 ^ 64 - 1)) = true)
    (ha : eval orc fuel a ctx = .ok (some (.num x))) (hb : eval orc fuel b ctx = .ok (some (.num y))) :
    eval orc (fuel + 1) (.call "+" [a, b]) ctx = .ok (some (.num (.pos s.toU64))) := by
  rw [add_nums orc fuel ctx a b x y ha hb, hs]
  simp only [jnumFinite, hfin, if_true, jnum, ofF64_pos s hfr h0 h1]

example : eval {} 5 (.call "+" [.const (.num (.pos 2)), .const (.num (.pos 3))]) {} = .ok (some (.num (.pos 5))) := by
  rw [add_nums_integral {} 4 {} _ _ (.pos 2) (.pos 3) _ rfl (by decide +kernel) (by decide +kernel)
    (by decide +kernel) (by decide +kernel) rfl rfl]
  have : (F64.add (F64.add F64.zero (Num.pos 2).toF64) (Num.pos 3).toF64).toU64 = 5 := by decide +kernel
  rw [this]

/-- `(+ a b)` on two non-negative integers whose sum is below `2^53` is the exact integer sum -/
theorem add_pos_pos (a b : Expr) (m n : Nat) (h : m + n < 2 ^ 53)
    (ha : eval orc fuel a ctx = .ok (some (.num (.pos m)))) (hb : eval orc fuel b ctx = .ok (some (.num (.pos n)))) :
    eval orc (fuel + 1) (.call "+" [a, b]) ctx = .ok (some (.num (.pos (m + n)))) := by
  rw [add_nums orc fuel ctx a b _ _ ha hb]
  simp only [Num.toF64]
  rw [zero_add_ofNat m (by omega), add_ofNat m n h, jnumFinite_ofNat_exact _ h]

example : eval {} 5 (.call "+" [.const (.num (.pos 1234567)), .const (.num (.pos 7654321))]) {}
    = .ok (some (.num (.pos 8888888))) :=
  add_pos_pos {} 4 {} _ _ 1234567 7654321 (by decide) rfl rfl

/-! ## Further non-vacuity examples (the hypotheses of the laws are satisfiable by concrete calls) -/

example : eval {} 5 (.call "head" [.const (.str "test-123".toList), .const (.num (.pos 4))]) {}
    = .ok (some (.str "test".toList)) := head_str {} 4 {} _ _ "test-123".toList 4 rfl rfl

example : eval {} 5 (.call "first" [.const (.arr l3)]) {} = .ok (some (.num (.pos 1))) := first_arr {} 4 {} _ l3 rfl

example : eval {} 5 (.call "last" [.const (.arr l3)]) {} = .ok (some .null) := last_arr {} 4 {} _ l3 rfl

example : eval {} 5 (.call "first" [.const (.arr [])]) {} = .ok none := first_arr {} 4 {} _ [] rfl

example : eval {} 5 (.call "pop" [.const (.arr l3)]) {} = .ok (some (.arr [.num (.pos 1), .str "x".toList])) :=
  pop_arr {} 4 {} _ l3 rfl

example : eval {} 5 (.call "pop_first" [.const (.arr l3)]) {} = .ok (some (.arr [.str "x".toList, .null])) :=
  pop_first_arr {} 4 {} _ l3 rfl

example : eval {} 5 (.call "push" [.const (.arr l3), .const (.bool true), .var "unset".toList, .const .null]) {}
    = .ok (some (.arr (l3 ++ [.bool true, .null]))) :=
  push_arr_many {} 4 {} _ _ l3 [some (.bool true), none, some .null] rfl rfl

example : eval {} 5 (.call "push_front" [.const (.arr l3), .const (.bool true), .const .null]) {}
    = .ok (some (.arr (.null :: .bool true :: l3))) :=
  push_front_arr2 {} 4 {} _ _ _ l3 (.bool true) .null rfl rfl rfl

example : eval {} 5 (.call "pop" [.call "push" [.const (.arr l3), .const (.bool true)]]) {} = .ok (some (.arr l3)) :=
  pop_push {} 3 {} _ _ l3 (.bool true) rfl rfl

example : eval {} 5 (.call "take_last" [.const (.obj o2), .const (.num (.pos 1))]) {}
    = .ok (some (.obj [("k2".toList, .bool false)])) := take_last_obj {} 4 {} _ _ o2 1 rfl rfl

example : eval {} 5 (.call "values" [.const (.obj o2)]) {} = .ok (some (.arr [.num (.pos 1), .bool false])) :=
  values_obj {} 4 {} _ o2 rfl

example : eval {} 5 (.call "entries" [.const (.obj o2)]) {} = .ok (some (.arr
    [.obj [("value".toList, .num (.pos 1)), ("key".toList, .str "k1".toList)],
     .obj [("value".toList, .bool false), ("key".toList, .str "k2".toList)]])) :=
  entries_obj {} 4 {} _ o2 rfl

example : eval {} 5 (.call "get" [.call "keys" [.const (.obj o2)], .const (.num (.pos 1))]) {}
    = .ok (some (.str "k2".toList)) := get_keys {} 3 {} _ _ o2 1 rfl rfl

example : eval {} 5 (.call "get" [.const (.obj o2), .const (.str "zz".toList)]) {} = .ok none :=
  get_obj_absent {} 4 {} _ _ o2 "zz".toList (by decide) rfl rfl

/-- `map` drops the items on which the function gives nothing: `(map [[1], 2, [3,4]] (first .))` -/
example : eval {} 5 (.call "map" [.const (.arr [.arr [.null], .bool true, .arr [.bool false, .null]]),
      .call "first" [.extract 0 []]]) {} = .ok (some (.arr [.null, .bool false])) := by
  rw [map_arr {} 4 {} _ _ [.arr [.null], .bool true, .arr [.bool false, .null]]
    (fun v => match v with | .arr l => l.head? | _ => none) rfl
    (by intro v hv; simp at hv; rcases hv with rfl | rfl | rfl <;> rfl)]
  rfl

/-- an abort inside the function is the only way `map` aborts -/
example : eval {} 5 (.call "map" [.const (.arr [.null]), .call "no-such-function" []]) {}
    = .error (.panic "unmodelled-function:no-such-function") :=
  map_arr_error {} 4 {} _ _ [.null] _ rfl (mapM'_cons_error (eval_no_such_function ..))

example : eval {} 5 (.call "and" [.const (.bool true), .const (.bool true), .const (.bool true)]) {}
    = .ok (some (.bool true)) :=
  and_all_true {} 4 {} _ (by intro e he; simp at he; subst he; rfl)

example : eval {} 5 (.call "or" [.const (.bool false), .const (.bool true), .call "no-such-function" []]) {}
    = .ok (some (.bool true)) :=
  or_first_true {} 4 {} [.const (.bool false)] [.call "no-such-function" []] (.const (.bool true))
    (by intro e he; simp at he; subst he; rfl) rfl

example : eval {} 5 (.call "not" [.const (.num (.pos 1))]) {} = .ok none :=
  not_non_bool {} 4 {} _ (some (.num (.pos 1))) rfl rfl

example : eval {} 5 (.call "?" [.const (.bool false), .const (.num (.pos 1)), .const (.num (.pos 3))]) {}
    = .ok (some (.num (.pos 3))) := cond_false {} 4 {} _ _ _ rfl

example : eval {} 5 (.call "?" [.const .null, .const (.num (.pos 1)), .const (.num (.pos 3))]) {} = .ok none :=
  cond_non_bool {} 4 {} _ _ _ (some .null) rfl rfl

example : eval {} 5 (.call "default" [.var "x".toList, .var "y".toList]) {} = .ok none :=
  default_all_nothing {} 4 {} _ (by intro e he; simp at he; rcases he with rfl | rfl <;> rfl)

example : eval {} 5 (.call "<" [.const (.num (.pos 1)), .var "x".toList]) {} = .ok none :=
  cmp_nothing {} 4 {} "<" (by decide) _ _ (some (.num (.pos 1))) none (.inr rfl) rfl rfl

example : eval {} 5 (.call "<" [.const .null, .const (.bool true)]) {} = .ok (some (.bool true)) := by
  rw [lt_vals {} 4 {} _ _ .null (.bool true) rfl rfl]; simp [JV.cmp, JV.rank]; rfl

example : eval {} 5 (.call "|" [.const (.arr l3), .call "size" [.extract 0 []]]) {} = .ok (some (.num (.pos 3))) := by
  rw [pipe_two {} 4 {} _ _ (.arr l3) rfl]; rfl

example : eval {} 5 (.call "+" [.const (.str "1".toList), .const (.num (.pos 3))]) {} = .ok none :=
  add_non_number_left {} 4 {} _ _ (some (.str "1".toList)) rfl rfl

example : ∃ r, eval {} 5 (.call "take" [.const (.num (.pos 50)), .const (.num (.flt (.fin false 3 (-1))))]) {} = .ok r :=
  take_total {} 4 {} _ _ _ _ rfl rfl

example : Num.ofF64 (F64.ofNat 9007199254740991) = .pos 9007199254740991 := ofF64_ofNat _ (by decide)

example : F64.add (F64.ofNat 4503599627370496) (F64.ofNat 4503599627370495) = F64.ofNat 9007199254740991 :=
  add_ofNat _ _ (by decide)

end Jawk.C04

namespace Jawk.EvalLaws
open Jawk

/-! the laws that DESIGN.md names, also under the helpers' namespace -/

variable (orc : Oracles) (fuel : Nat) (ctx : Ctx)

theorem take_last_str (a b : Expr) (s : Str) (n : Nat)
    (ha : eval orc fuel a ctx = .ok (some (.str s))) (hb : eval orc fuel b ctx = .ok (some (.num (.pos n)))) :
    eval orc (fuel + 1) (.call "take_last" [a, b]) ctx = .ok (some (.str (s.drop (s.length - n)))) :=
  C04.take_last_str orc fuel ctx a b s n ha hb

theorem pop_push (a x : Expr) (l : List JV) (v : JV)
    (ha : eval orc fuel a ctx = .ok (some (.arr l))) (hx : eval orc fuel x ctx = .ok (some v)) :
    eval orc (fuel + 2) (.call "pop" [.call "push" [a, x]]) ctx = .ok (some (.arr l)) :=
  C04.pop_push orc fuel ctx a x l v ha hx

theorem join_strs (a b : Expr) (s : Str) (ss : List Str) (sep : Str)
    (ha : eval orc fuel a ctx = .ok (some (.arr ((s :: ss).map JV.str))))
    (hb : eval orc fuel b ctx = .ok (some (.str sep))) :
    eval orc (fuel + 1) (.call "join" [a, b]) ctx = .ok (some (.str (sep.intercalate (s :: ss)))) :=
  C04.join_strs orc fuel ctx a b s ss sep ha hb

theorem map_arr_result (a f : Expr) (l : List JV) (ha : eval orc fuel a ctx = .ok (some (.arr l))) :
    (∃ rs : List (Option JV), rs.length = l.length ∧
        l.map (fun v => eval orc fuel f (ctx.withInput v)) = rs.map .ok ∧
        eval orc (fuel + 1) (.call "map" [a, f]) ctx = .ok (some (.arr (rs.filterMap id))) ∧
        (rs.filterMap id).length ≤ l.length) ∨
    (∃ e, eval orc (fuel + 1) (.call "map" [a, f]) ctx = .error e ∧
        ∃ v ∈ l, eval orc fuel f (ctx.withInput v) = .error e) :=
  C04.map_arr_result orc fuel ctx a f l ha

theorem filter_arr_result (a f : Expr) (l : List JV) (ha : eval orc fuel a ctx = .ok (some (.arr l))) :
    (∃ l' : List JV, eval orc (fuel + 1) (.call "filter" [a, f]) ctx = .ok (some (.arr l')) ∧ l'.Sublist l) ∨
    (∃ e, eval orc (fuel + 1) (.call "filter" [a, f]) ctx = .error e ∧
        ∃ v ∈ l, eval orc fuel f (ctx.withInput v) = .error e) :=
  C04.filter_arr_result orc fuel ctx a f l ha

theorem default_value (a : Expr) (rest : List Expr) (v : JV) (ha : eval orc fuel a ctx = .ok (some v)) :
    eval orc (fuel + 1) (.call "default" (a :: rest)) ctx = .ok (some v) :=
  C04.default_value orc fuel ctx a rest v ha

theorem add_pos_pos (a b : Expr) (m n : Nat) (h : m + n < 2 ^ 53)
    (ha : eval orc fuel a ctx = .ok (some (.num (.pos m)))) (hb : eval orc fuel b ctx = .ok (some (.num (.pos n)))) :
    eval orc (fuel + 1) (.call "+" [a, b]) ctx = .ok (some (.num (.pos (m + n)))) :=
  C04.add_pos_pos orc fuel ctx a b m n h ha hb

end Jawk.EvalLaws

