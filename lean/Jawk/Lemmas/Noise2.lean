/-
  C06, generalised — noise between values: any conforming spelling of the values, garbage may touch them.

  C06 is stated for streams of values PRINTED BY jawk (`utf8 (printJson o v)`) whose gaps start with white space
  (`Noise.stream`; theorems in `NoiseStream`, as the special case of what is proved here).  Here both
  restrictions go:

  * a value comes with ANY of its conforming RFC 8259 texts (`Ser.Ser v text`: any white space inside, any escape
    spelling, any number spelling); the value read is `v` itself (no `norm`, no `Printable`);
  * the garbage of a gap may TOUCH the value before it (`{"a":1}x`, `truex`, `"s"#`, `1x`) whenever this cannot
    change the value's token: always after a string, array, object, `true`, `false`, `null`; after a number text
    exactly when the next byte is not a digit, `.`, `e`, `E` (`Ser.Delimited`).

  The clean twin is the stream with every garbage byte of the gaps REPLACED BY A SPACE (`Gap.blank`): it is always
  well formed (two values never run into each other, a number stays delimited) and has the same length.  The twin
  with the garbage DELETED (`Gap.strip`) is treated too, under the explicit hypothesis that it is well formed
  (`1x2` → `12` is a different stream), with a simple sufficient condition (`SepWs`).

  First the smallest interface the run-level proofs need is isolated (`ReadsAs`, `StopsAt`: what the read loop
  sees in a byte stream) and the run-level theorems are proved once for it; then the new streams are shown to
  satisfy it; then the theorems are instantiated.
-/
import Jawk.Lemmas.Noise
import Jawk.Lemmas.Erase
import Jawk.Lemmas.ParseSer
namespace Jawk.Noise2
open Jawk Jawk.Pipe Jawk.Fuel Jawk.RunSpec Jawk.RT Jawk.C06 Reader Jawk.Noise

/-! ### the interface: what the read loop sees in a byte stream -/

/-- From its start, under any file name and configuration, the byte stream `bs` hands the pipeline the values
`vs` (scalars dropped under `--only-objects-and-arrays`) and holds `n` recoverable errors. -/
structure ReadsAs (bs : List Byte) (vs : List JV) (n : Nat) : Prop where
  rows : ∀ (c : Cfg) (name : Option Str) (i k : Nat),
    (rowsAt c (Reader.ofBytes bs name) i k).map (·.input) = applyOnlyObj c vs
  errs : ∀ name : Option Str, (perrsAt (Reader.ofBytes bs name)).length = n

/-- Read up to the first error of any kind, the byte stream `bs` yields the values `pre`, then stops with
`unexpectedChar … b` if `fb = some b`, without error if `fb = none`. -/
structure StopsAt (bs : List Byte) (pre : List JV) (fb : Option Byte) : Prop where
  rows : ∀ (c : Cfg) (name : Option Str) (i k : Nat),
    (untilAt c (Reader.ofBytes bs name) i k).1.map (·.input) = applyOnlyObj c pre
  err : ∀ (c : Cfg) (name : Option Str) (i k : Nat),
    match fb with
    | none => (untilAt c (Reader.ofBytes bs name) i k).2 = none
    | some b => ∃ loc, (untilAt c (Reader.ofBytes bs name) i k).2 = some (.unexpectedChar loc b valueExpected)

theorem ReadsAs.rows_of {bs : List Byte} {vs : List JV} {n : Nat} (h : ReadsAs bs vs n) (c : Cfg)
    (name : Option Str) (fuel : Nat) (hf : bs.length + 2 ≤ fuel) (i k : Nat) :
    (ctxsOf c fuel (Reader.ofBytes bs name) i k).map (·.input) = applyOnlyObj c vs ∧
    (ctxsOf c fuel (Reader.ofBytes bs name) i k).map posFree = number i k (applyOnlyObj c vs) := by
  have h1 := h.rows c name i k
  rw [← ctxsOf_eq_rowsAt c fuel _ i k (wf_ofBytes _ _) (by rw [μ_ofBytes]; omega)] at h1
  exact ⟨h1, by rw [ctxsOf_posFree, h1]⟩

theorem ReadsAs.perrs_len {bs : List Byte} {vs : List JV} {n : Nat} (h : ReadsAs bs vs n)
    (name : Option Str) (fuel : Nat) (hf : bs.length + 2 ≤ fuel) :
    (perrsOf fuel (Reader.ofBytes bs name)).length = n := by
  have h1 := h.errs name
  rwa [← perrsOf_eq_perrsAt fuel _ (wf_ofBytes _ _) (by rw [μ_ofBytes]; omega)] at h1

/-- the errors the run reports are at most `n`, exactly `n` when the chain never answers `Break` -/
theorem ReadsAs.errs_len {bs : List Byte} {vs : List JV} {n : Nat} (h : ReadsAs bs vs n)
    (ev : Expr → Ctx → Option JV) (c : Cfg) (cfgs : List StageCfg) (sts : List StageSt)
    (name : Option Str) (fuel : Nat) (hf : bs.length + 2 ≤ fuel) (i k : Nat) :
    (errsOf ev c cfgs fuel (Reader.ofBytes bs name) i k sts).length ≤ n ∧
    ((feedBrk (processP ev cfgs) sts (ctxsOf c fuel (Reader.ofBytes bs name) i k)).2.2 = .cont →
      (errsOf ev c cfgs fuel (Reader.ofBytes bs name) i k sts).length = n) := by
  have h1 := h.perrs_len name fuel hf
  refine ⟨?_, fun hc => ?_⟩
  · rw [← h1]
    exact (errsOf_prefix ev c cfgs fuel _ i k sts).length_le
  · rw [errsOf_eq_perrsOf ev c cfgs fuel _ i k sts hc, h1]

/-- a stream without recoverable error: nothing to report -/
theorem ReadsAs.clean {bs : List Byte} {vs : List JV} (h : ReadsAs bs vs 0)
    (ev : Expr → Ctx → Option JV) (c : Cfg) (cfgs : List StageCfg) (sts : List StageSt)
    (name : Option Str) (fuel : Nat) (hf : bs.length + 2 ≤ fuel) (i k : Nat) :
    perrsOf fuel (Reader.ofBytes bs name) = [] ∧
    errsOf ev c cfgs fuel (Reader.ofBytes bs name) i k sts = [] := by
  have h1 := List.eq_nil_of_length_eq_zero (h.perrs_len name fuel hf)
  refine ⟨h1, ?_⟩
  have := errsOf_prefix ev c cfgs fuel (Reader.ofBytes bs name) i k sts
  rw [h1] at this
  exact List.prefix_nil.mp this

/-- Two byte streams that are read as the same values, the second
without error: same values, same ordinals (rows differ in locations only); the first holds `n` recoverable
errors, of which the run reports at most `n` (all of them unless the chain answers `Break`); the second none. -/
theorem readsAs_transparent (ev : Expr → Ctx → Option JV) (c : Cfg) (cfgs : List StageCfg) (sts : List StageSt)
    {bs bs' : List Byte} {vs : List JV} {n : Nat} (hN : ReadsAs bs vs n) (hC : ReadsAs bs' vs 0)
    (name : Option Str) (fuel fuel' : Nat) (hf : bs.length + 2 ≤ fuel) (hf' : bs'.length + 2 ≤ fuel')
    (i k : Nat) :
    let noisy := Reader.ofBytes bs name
    let clean := Reader.ofBytes bs' name
    (ctxsOf c fuel noisy i k).map (·.input) = applyOnlyObj c vs
    ∧ (ctxsOf c fuel' clean i k).map (·.input) = applyOnlyObj c vs
    ∧ (ctxsOf c fuel noisy i k).map posFree = (ctxsOf c fuel' clean i k).map posFree
    ∧ (perrsOf fuel noisy).length = n
    ∧ (errsOf ev c cfgs fuel noisy i k sts).length ≤ n
    ∧ ((feedBrk (processP ev cfgs) sts (ctxsOf c fuel noisy i k)).2.2 = .cont →
        (errsOf ev c cfgs fuel noisy i k sts).length = n)
    ∧ perrsOf fuel' clean = []
    ∧ errsOf ev c cfgs fuel' clean i k sts = [] := by
  intro noisy clean
  have h1 := hN.rows_of c name fuel hf i k
  have h2 := hC.rows_of c name fuel' hf' i k
  have h3 := hN.errs_len ev c cfgs sts name fuel hf i k
  have h4 := hC.clean ev c cfgs sts name fuel' hf' i k
  exact ⟨h1.1, h2.1, by rw [h1.2, h2.2], hN.perrs_len name fuel hf, h3.1, h3.2, h4.1, h4.2⟩

/-- two byte streams read as the same values: their rows differ in line/column only -/
theorem ReadsAs.erase_eq {bs bs' : List Byte} {vs : List JV} {n m : Nat} (hN : ReadsAs bs vs n)
    (hC : ReadsAs bs' vs m) (c : Cfg) (name : Option Str) (fuel fuel' : Nat)
    (hf : bs.length + 2 ≤ fuel) (hf' : bs'.length + 2 ≤ fuel') (i k : Nat) :
    (ctxsOf c fuel (Reader.ofBytes bs name) i k).map erase
      = (ctxsOf c fuel' (Reader.ofBytes bs' name) i k).map erase := by
  rw [ctxsOf_erase, ctxsOf_erase, (hN.rows_of c name fuel hf i k).1, (hC.rows_of c name fuel' hf' i k).1,
    ofBytes_name, ofBytes_name]

/-! #### sources -/

/-- a byte stream as an input source (stdin when `name = none`) -/
def bytesSource (name : Option Str) (bs : List Byte) : Source := ⟨name, cleanInput bs⟩

theorem bytesSource_reader (name : Option Str) (bs : List Byte) :
    Reader.ofItems (bytesSource name bs).items (bytesSource name bs).name = Reader.ofBytes bs name := rfl

theorem bytesSource_fuel (name : Option Str) (bs : List Byte) :
    (bytesSource name bs).items.length + 2 = bs.length + 2 := by
  simp [bytesSource, cleanInput]

/-- a noisy byte stream with its clean twin, read under the same name -/
structure Twin where
  name : Option Str := none
  noisy : List Byte
  clean : List Byte

/-- both streams are read as the same values; the clean one holds no error -/
def Twin.OK (t : Twin) : Prop := ∃ vs n, ReadsAs t.noisy vs n ∧ ReadsAs t.clean vs 0

def Twin.noisySrc (t : Twin) : Source := bytesSource t.name t.noisy
def Twin.cleanSrc (t : Twin) : Source := bytesSource t.name t.clean

/-- the source is a byte stream without recoverable error -/
def CleanSrc (s : Source) : Prop := ∃ name bs vs, s = bytesSource name bs ∧ ReadsAs bs vs 0

theorem cleanIO_noisy (ts : List Twin) : CleanIO (ts.map Twin.noisySrc) :=
  cleanIO_streams _ (by
    intro s hs
    obtain ⟨x, _, rfl⟩ := List.mem_map.mp hs
    exact ⟨_, rfl⟩)

theorem cleanIO_cleanSrc (srcs : List Source) (h : ∀ s ∈ srcs, CleanSrc s) : CleanIO srcs :=
  cleanIO_streams _ (by
    intro s hs
    obtain ⟨name, bs, vs, rfl, _⟩ := h s hs
    exact ⟨_, rfl⟩)

theorem noErrors_cleanSrc (srcs : List Source) (h : ∀ s ∈ srcs, CleanSrc s) : NoErrors srcs := by
  intro s hs
  obtain ⟨name, bs, vs, rfl, hr⟩ := h s hs
  rw [bytesSource_reader, bytesSource_fuel]
  exact List.eq_nil_of_length_eq_zero (hr.perrs_len name _ (Nat.le_refl _))

theorem Twin.cleanSrc_clean {t : Twin} (h : t.OK) : CleanSrc t.cleanSrc := by
  obtain ⟨vs, n, _, hC⟩ := h
  exact ⟨t.name, t.clean, vs, rfl, hC⟩

theorem cleanSrcs_twins (ts : List Twin) (hok : ∀ t ∈ ts, t.OK) : ∀ s ∈ ts.map Twin.cleanSrc, CleanSrc s := by
  intro s hs
  obtain ⟨t, ht, rfl⟩ := List.mem_map.mp hs
  exact Twin.cleanSrc_clean (hok t ht)

/-- the rows of noisy inputs and of their clean twins differ in line/column only -/
theorem ctxsOfSources_erase_twins (c : Cfg) (ts : List Twin) (hok : ∀ t ∈ ts, t.OK) (k : Nat) :
    (ctxsOfSources c (ts.map Twin.noisySrc) k).map erase
      = (ctxsOfSources c (ts.map Twin.cleanSrc) k).map erase := by
  induction ts generalizing k with
  | nil => rfl
  | cons t rest ih =>
    obtain ⟨vs, n, hN, hC⟩ := hok t (by simp)
    have h1 := hN.erase_eq hC c t.name (t.noisy.length + 2) (t.clean.length + 2)
      (Nat.le_refl _) (Nat.le_refl _) 0 k
    have hlen := congrArg List.length h1
    simp only [List.length_map] at hlen
    simp only [List.map_cons, ctxsOfSources, Twin.noisySrc, Twin.cleanSrc, bytesSource_reader,
      bytesSource_fuel, List.map_append]
    rw [h1, hlen]
    congr 1
    exact ih (fun x hx => hok x (by simp [hx])) _

/-- No report for streams without error.  Under every policy the run
succeeds, standard output is the header and the rows, standard error is untouched. -/
theorem cleanSrc_no_reports (orc : Oracles) (c : Cfg) (srcs : List Source) (wOut wErr : Writer) (p : Pipeline)
    (hcs : ∀ s ∈ srcs, CleanSrc s)
    (hb : build orc c = .ok p) (hna : NoAbort orc p.cfgs) (hw : Unbounded wOut)
    (he : c.onError = .stderr → Unbounded wErr) (hh : ¬ HeaderMissing p) :
    errsOfSources (evalT orc) c p.cfgs srcs 0 p.sts = []
    ∧ (run orc c srcs wOut wErr).result = .ok ()
    ∧ (run orc c srcs wOut wErr).stdout
        = wOut.out ++ headerBytes p ++
          (specRows (evalT orc) p.cfgs p.sts (ctxsOfSources c srcs 0)).flatMap (sinkBytes p.sink p.sinkLen)
    ∧ (run orc c srcs wOut wErr).stderr = wErr.out :=
  no_errors_no_reports orc c srcs wOut wErr p hb hna hw he (cleanIO_cleanSrc srcs hcs)
    (noErrors_cleanSrc srcs hcs) hh

/-- `ignore`, interface form: noisy and clean runs succeed and write the same bytes -/
theorem twins_ignore_same_output (orc : Oracles) (c : Cfg) (ts : List Twin) (wOut wErr : Writer)
    (p : Pipeline) (hok : ∀ t ∈ ts, t.OK) (hpol : c.onError = .ignore) (hb : build orc c = .ok p)
    (hna : NoAbort orc p.cfgs) (hpi : ChainPosIndep (evalT orc) p.cfgs) (hw : Unbounded wOut)
    (hh : ¬ HeaderMissing p) :
    (run orc c (ts.map Twin.noisySrc) wOut wErr).result = .ok ()
    ∧ (run orc c (ts.map Twin.cleanSrc) wOut wErr).result = .ok ()
    ∧ (run orc c (ts.map Twin.noisySrc) wOut wErr).stdout = (run orc c (ts.map Twin.cleanSrc) wOut wErr).stdout
    ∧ (run orc c (ts.map Twin.noisySrc) wOut wErr).stderr = wErr.out
    ∧ (run orc c (ts.map Twin.cleanSrc) wOut wErr).stderr = wErr.out := by
  obtain ⟨n1, n2, n3⟩ := run_ignore_spec orc c _ wOut wErr p hpol hb hna hw (cleanIO_noisy ts) hh
  obtain ⟨c1, c2, c3⟩ := run_ignore_spec orc c _ wOut wErr p hpol hb hna hw
    (cleanIO_cleanSrc _ (cleanSrcs_twins ts hok)) hh
  refine ⟨n1, c1, ?_, n3, c3⟩
  rw [n2, c2, specRows_congr_input (evalT orc) p.cfgs p.sts p.sink p.sinkLen hpi _ _
    (ctxsOfSources_rowsOK _ _ _) (ctxsOfSources_rowsOK _ _ _) (ctxsOfSources_erase_twins c ts hok 0)]

/-- `stderr`, interface form: same standard output; the reports go to standard error and nowhere else -/
theorem twins_stderr_same_output (orc : Oracles) (c : Cfg) (ts : List Twin) (wOut wErr : Writer)
    (p : Pipeline) (hok : ∀ t ∈ ts, t.OK) (hpol : c.onError = .stderr) (hb : build orc c = .ok p)
    (hna : NoAbort orc p.cfgs) (hpi : ChainPosIndep (evalT orc) p.cfgs) (hw : Unbounded wOut)
    (he : Unbounded wErr) (hh : ¬ HeaderMissing p) :
    (run orc c (ts.map Twin.noisySrc) wOut wErr).result = .ok ()
    ∧ (run orc c (ts.map Twin.cleanSrc) wOut wErr).result = .ok ()
    ∧ (run orc c (ts.map Twin.noisySrc) wOut wErr).stdout = (run orc c (ts.map Twin.cleanSrc) wOut wErr).stdout
    ∧ (run orc c (ts.map Twin.noisySrc) wOut wErr).stderr
        = wErr.out ++ (errsOfSources (evalT orc) c p.cfgs (ts.map Twin.noisySrc) 0 p.sts).flatMap reportBytes
    ∧ (run orc c (ts.map Twin.cleanSrc) wOut wErr).stderr = wErr.out := by
  obtain ⟨n1, n2, n3⟩ := policy_stderr_same_rows orc c _ wOut wErr p hpol hb hna hw he (cleanIO_noisy ts) hh
  obtain ⟨_, c1, c2, c3⟩ := cleanSrc_no_reports orc c _ wOut wErr p (cleanSrcs_twins ts hok)
    hb hna hw (fun _ => he) hh
  refine ⟨n1, c1, ?_, n3, c3⟩
  rw [n2, c2, specRows_congr_input (evalT orc) p.cfgs p.sts p.sink p.sinkLen hpi _ _
    (ctxsOfSources_rowsOK _ _ _) (ctxsOfSources_rowsOK _ _ _) (ctxsOfSources_erase_twins c ts hok 0)]

/-- `stdout`, interface form: with the report chunks removed the output is that of the clean run -/
theorem twins_stdout_same_rows (orc : Oracles) (c : Cfg) (ts : List Twin) (wOut wErr : Writer)
    (p : Pipeline) (hok : ∀ t ∈ ts, t.OK) (hpol : c.onError = .stdout) (hb : build orc c = .ok p)
    (hna : NoAbort orc p.cfgs) (hpi : ChainPosIndep (evalT orc) p.cfgs) (hw : Unbounded wOut)
    (hh : ¬ HeaderMissing p) :
    ∃ ch : Chunks,
      (run orc c (ts.map Twin.noisySrc) wOut wErr).result = .ok ()
      ∧ (run orc c (ts.map Twin.cleanSrc) wOut wErr).result = .ok ()
      ∧ (run orc c (ts.map Twin.noisySrc) wOut wErr).stdout = wOut.out ++ headerBytes p ++ ch.bytes
      ∧ (run orc c (ts.map Twin.cleanSrc) wOut wErr).stdout = wOut.out ++ headerBytes p ++ ch.rowPart
      ∧ ch.reports = (errsOfSources (evalT orc) c p.cfgs (ts.map Twin.noisySrc) 0 p.sts).map reportBytes
      ∧ (run orc c (ts.map Twin.noisySrc) wOut wErr).stderr = wErr.out
      ∧ (run orc c (ts.map Twin.cleanSrc) wOut wErr).stderr = wErr.out := by
  obtain ⟨ch, n1, n2, n3, n4, n5⟩ := RunSpec.policy_stdout orc c _ wOut wErr p hpol hb hna hw
    (cleanIO_noisy ts) hh
  obtain ⟨_, c1, c2, c3⟩ := cleanSrc_no_reports orc c _ wOut wErr p (cleanSrcs_twins ts hok)
    hb hna hw (fun h => by rw [hpol] at h; cases h) hh
  refine ⟨ch, n1, c1, n2, ?_, n4, n5, c3⟩
  rw [c2, n3, specRows_congr_input (evalT orc) p.cfgs p.sts p.sink p.sinkLen hpi _ _
    (ctxsOfSources_rowsOK _ _ _) (ctxsOfSources_rowsOK _ _ _) (ctxsOfSources_erase_twins c ts hok 0)]

/-- the rows of a run over one byte stream -/
theorem ctxsOfSources_bytes (c : Cfg) (name : Option Str) (bs : List Byte) (k : Nat) :
    ctxsOfSources c [bytesSource name bs] k = ctxsOf c (bs.length + 2) (Reader.ofBytes bs name) 0 k := by
  simp only [ctxsOfSources, bytesSource_reader, bytesSource_fuel, List.append_nil]

/-- default configuration, interface form: one one-line JSON row per value read, nothing else -/
theorem readsAs_default_output (orc : Oracles) {bs : List Byte} {vs : List JV} {n : Nat} (h : ReadsAs bs vs n)
    (name : Option Str) (wOut wErr : Writer) (hw : Unbounded wOut) :
    (run orc {} [bytesSource name bs] wOut wErr).result = .ok ()
    ∧ (run orc {} [bytesSource name bs] wOut wErr).stdout
        = wOut.out ++ vs.flatMap (fun v => utf8 (printJson {} v) ++ [10])
    ∧ (run orc {} [bytesSource name bs] wOut wErr).stderr = wErr.out := by
  have hcl : CleanIO [bytesSource name bs] := cleanIO_streams _ (by
    intro s hs; simp only [List.mem_singleton] at hs; subst hs; exact ⟨_, rfl⟩)
  obtain ⟨n1, n2, n3⟩ := default_rows orc [bytesSource name bs] wOut wErr hw hcl
  have hN := (h.rows_of {} name _ (Nat.le_refl _) 0 0).1
  rw [applyOnlyObj_off _ rfl] at hN
  refine ⟨n1, ?_, n3⟩
  rw [n2, ctxsOfSources_bytes, flatMap_input (fun v => utf8 (printJson {} v) ++ [10]), hN]

/-- `panic`, interface form: the run over one byte stream fails at its first error `unexpectedChar … b` (unless
the chain answered `Break` first), having been fed the rows of the values `pre` that precede it -/
theorem run_panic_stopsAt (orc : Oracles) (c : Cfg) (name : Option Str) {bs : List Byte} {vals : List JV}
    {fb : Option Byte} (hst : StopsAt bs vals fb) (wOut wErr : Writer) (p : Pipeline)
    (hpol : c.onError = .panic) (hb : build orc c = .ok p)
    (hna : NoAbort orc p.cfgs) (hw : Unbounded wOut) (hh : ¬ HeaderMissing p) :
    ∃ pre : List Ctx,
      pre.map (·.input) = applyOnlyObj c vals ∧
      (∀ b, fb = some b →
          (feedBrk (processP (evalT orc) p.cfgs) p.sts pre).2.2 = .cont →
        ∃ loc,
          (run orc c [bytesSource name bs] wOut wErr).result
            = .error (.json (.unexpectedChar loc b valueExpected))
          ∧ (run orc c [bytesSource name bs] wOut wErr).stdout
              = wOut.out ++ headerBytes p ++
                (feedBrk (processP (evalT orc) p.cfgs) p.sts pre).2.1.flatMap (sinkBytes p.sink p.sinkLen)
          ∧ (Streaming p.cfgs →
              (run orc c [bytesSource name bs] wOut wErr).stdout
                = wOut.out ++ headerBytes p ++
                  (specRows (evalT orc) p.cfgs p.sts pre).flatMap (sinkBytes p.sink p.sinkLen))
          ∧ (run orc c [bytesSource name bs] wOut wErr).stderr = wErr.out) ∧
      ((fb = none ∨ (feedBrk (processP (evalT orc) p.cfgs) p.sts pre).2.2 = .brk) →
        (run orc c [bytesSource name bs] wOut wErr).result = .ok ()
        ∧ (run orc c [bytesSource name bs] wOut wErr).stdout
            = wOut.out ++ headerBytes p ++
              (specRows (evalT orc) p.cfgs p.sts pre).flatMap (sinkBytes p.sink p.sinkLen)
        ∧ (run orc c [bytesSource name bs] wOut wErr).stderr = wErr.out) := by
  obtain ⟨hE, hO⟩ := run_panic_spec orc c [bytesSource name bs] wOut wErr p hpol hb hna hw hh
  obtain ⟨e1, e2⟩ := ctxsUntilErrorSources_single c (bytesSource name bs) 0
  rw [bytesSource_reader, bytesSource_fuel,
    ctxsUntilError_eq_untilAt c _ _ 0 0 (wf_ofBytes _ _) (by rw [μ_ofBytes]; omega)] at e1 e2
  have u1 := hst.rows c name 0 0
  have u2 := hst.err c name 0 0
  rw [e1] at hE hO
  rw [e2] at hE hO
  refine ⟨_, u1, ?_, ?_⟩
  · intro b hb' hc
    subst hb'
    obtain ⟨loc, hloc⟩ := u2
    exact ⟨loc, hE _ hloc hc⟩
  · rintro (hnone | hbrk)
    · subst hnone
      exact hO (.inl u2)
    · exact hO (.inr hbrk)

/-! ### noisy streams of conforming texts -/

/-- a value with one of its conforming texts, and the gap that follows it -/
structure Item where
  v : JV
  text : List Byte
  gap : Gap := {}

/-- the bytes of the stream: first gap, then every text followed by its gap -/
def stream2 (g0 : Gap) (items : List Item) : List Byte :=
  g0.bytes ++ items.flatMap (fun x => x.text ++ x.gap.bytes)

/-- every text is a conforming text of its value, every gap is well formed, and what follows a text — garbage
included, which may touch it — does not extend a number text (`Ser.Delimited`: after a number text no digit, `.`,
`e`, `E`; no condition after any other value) -/
def ItemsOK2 : List Item → Prop
  | [] => True
  | x :: rest => Ser.Ser x.v x.text ∧ x.gap.OK ∧ Ser.Delimited x.v (stream2 x.gap rest) ∧ ItemsOK2 rest

/-- the gap with every garbage byte replaced by a space -/
def _root_.Jawk.Noise.Gap.blank (g : Gap) : Gap :=
  { ws := g.ws ++ g.toks.flatMap (fun t => t.1.map (fun _ => (32 : Byte)) ++ t.2), toks := [] }

def Item.blank (x : Item) : Item := { x with gap := x.gap.blank }
def Item.strip (x : Item) : Item := { x with gap := x.gap.strip }

/-- the clean twin: same values, same texts, every garbage byte of the gaps replaced by a space -/
def blankItems (items : List Item) : List Item := items.map Item.blank

/-- the other clean twin: same values, same texts, the garbage bytes of the gaps deleted -/
def stripItems2 (items : List Item) : List Item := items.map Item.strip

/-- total number of garbage bytes -/
def garbageCount2 (g0 : Gap) (items : List Item) : Nat :=
  g0.garbage + (items.map (fun x => x.gap.garbage)).sum

/-- number of gaps that contain garbage (the "malformed regions") -/
def noisyGaps2 (g0 : Gap) (items : List Item) : Nat :=
  ((g0 :: items.map (·.gap)).filter (fun g => !g.toks.isEmpty)).length

/-- the values that precede the first gap containing garbage -/
def cleanPrefix2 (g0 : Gap) : List Item → List JV
  | [] => []
  | x :: rest => if g0.toks.isEmpty then x.v :: cleanPrefix2 x.gap rest else []

/-- the first garbage byte of the stream -/
def firstGarbage2 (g0 : Gap) : List Item → Option Byte
  | [] => g0.toks.head?.bind (·.1.head?)
  | x :: rest =>
    match g0.toks with
    | t :: _ => t.1.head?
    | [] => firstGarbage2 x.gap rest

theorem stream2_cons (g0 : Gap) (x : Item) (rest : List Item) :
    stream2 g0 (x :: rest) = g0.bytes ++ (x.text ++ stream2 x.gap rest) := by
  simp [stream2, List.append_assoc]

theorem ItemsOK2.gaps {items : List Item} (h : ItemsOK2 items) : ∀ x ∈ items, x.gap.OK := by
  induction items with
  | nil => intro x hx; cases hx
  | cons y rest ih =>
    obtain ⟨_, hg, _, hrest⟩ := h
    intro x hx
    rcases List.mem_cons.mp hx with rfl | hx
    · exact hg
    · exact ih hrest x hx

/-- every malformed region holds at least one garbage byte -/
theorem noisyGaps2_le (g0 : Gap) (items : List Item) (h0 : g0.OK) (h : ItemsOK2 items) :
    noisyGaps2 g0 items ≤ garbageCount2 g0 items := by
  have key : ∀ (gs : List Gap), (∀ g ∈ gs, g.OK) →
      (gs.filter (fun g => !g.toks.isEmpty)).length ≤ (gs.map Gap.garbage).sum := by
    intro gs hgs
    induction gs with
    | nil => simp
    | cons g gs ih =>
      have ih' := ih (fun x hx => hgs x (by simp [hx]))
      simp only [List.filter_cons, List.map_cons, List.sum_cons]
      cases hne : g.toks.isEmpty with
      | true => simp only [Bool.not_true, Bool.false_eq_true, if_false]; omega
      | false =>
        have := Gap.garbage_pos (hgs g (by simp)) hne
        simp only [Bool.not_false, if_true, List.length_cons]
        omega
  have := key (g0 :: items.map (·.gap)) (by
    intro g hg
    rcases List.mem_cons.mp hg with rfl | hg
    · exact h0
    · obtain ⟨x, hx, rfl⟩ := List.mem_map.mp hg
      exact h.gaps x hx)
  simpa [noisyGaps2, garbageCount2, List.map_map, Function.comp_def] using this

theorem ws_of_isWs {w : List Byte} (h : ∀ b ∈ w, isWs b = true) : Ser.Ws w :=
  fun b hb => Ser.IsWs_of_isWs (h b hb)

/-- The values read from a noisy stream of conforming texts are the values of its items —
exactly, whatever their spelling —, scalars dropped under `--only-objects-and-arrays`; the recoverable errors met
are as many as the garbage bytes.  From any reader standing before the stream (after any white space `w`). -/
theorem stream_read2 (c : Cfg) (items : List Item) (hit : ItemsOK2 items)
    (g0 : Gap) (h0 : g0.OK) (w : List Byte) (hw : ∀ b ∈ w, isWs b = true) (r : Reader)
    (hr : Ready r (w ++ stream2 g0 items)) (i k : Nat) :
    (rowsAt c r i k).map (·.input) = applyOnlyObj c (items.map (·.v)) ∧
    (perrsAt r).length = garbageCount2 g0 items := by
  induction items generalizing g0 w r i k with
  | nil =>
    obtain ⟨es, r1, w', hs, hlen, hw', hr1⟩ := gap_skips g0 h0 w hw [] r (by simpa [stream2] using hr)
    obtain ⟨r2, hend, _⟩ := nextJson_end w' hw' r1 (by simpa using hr1)
    have hwf := ready_wf hr
    rw [hs.rowsAt c hwf, hs.perrsAt hwf, rowsAt_end c i k hend, perrsAt_end hend]
    exact ⟨rfl, by simp [hlen, garbageCount2]⟩
  | cons x rest ih =>
    obtain ⟨hv, hg, hd, hrest⟩ := hit
    rw [stream2_cons] at hr
    obtain ⟨es, r1, w', hs, hlen, hw', hr1⟩ := gap_skips g0 h0 w hw _ r hr
    obtain ⟨r2, hval, hr2⟩ := Ser.nextJson_ser hv (stream2 x.gap rest) hd w' (ws_of_isWs hw') r1
      (by simpa [List.append_assoc] using hr1)
    have hwf := ready_wf hr
    have hwf1 := ready_wf hr1
    have hr2' : Ready r2 ([] ++ stream2 x.gap rest) := by simpa using hr2
    rw [hs.rowsAt c hwf, hs.perrsAt hwf, rowsAt_value c i k hwf1 hval, perrsAt_value hwf1 hval]
    constructor
    · simp only [applyOnlyObj, List.map_cons, List.filter_cons]
      cases hb : (c.onlyObjectsAndArrays && !x.v.isObjOrArr) with
      | true =>
        simp only [if_true, Bool.not_true, Bool.false_eq_true, if_false]
        exact (ih hrest x.gap hg [] (by simp) r2 hr2' i k).1
      | false =>
        simp only [Bool.false_eq_true, if_false, Bool.not_false, if_true, List.map_cons]
        rw [(ih hrest x.gap hg [] (by simp) r2 hr2' (i + 1) (k + 1)).1]
        rfl
    · rw [List.length_append, hlen, (ih hrest x.gap hg [] (by simp) r2 hr2' i k).2]
      simp only [garbageCount2, List.map_cons, List.sum_cons]

/-- the noisy stream satisfies the interface -/
theorem readsAs_stream2 (g0 : Gap) (items : List Item) (h0 : g0.OK) (hit : ItemsOK2 items) :
    ReadsAs (stream2 g0 items) (items.map (·.v)) (garbageCount2 g0 items) := by
  have hr : ∀ name, Ready (Reader.ofBytes (stream2 g0 items) name) ([] ++ stream2 g0 items) := by
    intro name
    simpa using ready_ofBytes _ name
  exact ⟨fun c name i k => (stream_read2 c items hit g0 h0 [] (by simp) _ (hr name) i k).1,
    fun name => (stream_read2 {} items hit g0 h0 [] (by simp) _ (hr name) 0 0).2⟩

/-- reading a noisy stream up to its first error: the values before the first gap that holds garbage, then the
`unexpectedChar` error for the first garbage byte (none for a clean stream) -/
theorem stream_until2 (c : Cfg) (items : List Item) (hit : ItemsOK2 items)
    (g0 : Gap) (h0 : g0.OK) (w : List Byte) (hw : ∀ b ∈ w, isWs b = true) (r : Reader)
    (hr : Ready r (w ++ stream2 g0 items)) (i k : Nat) :
    (untilAt c r i k).1.map (·.input) = applyOnlyObj c (cleanPrefix2 g0 items) ∧
    (match firstGarbage2 g0 items with
      | none => (untilAt c r i k).2 = none
      | some b => ∃ loc, (untilAt c r i k).2 = some (.unexpectedChar loc b valueExpected)) := by
  induction items generalizing g0 w r i k with
  | nil =>
    obtain ⟨ws0, toks0⟩ := g0
    cases toks0 with
    | nil =>
      obtain ⟨r2, hend, _⟩ := nextJson_end (w ++ ws0) (ws_append hw h0.1) r
        (by simpa [stream2, Gap.bytes, toksBytes] using hr)
      rw [untilAt_end c i k hend]
      exact ⟨rfl, rfl⟩
    | cons t toks =>
      obtain ⟨hne, hg, _⟩ := h0.2 t (by simp)
      obtain ⟨t1, t2⟩ := t
      cases t1 with
      | nil => exact absurd rfl hne
      | cons b bs =>
        obtain ⟨r1, h1, _⟩ := garbage_one (w ++ ws0) (ws_append hw h0.1) b (hg b (by simp))
          (bs ++ (t2 ++ (toksBytes toks ++ []))) r
          (by simpa [stream2, Gap.bytes, toksBytes, List.append_assoc] using hr)
        rw [untilAt_error c i k h1]
        exact ⟨rfl, _, rfl⟩
  | cons x rest ih =>
    obtain ⟨hv, hg, hd, hrest⟩ := hit
    rw [stream2_cons] at hr
    obtain ⟨ws0, toks0⟩ := g0
    cases toks0 with
    | nil =>
      have hr1 : Ready r ((w ++ ws0) ++ x.text ++ stream2 x.gap rest) := by
        simpa [Gap.bytes, toksBytes, List.append_assoc] using hr
      obtain ⟨r2, hval, hr2⟩ := Ser.nextJson_ser hv (stream2 x.gap rest) hd (w ++ ws0)
        (ws_of_isWs (ws_append hw h0.1)) r hr1
      have hr2' : Ready r2 ([] ++ stream2 x.gap rest) := by simpa using hr2
      rw [untilAt_value c i k (ready_wf hr) hval]
      simp only [cleanPrefix2, firstGarbage2, List.isEmpty_nil, if_true, applyOnlyObj,
        List.filter_cons]
      cases hb : (c.onlyObjectsAndArrays && !x.v.isObjOrArr) with
      | true =>
        simp only [if_true, Bool.not_true, Bool.false_eq_true, if_false]
        exact ih hrest x.gap hg [] (by simp) r2 hr2' i k
      | false =>
        simp only [Bool.false_eq_true, if_false, Bool.not_false, if_true, List.map_cons]
        obtain ⟨ih1, ih2⟩ := ih hrest x.gap hg [] (by simp) r2 hr2' (i + 1) (k + 1)
        refine ⟨?_, ih2⟩
        rw [ih1]
        rfl
    | cons t toks =>
      obtain ⟨hne, hgb, _⟩ := h0.2 t (by simp)
      obtain ⟨t1, t2⟩ := t
      cases t1 with
      | nil => exact absurd rfl hne
      | cons b bs =>
        obtain ⟨r1, h1, _⟩ := garbage_one (w ++ ws0) (ws_append hw h0.1) b (hgb b (by simp))
          (bs ++ (t2 ++ (toksBytes toks ++ (x.text ++ stream2 x.gap rest)))) r
          (by simpa [Gap.bytes, toksBytes, List.append_assoc] using hr)
        rw [untilAt_error c i k h1]
        exact ⟨rfl, _, rfl⟩

theorem stopsAt_stream2 (g0 : Gap) (items : List Item) (h0 : g0.OK) (hit : ItemsOK2 items) :
    StopsAt (stream2 g0 items) (cleanPrefix2 g0 items) (firstGarbage2 g0 items) := by
  have hr : ∀ name, Ready (Reader.ofBytes (stream2 g0 items) name) ([] ++ stream2 g0 items) := by
    intro name
    simpa using ready_ofBytes _ name
  exact ⟨fun c name i k => (stream_until2 c items hit g0 h0 [] (by simp) _ (hr name) i k).1,
    fun c name i k => (stream_until2 c items hit g0 h0 [] (by simp) _ (hr name) i k).2⟩

/-! #### the clean twins -/

theorem Gap.blank_OK {g : Gap} (h : g.OK) : g.blank.OK := by
  refine ⟨?_, fun t ht => by cases ht⟩
  intro b hb
  simp only [Gap.blank, List.mem_append, List.mem_flatMap, List.mem_map] at hb
  rcases hb with hb | ⟨t, ht, ⟨_, _, rfl⟩ | hb⟩
  · exact h.1 b hb
  · rfl
  · exact (h.2 t ht).2.2 b hb

theorem Gap.blank_garbage (g : Gap) : g.blank.garbage = 0 := rfl

/-- blanking keeps every byte in place: the gap has the same length -/
theorem Gap.blank_length (g : Gap) : g.blank.bytes.length = g.bytes.length := by
  obtain ⟨ws, toks⟩ := g
  simp only [Gap.blank, Gap.bytes, toksBytes, List.flatMap_nil, List.append_nil, List.length_append]
  congr 1
  induction toks with
  | nil => rfl
  | cons t toks ih => simp [ih]

theorem blankItems_values (items : List Item) : (blankItems items).map (·.v) = items.map (·.v) := by
  simp [blankItems, Item.blank, Function.comp_def]

theorem stripItems2_values (items : List Item) : (stripItems2 items).map (·.v) = items.map (·.v) := by
  simp [stripItems2, Item.strip, Function.comp_def]

theorem garbageCount2_blank (g0 : Gap) (items : List Item) :
    garbageCount2 g0.blank (blankItems items) = 0 := by
  simp only [garbageCount2, Gap.blank_garbage, blankItems, List.map_map, Nat.zero_add]
  induction items with
  | nil => rfl
  | cons x rest ih => simpa [Item.blank, Gap.blank_garbage] using ih

theorem garbageCount2_strip (g0 : Gap) (items : List Item) :
    garbageCount2 g0.strip (stripItems2 items) = 0 := by
  simp only [garbageCount2, Gap.strip_garbage, stripItems2, List.map_map, Nat.zero_add]
  induction items with
  | nil => rfl
  | cons x rest ih => simpa [Item.strip, Gap.strip_garbage] using ih

/-- the blanked stream has the length of the noisy one -/
theorem stream2_blank_length (g0 : Gap) (items : List Item) :
    (stream2 g0.blank (blankItems items)).length = (stream2 g0 items).length := by
  induction items generalizing g0 with
  | nil => simp [stream2, blankItems, Gap.blank_length]
  | cons x rest ih =>
    have := ih x.gap
    simp only [blankItems] at this
    simp only [blankItems, List.map_cons, stream2_cons, List.length_append, Gap.blank_length, Item.blank, this]

/-- the first byte of a blanked stream is a space or the first byte of the noisy stream -/
theorem head_blank (g : Gap) (hg : g.OK) (rest : List Item) (hrest : ItemsOK2 rest) :
    ∀ b ∈ (stream2 g.blank (blankItems rest)).head?, b = 32 ∨ b ∈ (stream2 g rest).head? := by
  obtain ⟨ws, toks⟩ := g
  cases ws with
  | cons a ws =>
    intro b hb
    right
    simpa [stream2, Gap.blank, Gap.bytes] using hb
  | nil =>
    cases toks with
    | cons t toks =>
      obtain ⟨hne, _, _⟩ := hg.2 t (by simp)
      obtain ⟨t1, t2⟩ := t
      cases t1 with
      | nil => exact absurd rfl hne
      | cons a t1 =>
        intro b hb
        left
        simpa [stream2, Gap.blank, Gap.bytes, toksBytes, eq_comm] using hb
    | nil =>
      cases rest with
      | nil => intro b hb; simp [stream2, blankItems, Gap.blank, Gap.bytes, toksBytes] at hb
      | cons y rest =>
        obtain ⟨a, tl, htext, _⟩ := Ser.ser_head hrest.1
        intro b hb
        right
        simpa [stream2, blankItems, Item.blank, Gap.blank, Gap.bytes, toksBytes, htext] using hb

theorem delimited_blank (v : JV) (g : Gap) (hg : g.OK) (rest : List Item) (hrest : ItemsOK2 rest)
    (hd : Ser.Delimited v (stream2 g rest)) : Ser.Delimited v (stream2 g.blank (blankItems rest)) := by
  cases v with
  | num n =>
    intro b hb
    rcases head_blank g hg rest hrest b hb with rfl | h
    · decide
    · exact hd b h
  | _ => exact True.intro

/-- the blanked twin is always well formed -/
theorem blankItems_OK (items : List Item) (h : ItemsOK2 items) : ItemsOK2 (blankItems items) := by
  induction items with
  | nil => trivial
  | cons x rest ih =>
    obtain ⟨hv, hg, hd, hrest⟩ := h
    exact ⟨hv, Gap.blank_OK hg, delimited_blank x.v x.gap hg rest hrest hd, ih hrest⟩

/-- a simple sufficient condition for the STRIPPED twin to be well formed: every gap that follows a number and
stands before another value contains at least one white-space byte -/
def SepWs : List Item → Prop
  | [] => True
  | x :: rest => (x.gap.strip.ws ≠ [] ∨ rest = [] ∨ ∀ n, x.v ≠ .num n) ∧ SepWs rest

theorem stripItems2_OK (items : List Item) (h : ItemsOK2 items) (hs : SepWs items) :
    ItemsOK2 (stripItems2 items) := by
  induction items with
  | nil => trivial
  | cons x rest ih =>
    obtain ⟨hv, hg, _, hrest⟩ := h
    obtain ⟨hsep, hs'⟩ := hs
    refine ⟨hv, Gap.strip_OK hg, ?_, ih hrest hs'⟩
    show Ser.Delimited x.v (stream2 x.gap.strip (stripItems2 rest))
    have hwsOK := (Gap.strip_OK hg).1
    rcases hsep with h1 | h1 | h1
    · obtain ⟨a, tl, he⟩ := List.exists_cons_of_ne_nil h1
      apply Ser.delimited_of_delim
      apply Delim.of_numDelim
      have : stream2 x.gap.strip (stripItems2 rest) = a :: (tl ++ (stripItems2 rest).flatMap
          (fun x => x.text ++ x.gap.bytes)) := by
        have hb : x.gap.strip.bytes = a :: tl := by
          rw [Gap.bytes, he]
          simp [Gap.strip, toksBytes]
        simp [stream2, hb]
      rw [this]
      exact numDelim_cons a _ (isWs_numDelim (hwsOK a (by rw [he]; simp)))
    · subst h1
      apply Ser.delimited_of_delim
      apply Delim.of_numDelim
      have hb : stream2 x.gap.strip (stripItems2 []) = x.gap.strip.ws := by
        simp [stream2, stripItems2, Gap.bytes, Gap.strip, toksBytes]
      rw [hb]
      cases he : x.gap.strip.ws with
      | nil => exact numDelim_nil
      | cons a tl => exact numDelim_cons a _ (isWs_numDelim (hwsOK a (by rw [he]; simp)))
    · cases hx : x.v with
      | num n => exact absurd hx (h1 n)
      | _ => exact True.intro

/-- the stripped twin holds no garbage: all its values precede "the first garbage byte" -/
theorem strip_clean2 (g0 : Gap) (items : List Item) :
    firstGarbage2 g0.strip (stripItems2 items) = none ∧
    cleanPrefix2 g0.strip (stripItems2 items) = items.map (·.v) := by
  induction items generalizing g0 with
  | nil => exact ⟨rfl, rfl⟩
  | cons x rest ih =>
    obtain ⟨i1, i2⟩ := ih x.gap
    constructor
    · simp only [stripItems2, List.map_cons, firstGarbage2, Gap.strip, Item.strip] at i1 ⊢
      exact i1
    · simp only [stripItems2, List.map_cons, cleanPrefix2, Gap.strip, List.isEmpty_nil, if_true,
        Item.strip] at i2 ⊢
      rw [i2]

theorem blank_clean2 (g0 : Gap) (items : List Item) :
    firstGarbage2 g0.blank (blankItems items) = none ∧
    cleanPrefix2 g0.blank (blankItems items) = items.map (·.v) := by
  induction items generalizing g0 with
  | nil => exact ⟨rfl, rfl⟩
  | cons x rest ih =>
    obtain ⟨i1, i2⟩ := ih x.gap
    constructor
    · simp only [blankItems, List.map_cons, firstGarbage2, Gap.blank, Item.blank] at i1 ⊢
      exact i1
    · simp only [blankItems, List.map_cons, cleanPrefix2, Gap.blank, List.isEmpty_nil, if_true,
        Item.blank] at i2 ⊢
      rw [i2]

/-! ### the theorems -/

/-- A noisy stream of conforming texts (garbage possibly touching the values) and
its blanked twin (every garbage byte replaced by a space; same length): both hand the pipeline the same values
with the same ordinals — the values of the items themselves, scalars dropped under `--only-objects-and-arrays`;
the rows differ in their locations only.  The noisy stream holds exactly one recoverable error per garbage byte,
hence at least one per malformed region; the twin none. -/
theorem noise_transparent2 (ev : Expr → Ctx → Option JV) (c : Cfg) (cfgs : List StageCfg) (sts : List StageSt)
    (g0 : Gap) (items : List Item) (h0 : g0.OK) (hit : ItemsOK2 items)
    (name : Option Str) (fuel fuel' : Nat)
    (hf : (stream2 g0 items).length + 2 ≤ fuel) (hf' : (stream2 g0 items).length + 2 ≤ fuel') (i k : Nat) :
    let noisy := Reader.ofBytes (stream2 g0 items) name
    let clean := Reader.ofBytes (stream2 g0.blank (blankItems items)) name
    (ctxsOf c fuel noisy i k).map (·.input) = applyOnlyObj c (items.map (·.v))
    ∧ (ctxsOf c fuel' clean i k).map (·.input) = applyOnlyObj c (items.map (·.v))
    ∧ (ctxsOf c fuel noisy i k).map posFree = (ctxsOf c fuel' clean i k).map posFree
    ∧ (perrsOf fuel noisy).length = garbageCount2 g0 items
    ∧ noisyGaps2 g0 items ≤ garbageCount2 g0 items
    ∧ (errsOf ev c cfgs fuel noisy i k sts).length ≤ garbageCount2 g0 items
    ∧ ((feedBrk (processP ev cfgs) sts (ctxsOf c fuel noisy i k)).2.2 = .cont →
        (errsOf ev c cfgs fuel noisy i k sts).length = garbageCount2 g0 items)
    ∧ perrsOf fuel' clean = []
    ∧ errsOf ev c cfgs fuel' clean i k sts = [] := by
  intro noisy clean
  have hN := readsAs_stream2 g0 items h0 hit
  have hC := readsAs_stream2 g0.blank (blankItems items) (Gap.blank_OK h0) (blankItems_OK items hit)
  rw [blankItems_values, garbageCount2_blank] at hC
  obtain ⟨a1, a2, a3, a4, a5, a6, a7, a8⟩ := readsAs_transparent ev c cfgs sts hN hC name fuel fuel' hf
    (by rw [stream2_blank_length]; exact hf') i k
  exact ⟨a1, a2, a3, a4, noisyGaps2_le g0 items h0 hit, a5, a6, a7, a8⟩

/-- The same against the twin with the garbage DELETED, when that twin is well
formed (`ItemsOK2 (stripItems2 items)`; see `stripItems2_OK` for a sufficient condition, and `strip_glues` for why
a condition is needed). -/
theorem noise_transparent2_strip (ev : Expr → Ctx → Option JV) (c : Cfg) (cfgs : List StageCfg)
    (sts : List StageSt) (g0 : Gap) (items : List Item) (h0 : g0.OK) (hit : ItemsOK2 items)
    (hstrip : ItemsOK2 (stripItems2 items))
    (name : Option Str) (fuel fuel' : Nat)
    (hf : (stream2 g0 items).length + 2 ≤ fuel)
    (hf' : (stream2 g0.strip (stripItems2 items)).length + 2 ≤ fuel') (i k : Nat) :
    let noisy := Reader.ofBytes (stream2 g0 items) name
    let clean := Reader.ofBytes (stream2 g0.strip (stripItems2 items)) name
    (ctxsOf c fuel noisy i k).map (·.input) = applyOnlyObj c (items.map (·.v))
    ∧ (ctxsOf c fuel' clean i k).map (·.input) = applyOnlyObj c (items.map (·.v))
    ∧ (ctxsOf c fuel noisy i k).map posFree = (ctxsOf c fuel' clean i k).map posFree
    ∧ (perrsOf fuel noisy).length = garbageCount2 g0 items
    ∧ noisyGaps2 g0 items ≤ garbageCount2 g0 items
    ∧ (errsOf ev c cfgs fuel noisy i k sts).length ≤ garbageCount2 g0 items
    ∧ ((feedBrk (processP ev cfgs) sts (ctxsOf c fuel noisy i k)).2.2 = .cont →
        (errsOf ev c cfgs fuel noisy i k sts).length = garbageCount2 g0 items)
    ∧ perrsOf fuel' clean = []
    ∧ errsOf ev c cfgs fuel' clean i k sts = [] := by
  intro noisy clean
  have hN := readsAs_stream2 g0 items h0 hit
  have hC := readsAs_stream2 g0.strip (stripItems2 items) (Gap.strip_OK h0) hstrip
  rw [stripItems2_values, garbageCount2_strip] at hC
  obtain ⟨a1, a2, a3, a4, a5, a6, a7, a8⟩ := readsAs_transparent ev c cfgs sts hN hC name fuel fuel' hf hf' i k
  exact ⟨a1, a2, a3, a4, noisyGaps2_le g0 items h0 hit, a5, a6, a7, a8⟩

/-! #### run level -/

/-- one stream with its name -/
structure StreamSpec2 where
  name : Option Str := none
  g0 : Gap := {}
  items : List Item := []

def StreamSpec2.OK (s : StreamSpec2) : Prop := s.g0.OK ∧ ItemsOK2 s.items
/-- no garbage in any gap -/
def StreamSpec2.Clean (s : StreamSpec2) : Prop := garbageCount2 s.g0 s.items = 0
def StreamSpec2.bytes (s : StreamSpec2) : List Byte := stream2 s.g0 s.items
def StreamSpec2.source (s : StreamSpec2) : Source := bytesSource s.name s.bytes
/-- the blanked twin -/
def StreamSpec2.blank (s : StreamSpec2) : StreamSpec2 := { s with g0 := s.g0.blank, items := blankItems s.items }
/-- the stripped twin -/
def StreamSpec2.strip (s : StreamSpec2) : StreamSpec2 := { s with g0 := s.g0.strip, items := stripItems2 s.items }

theorem StreamSpec2.blank_OK {s : StreamSpec2} (h : s.OK) : s.blank.OK :=
  ⟨Gap.blank_OK h.1, blankItems_OK _ h.2⟩

theorem StreamSpec2.blank_clean (s : StreamSpec2) : s.blank.Clean := garbageCount2_blank _ _
theorem StreamSpec2.strip_clean (s : StreamSpec2) : s.strip.Clean := garbageCount2_strip _ _

theorem StreamSpec2.readsAs {s : StreamSpec2} (h : s.OK) :
    ReadsAs s.bytes (s.items.map (·.v)) (garbageCount2 s.g0 s.items) :=
  readsAs_stream2 s.g0 s.items h.1 h.2

def StreamSpec2.blankTwin (s : StreamSpec2) : Twin := ⟨s.name, s.bytes, s.blank.bytes⟩
def StreamSpec2.stripTwin (s : StreamSpec2) : Twin := ⟨s.name, s.bytes, s.strip.bytes⟩

theorem StreamSpec2.blankTwin_OK {s : StreamSpec2} (h : s.OK) : s.blankTwin.OK := by
  have hC := StreamSpec2.readsAs (StreamSpec2.blank_OK h)
  rw [show garbageCount2 s.blank.g0 s.blank.items = 0 from s.blank_clean] at hC
  rw [show s.blank.items.map (·.v) = s.items.map (·.v) from blankItems_values _] at hC
  exact ⟨_, _, StreamSpec2.readsAs h, hC⟩

theorem StreamSpec2.stripTwin_OK {s : StreamSpec2} (h : s.OK) (h' : s.strip.OK) : s.stripTwin.OK := by
  have hC := StreamSpec2.readsAs h'
  rw [show garbageCount2 s.strip.g0 s.strip.items = 0 from s.strip_clean] at hC
  rw [show s.strip.items.map (·.v) = s.items.map (·.v) from stripItems2_values _] at hC
  exact ⟨_, _, StreamSpec2.readsAs h, hC⟩

theorem blankTwins_noisy (specs : List StreamSpec2) :
    (specs.map StreamSpec2.blankTwin).map Twin.noisySrc = specs.map StreamSpec2.source := by
  simp [List.map_map, Function.comp_def, StreamSpec2.blankTwin, Twin.noisySrc, StreamSpec2.source]

theorem blankTwins_clean (specs : List StreamSpec2) :
    (specs.map StreamSpec2.blankTwin).map Twin.cleanSrc = specs.map (fun s => s.blank.source) := by
  simp [List.map_map, Function.comp_def, StreamSpec2.blankTwin, Twin.cleanSrc, StreamSpec2.source,
    StreamSpec2.blank]

theorem stripTwins_noisy (specs : List StreamSpec2) :
    (specs.map StreamSpec2.stripTwin).map Twin.noisySrc = specs.map StreamSpec2.source := by
  simp [List.map_map, Function.comp_def, StreamSpec2.stripTwin, Twin.noisySrc, StreamSpec2.source]

theorem stripTwins_clean (specs : List StreamSpec2) :
    (specs.map StreamSpec2.stripTwin).map Twin.cleanSrc = specs.map (fun s => s.strip.source) := by
  simp [List.map_map, Function.comp_def, StreamSpec2.stripTwin, Twin.cleanSrc, StreamSpec2.source,
    StreamSpec2.strip]

theorem blankTwins_OK (specs : List StreamSpec2) (hok : ∀ s ∈ specs, s.OK) :
    ∀ t ∈ specs.map StreamSpec2.blankTwin, t.OK := by
  intro t ht
  obtain ⟨s, hs, rfl⟩ := List.mem_map.mp ht
  exact StreamSpec2.blankTwin_OK (hok s hs)

theorem stripTwins_OK (specs : List StreamSpec2) (hok : ∀ s ∈ specs, s.OK) (hok' : ∀ s ∈ specs, s.strip.OK) :
    ∀ t ∈ specs.map StreamSpec2.stripTwin, t.OK := by
  intro t ht
  obtain ⟨s, hs, rfl⟩ := List.mem_map.mp ht
  exact StreamSpec2.stripTwin_OK (hok s hs) (hok' s hs)

/-- Without options, a noisy stream of conforming texts (on stdin or in a named
file) and its blanked twin make `jawk` print exactly the same bytes: one one-line JSON row per value of the stream,
in jawk's own spelling, in order; nothing goes to standard error. -/
theorem noise_default_same_output2 (orc : Oracles) (s : StreamSpec2) (hs : s.OK) (wOut wErr : Writer)
    (hw : Unbounded wOut) :
    (run orc {} [s.source] wOut wErr).result = .ok ()
    ∧ (run orc {} [s.blank.source] wOut wErr).result = .ok ()
    ∧ (run orc {} [s.source] wOut wErr).stdout
        = wOut.out ++ (s.items.map (·.v)).flatMap (fun v => utf8 (printJson {} v) ++ [10])
    ∧ (run orc {} [s.blank.source] wOut wErr).stdout = (run orc {} [s.source] wOut wErr).stdout
    ∧ (run orc {} [s.source] wOut wErr).stderr = wErr.out
    ∧ (run orc {} [s.blank.source] wOut wErr).stderr = wErr.out := by
  obtain ⟨vs, n, hN, hC⟩ := StreamSpec2.blankTwin_OK hs
  obtain ⟨n1, n2, n3⟩ := readsAs_default_output orc (StreamSpec2.readsAs hs) s.name wOut wErr hw
  have hC' := StreamSpec2.readsAs (StreamSpec2.blank_OK hs)
  rw [show s.blank.items.map (·.v) = s.items.map (·.v) from blankItems_values _] at hC'
  obtain ⟨c1, c2, c3⟩ := readsAs_default_output orc hC' s.name wOut wErr hw
  exact ⟨n1, c1, n2, by rw [show s.blank.source = bytesSource s.name s.blank.bytes from rfl, c2]; exact n2.symm,
    n3, c3⟩

/-- Under `ignore`, any number of sources (stdin and files), for a chain none of
whose expressions reads line or column: the run over noisy streams of conforming texts and the run over their
blanked twins succeed and write the same bytes; nothing goes to standard error. -/
theorem noise_ignore_same_output2 (orc : Oracles) (c : Cfg) (specs : List StreamSpec2) (wOut wErr : Writer)
    (p : Pipeline) (hok : ∀ s ∈ specs, s.OK) (hpol : c.onError = .ignore) (hb : build orc c = .ok p)
    (hna : NoAbort orc p.cfgs) (hpi : ChainPosIndep (evalT orc) p.cfgs) (hw : Unbounded wOut)
    (hh : ¬ HeaderMissing p) :
    (run orc c (specs.map StreamSpec2.source) wOut wErr).result = .ok ()
    ∧ (run orc c (specs.map (fun s => s.blank.source)) wOut wErr).result = .ok ()
    ∧ (run orc c (specs.map StreamSpec2.source) wOut wErr).stdout
        = (run orc c (specs.map (fun s => s.blank.source)) wOut wErr).stdout
    ∧ (run orc c (specs.map StreamSpec2.source) wOut wErr).stderr = wErr.out
    ∧ (run orc c (specs.map (fun s => s.blank.source)) wOut wErr).stderr = wErr.out := by
  have h := twins_ignore_same_output orc c (specs.map StreamSpec2.blankTwin) wOut wErr p
    (blankTwins_OK specs hok) hpol hb hna hpi hw hh
  rwa [blankTwins_noisy, blankTwins_clean] at h

/-- the same against the stripped twins, when these are well formed -/
theorem noise_ignore_same_output2_strip (orc : Oracles) (c : Cfg) (specs : List StreamSpec2) (wOut wErr : Writer)
    (p : Pipeline) (hok : ∀ s ∈ specs, s.OK) (hok' : ∀ s ∈ specs, s.strip.OK)
    (hpol : c.onError = .ignore) (hb : build orc c = .ok p)
    (hna : NoAbort orc p.cfgs) (hpi : ChainPosIndep (evalT orc) p.cfgs) (hw : Unbounded wOut)
    (hh : ¬ HeaderMissing p) :
    (run orc c (specs.map StreamSpec2.source) wOut wErr).result = .ok ()
    ∧ (run orc c (specs.map (fun s => s.strip.source)) wOut wErr).result = .ok ()
    ∧ (run orc c (specs.map StreamSpec2.source) wOut wErr).stdout
        = (run orc c (specs.map (fun s => s.strip.source)) wOut wErr).stdout
    ∧ (run orc c (specs.map StreamSpec2.source) wOut wErr).stderr = wErr.out
    ∧ (run orc c (specs.map (fun s => s.strip.source)) wOut wErr).stderr = wErr.out := by
  have h := twins_ignore_same_output orc c (specs.map StreamSpec2.stripTwin) wOut wErr p
    (stripTwins_OK specs hok hok') hpol hb hna hpi hw hh
  rwa [stripTwins_noisy, stripTwins_clean] at h

/-- Under `stderr` (standard error never failing): standard output is byte for byte
that of the blanked run; the blanked run leaves standard error untouched, the noisy run appends one `error:` line
per error met — nothing else goes there. -/
theorem noise_stderr_same_output2 (orc : Oracles) (c : Cfg) (specs : List StreamSpec2) (wOut wErr : Writer)
    (p : Pipeline) (hok : ∀ s ∈ specs, s.OK) (hpol : c.onError = .stderr) (hb : build orc c = .ok p)
    (hna : NoAbort orc p.cfgs) (hpi : ChainPosIndep (evalT orc) p.cfgs) (hw : Unbounded wOut)
    (he : Unbounded wErr) (hh : ¬ HeaderMissing p) :
    (run orc c (specs.map StreamSpec2.source) wOut wErr).result = .ok ()
    ∧ (run orc c (specs.map (fun s => s.blank.source)) wOut wErr).result = .ok ()
    ∧ (run orc c (specs.map StreamSpec2.source) wOut wErr).stdout
        = (run orc c (specs.map (fun s => s.blank.source)) wOut wErr).stdout
    ∧ (run orc c (specs.map StreamSpec2.source) wOut wErr).stderr
        = wErr.out ++ (errsOfSources (evalT orc) c p.cfgs (specs.map StreamSpec2.source) 0 p.sts).flatMap reportBytes
    ∧ (run orc c (specs.map (fun s => s.blank.source)) wOut wErr).stderr = wErr.out := by
  have h := twins_stderr_same_output orc c (specs.map StreamSpec2.blankTwin) wOut wErr p
    (blankTwins_OK specs hok) hpol hb hna hpi hw he hh
  rwa [blankTwins_noisy, blankTwins_clean] at h

theorem noise_stderr_same_output2_strip (orc : Oracles) (c : Cfg) (specs : List StreamSpec2) (wOut wErr : Writer)
    (p : Pipeline) (hok : ∀ s ∈ specs, s.OK) (hok' : ∀ s ∈ specs, s.strip.OK)
    (hpol : c.onError = .stderr) (hb : build orc c = .ok p)
    (hna : NoAbort orc p.cfgs) (hpi : ChainPosIndep (evalT orc) p.cfgs) (hw : Unbounded wOut)
    (he : Unbounded wErr) (hh : ¬ HeaderMissing p) :
    (run orc c (specs.map StreamSpec2.source) wOut wErr).result = .ok ()
    ∧ (run orc c (specs.map (fun s => s.strip.source)) wOut wErr).result = .ok ()
    ∧ (run orc c (specs.map StreamSpec2.source) wOut wErr).stdout
        = (run orc c (specs.map (fun s => s.strip.source)) wOut wErr).stdout
    ∧ (run orc c (specs.map StreamSpec2.source) wOut wErr).stderr
        = wErr.out ++ (errsOfSources (evalT orc) c p.cfgs (specs.map StreamSpec2.source) 0 p.sts).flatMap reportBytes
    ∧ (run orc c (specs.map (fun s => s.strip.source)) wOut wErr).stderr = wErr.out := by
  have h := twins_stderr_same_output orc c (specs.map StreamSpec2.stripTwin) wOut wErr p
    (stripTwins_OK specs hok hok') hpol hb hna hpi hw he hh
  rwa [stripTwins_noisy, stripTwins_clean] at h

/-- Under `stdout`: what the noisy run writes to standard output is the header and a
sequence of chunks; the report chunks are the `error:` lines of the errors met, in order, and with them removed
the output is byte for byte that of the blanked run.  Standard error is untouched. -/
theorem noise_stdout_same_rows2 (orc : Oracles) (c : Cfg) (specs : List StreamSpec2) (wOut wErr : Writer)
    (p : Pipeline) (hok : ∀ s ∈ specs, s.OK) (hpol : c.onError = .stdout) (hb : build orc c = .ok p)
    (hna : NoAbort orc p.cfgs) (hpi : ChainPosIndep (evalT orc) p.cfgs) (hw : Unbounded wOut)
    (hh : ¬ HeaderMissing p) :
    ∃ ch : Chunks,
      (run orc c (specs.map StreamSpec2.source) wOut wErr).result = .ok ()
      ∧ (run orc c (specs.map (fun s => s.blank.source)) wOut wErr).result = .ok ()
      ∧ (run orc c (specs.map StreamSpec2.source) wOut wErr).stdout = wOut.out ++ headerBytes p ++ ch.bytes
      ∧ (run orc c (specs.map (fun s => s.blank.source)) wOut wErr).stdout
          = wOut.out ++ headerBytes p ++ ch.rowPart
      ∧ ch.reports
          = (errsOfSources (evalT orc) c p.cfgs (specs.map StreamSpec2.source) 0 p.sts).map reportBytes
      ∧ (run orc c (specs.map StreamSpec2.source) wOut wErr).stderr = wErr.out
      ∧ (run orc c (specs.map (fun s => s.blank.source)) wOut wErr).stderr = wErr.out := by
  have h := twins_stdout_same_rows orc c (specs.map StreamSpec2.blankTwin) wOut wErr p
    (blankTwins_OK specs hok) hpol hb hna hpi hw hh
  rwa [blankTwins_noisy, blankTwins_clean] at h

/-- `panic` on a noisy stream of conforming texts: the rows `pre` fed to the chain are
those of the values that precede the first gap holding garbage.  If the stream holds garbage (first garbage byte
`b`, possibly touching the value before it) and the chain has not answered `Break` on `pre`, the run fails with
`unexpectedChar … b`; a streaming chain has by then written exactly the header and `specRows pre`; nothing goes to
standard error.  If the stream is clean (or the chain answered `Break` first) the run succeeds. -/
theorem run_panic_noisy2 (orc : Oracles) (c : Cfg) (s : StreamSpec2) (hs : s.OK) (wOut wErr : Writer)
    (p : Pipeline) (hpol : c.onError = .panic) (hb : build orc c = .ok p)
    (hna : NoAbort orc p.cfgs) (hw : Unbounded wOut) (hh : ¬ HeaderMissing p) :
    ∃ pre : List Ctx,
      pre.map (·.input) = applyOnlyObj c (cleanPrefix2 s.g0 s.items) ∧
      (∀ b, firstGarbage2 s.g0 s.items = some b →
          (feedBrk (processP (evalT orc) p.cfgs) p.sts pre).2.2 = .cont →
        ∃ loc,
          (run orc c [s.source] wOut wErr).result = .error (.json (.unexpectedChar loc b valueExpected))
          ∧ (run orc c [s.source] wOut wErr).stdout
              = wOut.out ++ headerBytes p ++
                (feedBrk (processP (evalT orc) p.cfgs) p.sts pre).2.1.flatMap (sinkBytes p.sink p.sinkLen)
          ∧ (Streaming p.cfgs →
              (run orc c [s.source] wOut wErr).stdout
                = wOut.out ++ headerBytes p ++
                  (specRows (evalT orc) p.cfgs p.sts pre).flatMap (sinkBytes p.sink p.sinkLen))
          ∧ (run orc c [s.source] wOut wErr).stderr = wErr.out) ∧
      ((firstGarbage2 s.g0 s.items = none ∨ (feedBrk (processP (evalT orc) p.cfgs) p.sts pre).2.2 = .brk) →
        (run orc c [s.source] wOut wErr).result = .ok ()
        ∧ (run orc c [s.source] wOut wErr).stdout
            = wOut.out ++ headerBytes p ++
              (specRows (evalT orc) p.cfgs p.sts pre).flatMap (sinkBytes p.sink p.sinkLen)
        ∧ (run orc c [s.source] wOut wErr).stderr = wErr.out) :=
  run_panic_stopsAt orc c s.name (stopsAt_stream2 s.g0 s.items hs.1 hs.2) wOut wErr p hpol hb hna hw hh

/-- Clean streams of conforming texts (no garbage in any gap; the values need not be
separated by white space where `Ser.Delimited` allows it, e.g. `[1]"s"{}`), on stdin or in files: under every
`--on-error` policy there is no error to report, the run succeeds, standard output holds no report line (it is the
header and the rows), standard error is untouched. -/
theorem clean_no_reports2 (orc : Oracles) (c : Cfg) (specs : List StreamSpec2) (wOut wErr : Writer) (p : Pipeline)
    (hok : ∀ s ∈ specs, s.OK) (hclean : ∀ s ∈ specs, s.Clean)
    (hb : build orc c = .ok p) (hna : NoAbort orc p.cfgs) (hw : Unbounded wOut)
    (he : c.onError = .stderr → Unbounded wErr) (hh : ¬ HeaderMissing p) :
    errsOfSources (evalT orc) c p.cfgs (specs.map StreamSpec2.source) 0 p.sts = []
    ∧ (run orc c (specs.map StreamSpec2.source) wOut wErr).result = .ok ()
    ∧ (run orc c (specs.map StreamSpec2.source) wOut wErr).stdout
        = wOut.out ++ headerBytes p ++
          (specRows (evalT orc) p.cfgs p.sts (ctxsOfSources c (specs.map StreamSpec2.source) 0)).flatMap
            (sinkBytes p.sink p.sinkLen)
    ∧ (run orc c (specs.map StreamSpec2.source) wOut wErr).stderr = wErr.out :=
  cleanSrc_no_reports orc c _ wOut wErr p (by
    intro src hsrc
    obtain ⟨s, hs, rfl⟩ := List.mem_map.mp hsrc
    have hr := StreamSpec2.readsAs (hok s hs)
    rw [show garbageCount2 s.g0 s.items = 0 from hclean s hs] at hr
    exact ⟨s.name, s.bytes, _, rfl, hr⟩) hb hna hw he hh

/-! ### non-vacuity and findings

The stream `{"a":1}x[1 , 2]@@ "s"#⏎1.5e3 $ true?`: five values in spellings jawk itself would not print
(`[1 , 2]`, `1.5e3`), garbage touching the object, the array, the string and `true`, and a number delimited by a
space. -/

theorem ex_obj : Ser.Ser (.obj [(['a'], .num (.pos 1))]) (123 :: ([] ++ ((34 :: (([97] ++ []) ++ [34])) ++
    ([] ++ 58 :: ([] ++ ([49] ++ []))) ++ [125]))) :=
  Ser.Ser.obj (w := []) (by decide)
    (Ser.Members.one (w1 := []) (w2 := []) (w3 := [])
      (Ser.Ser.str (Ser.StrBody.cons (Ser.StrItem.raw 'a' (by decide) (by decide) (by decide)) Ser.StrBody.nil))
      (by decide) (by decide)
      (Ser.Ser.num (t := ⟨false, [49], none, none⟩) (by decide) (by decide +kernel)) (by decide))
    (by decide)

theorem ex_arr : Ser.Ser (.arr [.num (.pos 1), .num (.pos 2)]) (91 :: ([] ++ (([49] ++ ([32] ++ 44 :: ([32] ++
    ([50] ++ [])))) ++ [93]))) :=
  Ser.Ser.arr (w := []) (by decide)
    (Ser.Elems.cons (w1 := [32]) (w2 := [32])
      (Ser.Ser.num (t := ⟨false, [49], none, none⟩) (by decide) (by decide +kernel)) (by decide) (by decide)
      (Ser.Elems.one (w := []) (Ser.Ser.num (t := ⟨false, [50], none, none⟩) (by decide) (by decide +kernel))
        (by decide)))

theorem ex_s : Ser.Ser (.str ['s']) (34 :: (([115] ++ []) ++ [34])) :=
  Ser.Ser.str (Ser.StrBody.cons (Ser.StrItem.raw 's' (by decide) (by decide) (by decide)) Ser.StrBody.nil)

/-- `1.5e3`: a fraction and an exponent; its value is the integer `1500` -/
theorem ex_1500 : Ser.Ser (.num (.pos 1500)) [49, 46, 53, 101, 51] :=
  Ser.Ser.num (t := ⟨false, [49], some [53], some ⟨false, none, [51]⟩⟩) (by decide) (by decide +kernel)

/-- `{"a":1}x[1 , 2]@@ "s"#⏎1.5e3 $ true?` -/
def exItems2 : List Item :=
  [ ⟨.obj [(['a'], .num (.pos 1))], [123, 34, 97, 34, 58, 49, 125], { toks := [([120], [])] }⟩,
    ⟨.arr [.num (.pos 1), .num (.pos 2)], [91, 49, 32, 44, 32, 50, 93], { toks := [([64, 64], [32])] }⟩,
    ⟨.str ['s'], [34, 115, 34], { toks := [([35], [10])] }⟩,
    ⟨.num (.pos 1500), [49, 46, 53, 101, 51], { ws := [32], toks := [([36], [32])] }⟩,
    ⟨.bool true, [116, 114, 117, 101], { toks := [([63], [])] }⟩ ]

example : stream2 {} exItems2 = utf8 "{\"a\":1}x[1 , 2]@@ \"s\"#\n1.5e3 $ true?".toList := by decide +kernel
example : stream2 ({} : Gap).blank (blankItems exItems2)
    = utf8 "{\"a\":1} [1 , 2]   \"s\" \n1.5e3   true ".toList := by decide +kernel
example : stream2 ({} : Gap).strip (stripItems2 exItems2)
    = utf8 "{\"a\":1}[1 , 2] \"s\"\n1.5e3  true".toList := by decide +kernel
example : garbageCount2 {} exItems2 = 6 ∧ noisyGaps2 {} exItems2 = 5 := by decide
example : firstGarbage2 {} exItems2 = some 120 ∧ cleanPrefix2 {} exItems2 = [.obj [(['a'], .num (.pos 1))]] :=
  ⟨rfl, rfl⟩

theorem gapOK_of (g : Gap) (h1 : g.ws.all isWs = true)
    (h2 : g.toks.all (fun t => !t.1.isEmpty && t.1.all Garbage && t.2.all isWs) = true) : g.OK := by
  constructor
  · intro b hb
    exact List.all_eq_true.mp h1 b hb
  · intro t ht
    have := List.all_eq_true.mp h2 t ht
    simp only [Bool.and_eq_true, Bool.not_eq_true', List.all_eq_true, List.isEmpty_eq_false_iff] at this
    exact ⟨this.1.1, this.1.2, this.2⟩

theorem exItems2_ok : ItemsOK2 exItems2 := by
  refine ⟨ex_obj, gapOK_of _ rfl rfl, True.intro, ex_arr, gapOK_of _ rfl rfl, True.intro,
    ex_s, gapOK_of _ rfl rfl, True.intro, ex_1500, gapOK_of _ rfl rfl, ?_,
    Ser.Ser.true, gapOK_of _ rfl rfl, True.intro, True.intro⟩
  intro b hb
  have : b = 32 := by simpa [stream2, Gap.bytes, eq_comm] using hb
  subst this
  decide

theorem exSpec_ok : (⟨none, {}, exItems2⟩ : StreamSpec2).OK := ⟨emptyGap_ok, exItems2_ok⟩

/-- the stripped twin of the example is well formed too (the only number is followed by a space) -/
example : SepWs exItems2 := by
  refine ⟨.inr (.inr (by intro n h; cases h)), .inr (.inr (by intro n h; cases h)),
    .inr (.inr (by intro n h; cases h)), .inl (by decide), .inr (.inl rfl), True.intro⟩

/-- the example stream yields its five values, whatever their spelling, and exactly six recoverable errors -/
example (c : Cfg) (hc : c.onlyObjectsAndArrays = false) (name : Option Str) :
    (ctxsOf c 40 (Reader.ofBytes (stream2 {} exItems2) name) 0 0).map (·.input)
      = [.obj [(['a'], .num (.pos 1))], .arr [.num (.pos 1), .num (.pos 2)], .str ['s'], .num (.pos 1500),
          .bool true] ∧
    (perrsOf 40 (Reader.ofBytes (stream2 {} exItems2) name)).length = 6 := by
  have h := noise_transparent2 (fun _ _ => none) c [] [] {} exItems2 emptyGap_ok exItems2_ok name 40 40
    (by decide) (by decide) 0 0
  rw [applyOnlyObj_off c hc] at h
  exact ⟨h.1, h.2.2.2.1⟩

/-- under `panic` the default chain fails at the `x` that touches the object, having been fed that object -/
example (orc : Oracles) : ∃ loc,
    (run orc panicCfg [(⟨none, {}, exItems2⟩ : StreamSpec2).source] {} {}).result
      = .error (.json (.unexpectedChar loc 120 valueExpected)) := by
  obtain ⟨pre, _, h2, _⟩ := run_panic_noisy2 orc panicCfg ⟨none, {}, exItems2⟩ exSpec_ok {} {}
    defaultPipeline rfl (build_panicCfg orc) (fun c hc => by cases hc) ⟨rfl, rfl⟩ (fun h => h)
  obtain ⟨loc, hl, _⟩ := h2 120 rfl (feedBrk_nil_chain _ _)
  exact ⟨loc, hl⟩

/-- the default run prints the five values in jawk's own spelling: `[1 , 2]` as `[1, 2]`, `1.5e3` as `1500` -/
example (orc : Oracles) :
    (run orc {} [(⟨none, {}, exItems2⟩ : StreamSpec2).source] {} {}).stdout
      = utf8 "{\"a\": 1}\n[1, 2]\n\"s\"\n1500\ntrue\n".toList := by
  rw [(noise_default_same_output2 orc ⟨none, {}, exItems2⟩ exSpec_ok {} {} ⟨rfl, rfl⟩).2.2.1]
  decide +kernel

/-- non-vacuity of the run-level theorems: `exampleCfg` (`-f .b -s .a -o .a --skip 1 -t 2`, policy `ignore`) and
the same under `stderr` satisfy every hypothesis, for any well-formed streams — e.g. the example stream -/
example (orc : Oracles) (specs : List StreamSpec2) (hok : ∀ s ∈ specs, s.OK) :
    (run orc exampleCfg (specs.map StreamSpec2.source) {} {}).stdout
      = (run orc exampleCfg (specs.map (fun s => s.blank.source)) {} {}).stdout :=
  (noise_ignore_same_output2 orc exampleCfg specs {} {} examplePipeline hok rfl (build_example orc)
    (examplePipeline_noAbort orc) (examplePipeline_posIndep orc) ⟨rfl, rfl⟩ (fun h => h)).2.2.1

def stderrCfg : Cfg := { exampleCfg with onError := .stderr }

theorem build_stderrCfg (orc : Oracles) : build orc stderrCfg = .ok examplePipeline :=
  (build_onError orc exampleCfg .stderr).trans (build_example orc)

example (orc : Oracles) (specs : List StreamSpec2) (hok : ∀ s ∈ specs, s.OK) :
    (run orc stderrCfg (specs.map StreamSpec2.source) {} {}).stdout
      = (run orc stderrCfg (specs.map (fun s => s.blank.source)) {} {}).stdout :=
  (noise_stderr_same_output2 orc stderrCfg specs {} {} examplePipeline hok rfl (build_stderrCfg orc)
    (examplePipeline_noAbort orc) (examplePipeline_posIndep orc) ⟨rfl, rfl⟩ ⟨rfl, rfl⟩ (fun h => h)).2.2.1

example : ∀ s ∈ [(⟨none, {}, exItems2⟩ : StreamSpec2)], s.OK := by
  intro s hs
  simp only [List.mem_singleton] at hs
  subst hs
  exact exSpec_ok

/-- non-vacuity of `clean_no_reports2`: the blanked twin of the example is well formed and clean; so is the
stripped twin -/
example : (⟨none, {}, exItems2⟩ : StreamSpec2).blank.OK ∧ (⟨none, {}, exItems2⟩ : StreamSpec2).blank.Clean :=
  ⟨StreamSpec2.blank_OK exSpec_ok, StreamSpec2.blank_clean _⟩

/-! #### findings: why the hypotheses are what they are -/

/-- `1x2`: the garbage byte `x` touches the number `1` and the number `2` — allowed (`x` does not extend `1`) -/
def glueItems : List Item :=
  [⟨.num (.pos 1), [49], { toks := [([120], [])] }⟩, ⟨.num (.pos 2), [50], {}⟩]

theorem glueItems_ok : ItemsOK2 glueItems := by
  refine ⟨Ser.Ser.num (t := ⟨false, [49], none, none⟩) (by decide) (by decide +kernel), gapOK_of _ rfl rfl, ?_,
    Ser.Ser.num (t := ⟨false, [50], none, none⟩) (by decide) (by decide +kernel), emptyGap_ok, ?_, True.intro⟩
  · intro b hb
    have : b = 120 := by simpa [stream2, Gap.bytes, toksBytes, eq_comm] using hb
    subst this
    decide
  · intro b hb
    simp [stream2, Gap.bytes, toksBytes] at hb

/-- DELETING the garbage of `1x2` gives `12`: one value, not two — the stripped twin is not well
formed and is read differently, while the blanked twin `1 2` is fine.  This is why the twin of the main theorems
replaces garbage by spaces, and why the stripped variants carry the hypothesis `ItemsOK2 (stripItems2 items)`. -/
theorem strip_glues :
    stream2 {} glueItems = [49, 120, 50] ∧
    stream2 ({} : Gap).strip (stripItems2 glueItems) = [49, 50] ∧
    stream2 ({} : Gap).blank (blankItems glueItems) = [49, 32, 50] ∧
    ¬ ItemsOK2 (stripItems2 glueItems) ∧
    (ctxsOf {} 5 (Reader.ofBytes [49, 120, 50] none) 0 0).map (·.input) = [.num (.pos 1), .num (.pos 2)] ∧
    (ctxsOf {} 5 (Reader.ofBytes [49, 32, 50] none) 0 0).map (·.input) = [.num (.pos 1), .num (.pos 2)] ∧
    (ctxsOf {} 5 (Reader.ofBytes [49, 50] none) 0 0).map (·.input) = [.num (.pos 12)] := by
  refine ⟨by decide, by decide, by decide, ?_, ?_, ?_, rfl⟩
  · intro h
    have := h.2.2.1 50 (by simp [stream2, Item.strip, Gap.strip, Gap.bytes, toksBytes])
    exact this.1 (by decide)
  · have h := noise_transparent2 (fun _ _ => none) {} [] [] {} glueItems emptyGap_ok glueItems_ok none 5 5
      (by decide) (by decide) 0 0
    exact h.1
  · have h := noise_transparent2 (fun _ _ => none) {} [] [] {} glueItems emptyGap_ok glueItems_ok none 5 5
      (by decide) (by decide) 0 0
    exact h.2.1

/-- Why `.`, `e`, `E` are excluded after a number.  These three bytes are `Garbage` (they cannot
start a value) but are NOT noise when they touch a number text:
* `1.x` — the parser accepts `1.` as the number `1` (the point is swallowed with the number): the value survives,
  but the two garbage bytes `.`, `x` cost ONE error, not two;
* `1ex` — `1e` is a malformed number: the value `1` is LOST (two errors, no value). -/
theorem number_touched_by_dot_or_e :
    Garbage 46 = true ∧ Garbage 101 = true ∧ Garbage 69 = true ∧
    (ctxsOf {} 5 (Reader.ofBytes [49, 46, 120] none) 0 0).map (·.input) = [.num (.pos 1)] ∧
    (perrsOf 5 (Reader.ofBytes [49, 46, 120] none)).length = 1 ∧
    (ctxsOf {} 5 (Reader.ofBytes [49, 101, 120] none) 0 0).map (·.input) = [] ∧
    (perrsOf 5 (Reader.ofBytes [49, 101, 120] none)).length = 2 := by
  exact ⟨by decide, by decide, by decide, rfl, rfl, rfl, rfl⟩

end Jawk.Noise2
