/-
  H17: the 17-digit search of `Display for f64` (`F64.shortestDigits`) always succeeds on a canonical finite
  double, hence `F64.toDisplay?` is total there and `Ser.H17` is a theorem (`Ser.h17`).

  * `roundRat_of_above`, `roundRat_of_below` (from `F64RT.roundRat_nearest`)
        -- nearest rounding: a rational strictly within half an ulp of the canonical double `m·2^e` rounds to it
           (from below: not at the lower end of a binade, where the gap is only half as wide)
  * `ltPow10_iff`, `divPow10_spec`, `rd_val`, `toRat_val`, `scaleDiv_val`   -- the `Nat` computations in `ℚ`
  * `up_spec`, `down_spec`, `decExp_exact_of_est`, `est_table` (kernel-checked table over all 2100 binary
    exponents), `decExp_exact`  -- `decExp` returns the `k` with `10^(k-1) ≤ num/den < 10^k`
  * `grid17`, `step17`          -- at 17 digits the grid spacing is below `2^53/10^16 < 1` ulp
  * `go_isSome`                 -- the fuel of `shortestDigits.go` reaches `n = 17`
  * `F64.shortestDigits_isSome`, `F64.toDisplay?_isSome`, `Ser.h17`
-/
import Mathlib.Tactic.Ring
import Mathlib.Tactic.Linarith
import Mathlib.Data.Rat.Defs
import Mathlib.Tactic.FieldSimp
import Mathlib.Tactic.NormNum
import Mathlib.Tactic.Positivity
import Jawk.Model.F64
import Jawk.Lemmas.F64RoundTrip
import Jawk.Lemmas.ParseSer

namespace Jawk.H17
open Jawk Jawk.F64 Jawk.F64RT

/-! ## 1. rational values of the `Nat` computations -/

theorem zpow_nonneg_eq (b : ℚ) {e : ℤ} (h : 0 ≤ e) : b ^ e = b ^ e.toNat := by
  conv_lhs => rw [← Int.toNat_of_nonneg h]
  exact zpow_natCast b _

theorem zpow_neg_eq (b : ℚ) {e : ℤ} (h : e < 0) : b ^ e = (b ^ (-e).toNat)⁻¹ := by
  have : e = -((-e).toNat : ℤ) := by omega
  conv_lhs => rw [this]
  rw [zpow_neg, zpow_natCast]

theorem two_zpow_pos (z : ℤ) : (0 : ℚ) < (2 : ℚ) ^ z := zpow_pos (by norm_num) z
theorem ten_zpow_pos (z : ℤ) : (0 : ℚ) < (10 : ℚ) ^ z := zpow_pos (by norm_num) z

/-- the exact value of a finite double -/
theorem toRat_val (s : Bool) (m : Nat) (e : Int) :
    ((toRat (fin s m e)).1 : ℚ) / ((toRat (fin s m e)).2 : ℚ) = (m : ℚ) * (2 : ℚ) ^ e := by
  by_cases h : 0 ≤ e
  · simp only [toRat, h, if_true]
    rw [zpow_nonneg_eq 2 h]; push_cast; simp
  · simp only [toRat, h, if_false]
    rw [zpow_neg_eq 2 (by omega)]; push_cast; rw [div_eq_mul_inv]

/-- `scaleDiv n d e` is division with remainder of `(n/d) / 2^e` -/
theorem scaleDiv_val (n d : Nat) (e : Int) (hd : d ≠ 0) :
    0 < (scaleDiv n d e).2.2 ∧ (scaleDiv n d e).2.1 < (scaleDiv n d e).2.2 ∧
    ((scaleDiv n d e).1 : ℚ) + ((scaleDiv n d e).2.1 : ℚ) / ((scaleDiv n d e).2.2 : ℚ)
      = (n : ℚ) / (d : ℚ) / (2 : ℚ) ^ e := by
  obtain ⟨N, D, hD, e3, e4, e5, e6, e7⟩ := scaleDiv_spec n d e hd
  rw [e3]
  refine ⟨hD, e5, ?_⟩
  have hDq : (D : ℚ) ≠ 0 := by exact_mod_cast (Nat.ne_of_gt hD)
  have hdq : (d : ℚ) ≠ 0 := by exact_mod_cast hd
  have h1 : ((scaleDiv n d e).1 : ℚ) + ((scaleDiv n d e).2.1 : ℚ) / (D : ℚ) = (N : ℚ) / (D : ℚ) := by
    rw [e4]; push_cast; field_simp
  rw [h1]
  by_cases h : 0 ≤ e
  · rw [if_pos h] at e6 e7
    rw [e6, e7, zpow_nonneg_eq 2 h]; push_cast
    rw [div_div]
  · rw [if_neg h] at e6 e7
    rw [e6, e7, zpow_neg_eq 2 (by omega)]; push_cast
    rw [div_inv_eq_mul]; ring

/-! ## 2. nearest rounding: a rational strictly within half an ulp of a double rounds to it -/

/-- shape of the scaled quotient from the position of the scaled value -/
theorem quot_of_val {q r D m : Nat} {y : ℚ} (hD : 0 < D) (hr : r < D)
    (hv : (q : ℚ) + (r : ℚ) / (D : ℚ) = y) :
    ((m : ℚ) ≤ y → y < (m : ℚ) + 1 / 2 → q = m ∧ 2 * r < D) ∧
    ((m : ℚ) - 1 / 2 < y → y < (m : ℚ) → q + 1 = m ∧ D < 2 * r) := by
  have hDq : (0 : ℚ) < (D : ℚ) := by exact_mod_cast hD
  have hf0 : (0 : ℚ) ≤ (r : ℚ) / (D : ℚ) := by positivity
  have hf1 : (r : ℚ) / (D : ℚ) < 1 := by
    rw [div_lt_one hDq]; exact_mod_cast hr
  constructor
  · intro h1 h2
    have a : (q : ℚ) < (m : ℚ) + 1 := by linarith only [hv, hf0, h2]
    have b : (m : ℚ) < (q : ℚ) + 1 := by linarith only [hv, hf1, h1]
    have hqm : q = m := by
      have a' : q < m + 1 := by exact_mod_cast a
      have b' : m < q + 1 := by exact_mod_cast b
      omega
    subst hqm
    refine ⟨rfl, ?_⟩
    have : (r : ℚ) / (D : ℚ) < 1 / 2 := by linarith only [hv, h2]
    rw [div_lt_iff₀ hDq] at this
    have : (2 : ℚ) * (r : ℚ) < (D : ℚ) := by linarith only [this]
    exact_mod_cast this
  · intro h1 h2
    have a : (q : ℚ) < (m : ℚ) := by linarith only [hv, hf0, h2]
    have b : (m : ℚ) < (q : ℚ) + 1 + 1 := by linarith only [hv, hf1, h1]
    have hqm : q + 1 = m := by
      have a' : q < m := by exact_mod_cast a
      have b' : m < q + 1 + 1 := by exact_mod_cast b
      omega
    subst hqm
    refine ⟨rfl, ?_⟩
    have : 1 / 2 < (r : ℚ) / (D : ℚ) := by push_cast at h1; linarith only [hv, h1]
    rw [lt_div_iff₀ hDq] at this
    have : (D : ℚ) < (2 : ℚ) * (r : ℚ) := by linarith only [this]
    exact_mod_cast this

/-- nearest rounding from above: `m·2^e ≤ n/d < (m + 1/2)·2^e` rounds to the canonical double `m·2^e`. -/
theorem roundRat_of_above {n d m : Nat} {e : Int} (hc : Canonical (fin false m e)) (hd : d ≠ 0) (hm : m ≠ 0)
    (h1 : (m : ℚ) * (2 : ℚ) ^ e ≤ (n : ℚ) / (d : ℚ))
    (h2 : (n : ℚ) / (d : ℚ) < ((m : ℚ) + 1 / 2) * (2 : ℚ) ^ e) :
    roundRat false n d = fin false m e := by
  have hu := two_zpow_pos e
  have hn : n ≠ 0 := by
    rintro rfl
    have : (0 : ℚ) < (m : ℚ) * (2 : ℚ) ^ e := by
      have : (0 : ℚ) < (m : ℚ) := by exact_mod_cast Nat.pos_of_ne_zero hm
      positivity
    simp at h1; linarith
  obtain ⟨hD, hr, hv⟩ := scaleDiv_val n d e hd
  rcases hsd : scaleDiv n d e with ⟨q, r, D⟩
  rw [hsd] at hD hr hv
  simp only at hD hr hv
  have ha : (m : ℚ) ≤ (n : ℚ) / (d : ℚ) / (2 : ℚ) ^ e := by rw [le_div_iff₀ hu]; exact h1
  have hb : (n : ℚ) / (d : ℚ) / (2 : ℚ) ^ e < (m : ℚ) + 1 / 2 := by rw [div_lt_iff₀ hu]; exact h2
  exact roundRat_nearest hc hn hd hsd (Or.inl ((quot_of_val hD hr hv).1 ha hb))

/-- nearest rounding from below: `(m - 1/2)·2^e < n/d < m·2^e` rounds to the canonical double `m·2^e`,
unless `m·2^e` is the lower end of a binade (where the gap below is only half as wide). -/
theorem roundRat_of_below {n d m : Nat} {e : Int} (hc : Canonical (fin false m e)) (hn : n ≠ 0) (hd : d ≠ 0)
    (hb52 : m = 2 ^ 52 → e = -1074)
    (h1 : ((m : ℚ) - 1 / 2) * (2 : ℚ) ^ e < (n : ℚ) / (d : ℚ))
    (h2 : (n : ℚ) / (d : ℚ) < (m : ℚ) * (2 : ℚ) ^ e) :
    roundRat false n d = fin false m e := by
  have hu := two_zpow_pos e
  obtain ⟨hD, hr, hv⟩ := scaleDiv_val n d e hd
  rcases hsd : scaleDiv n d e with ⟨q, r, D⟩
  rw [hsd] at hD hr hv
  simp only at hD hr hv
  have ha : (m : ℚ) - 1 / 2 < (n : ℚ) / (d : ℚ) / (2 : ℚ) ^ e := by rw [lt_div_iff₀ hu]; exact h1
  have hb : (n : ℚ) / (d : ℚ) / (2 : ℚ) ^ e < (m : ℚ) := by rw [div_lt_iff₀ hu]; exact h2
  obtain ⟨c1, c2⟩ := (quot_of_val hD hr hv).2 ha hb
  exact roundRat_nearest hc hn hd hsd (Or.inr ⟨c1, c2, hb52⟩)

/-! ## 3. the decimal side: `ltPow10`, `divPow10`, the candidate of `roundTrips` -/

theorem ltPow10_iff (num den : Nat) (k : Int) (hd : den ≠ 0) :
    ltPow10 num den k = true ↔ (num : ℚ) / (den : ℚ) < (10 : ℚ) ^ k := by
  have hdq : (0 : ℚ) < (den : ℚ) := by exact_mod_cast Nat.pos_of_ne_zero hd
  unfold ltPow10
  by_cases h : 0 ≤ k
  · rw [if_pos h, zpow_nonneg_eq 10 h, div_lt_iff₀ hdq, decide_eq_true_iff, ← @Nat.cast_lt ℚ]
    push_cast
    rw [mul_comm]
  · have hp : (0 : ℚ) < (10 : ℚ) ^ (-k).toNat := by positivity
    rw [if_neg h, zpow_neg_eq 10 (by omega), div_lt_iff₀ hdq, decide_eq_true_iff,
      ← div_eq_inv_mul, lt_div_iff₀ hp, ← @Nat.cast_lt ℚ]
    push_cast
    rfl

/-- `⌊X / Y⌋` in `ℚ` -/
theorem nat_div_q (X Y : Nat) (hY : 0 < Y) :
    ((X / Y : ℕ) : ℚ) * (Y : ℚ) ≤ (X : ℚ) ∧ (X : ℚ) < (((X / Y : ℕ) : ℚ) + 1) * (Y : ℚ) := by
  have a := Nat.div_add_mod X Y
  have b := Nat.mod_lt X hY
  have a' : ((Y * (X / Y) + X % Y : ℕ) : ℚ) = (X : ℚ) := by rw [a]
  have b' : ((X % Y : ℕ) : ℚ) < (Y : ℚ) := by exact_mod_cast b
  have c' : (0 : ℚ) ≤ ((X % Y : ℕ) : ℚ) := by positivity
  push_cast at a'
  constructor <;> linarith only [a', b', c']

theorem divPow10_spec (num den : Nat) (p : Int) (hd : den ≠ 0) :
    ((divPow10 num den p : ℕ) : ℚ) * (10 : ℚ) ^ p ≤ (num : ℚ) / (den : ℚ) ∧
    (num : ℚ) / (den : ℚ) < (((divPow10 num den p : ℕ) : ℚ) + 1) * (10 : ℚ) ^ p := by
  have hdq : (0 : ℚ) < (den : ℚ) := by exact_mod_cast Nat.pos_of_ne_zero hd
  unfold divPow10
  by_cases h : 0 ≤ p
  · rw [if_pos h, zpow_nonneg_eq 10 h]
    have hY : 0 < den * 10 ^ p.toNat := Nat.mul_pos (Nat.pos_of_ne_zero hd) (Nat.pow_pos (by decide))
    obtain ⟨a, b⟩ := nat_div_q num (den * 10 ^ p.toNat) hY
    push_cast at a b
    rw [le_div_iff₀ hdq, div_lt_iff₀ hdq]
    constructor <;> linarith
  · rw [if_neg h, zpow_neg_eq 10 (by omega)]
    have hp : (0 : ℚ) < (10 : ℚ) ^ (-p).toNat := by positivity
    obtain ⟨a, b⟩ := nat_div_q (num * 10 ^ (-p).toNat) den (Nat.pos_of_ne_zero hd)
    push_cast at a b
    rw [le_div_iff₀ hdq, div_lt_iff₀ hdq, ← div_eq_mul_inv, ← div_eq_mul_inv, div_mul_eq_mul_div,
      div_mul_eq_mul_div, div_le_iff₀ hp, lt_div_iff₀ hp]
    exact ⟨a, b⟩

/-- the rational that `roundTrips` rounds: `digits × 10^p` -/
theorem rd_val (digits : Nat) (p : Int) :
    ∃ N D : Nat, D ≠ 0 ∧ rd false digits p = roundRat false N D ∧
      (N : ℚ) / (D : ℚ) = (digits : ℚ) * (10 : ℚ) ^ p := by
  unfold rd
  by_cases h : 0 ≤ p
  · refine ⟨digits * 10 ^ p.toNat, 1, by decide, by rw [if_pos h], ?_⟩
    rw [zpow_nonneg_eq 10 h]; push_cast; simp
  · refine ⟨digits, 10 ^ (-p).toNat, Nat.ne_of_gt (Nat.pow_pos (by decide)), by rw [if_neg h], ?_⟩
    rw [zpow_neg_eq 10 (by omega)]; push_cast; rw [div_eq_mul_inv]

theorem roundTrips_of_rd {s : Bool} {m : Nat} {e : Int} {d : Nat} {p : Int}
    (h : rd false d p = fin false m e) : roundTrips (fin s m e) d p = true := by
  have hg : roundTrips (fin s m e) d p =
      (match (fin s m e).abs, rd false d p with
        | fin _ m e, fin _ m' e' => m == m' && e == e'
        | _, _ => false) := rfl
  rw [hg, h]
  simp [F64.abs]

/-! ## 4. `decExp` is exact -/

theorem up_spec (num den : Nat) (hd : den ≠ 0) (fuel : Nat) (k : Int)
    (h : (num : ℚ) / (den : ℚ) < (10 : ℚ) ^ (k + fuel)) :
    (num : ℚ) / (den : ℚ) < (10 : ℚ) ^ (decExp.up num den fuel k) ∧
    (decExp.up num den fuel k = k ∨ (10 : ℚ) ^ (decExp.up num den fuel k - 1) ≤ (num : ℚ) / (den : ℚ)) := by
  induction fuel generalizing k with
  | zero =>
    have hu : decExp.up num den 0 k = k := rfl
    rw [hu]
    exact ⟨by simpa using h, Or.inl rfl⟩
  | succ f ih =>
    simp only [decExp.up]
    by_cases hk : ltPow10 num den k = true
    · rw [if_pos hk]
      exact ⟨(ltPow10_iff num den k hd).1 hk, Or.inl rfl⟩
    · rw [if_neg hk]
      have hge : (10 : ℚ) ^ k ≤ (num : ℚ) / (den : ℚ) := by
        rw [ltPow10_iff num den k hd] at hk; exact not_lt.1 hk
      have h' : (num : ℚ) / (den : ℚ) < (10 : ℚ) ^ (k + 1 + (f : ℤ)) := by
        have : k + ((f + 1 : ℕ) : ℤ) = k + 1 + (f : ℤ) := by push_cast; ring
        rwa [this] at h
      obtain ⟨a, b⟩ := ih (k + 1) h'
      refine ⟨a, Or.inr ?_⟩
      rcases b with b | b
      · rw [b]; simpa using hge
      · exact b

theorem down_spec (num den : Nat) (hd : den ≠ 0) (fuel : Nat) (k : Int)
    (h : (num : ℚ) / (den : ℚ) < (10 : ℚ) ^ k)
    (hlow : (10 : ℚ) ^ (k - fuel - 1) ≤ (num : ℚ) / (den : ℚ)) :
    (num : ℚ) / (den : ℚ) < (10 : ℚ) ^ (decExp.down num den fuel k) ∧
    (10 : ℚ) ^ (decExp.down num den fuel k - 1) ≤ (num : ℚ) / (den : ℚ) := by
  induction fuel generalizing k with
  | zero =>
    have hu : decExp.down num den 0 k = k := rfl
    rw [hu]
    exact ⟨h, by simpa using hlow⟩
  | succ f ih =>
    simp only [decExp.down]
    by_cases hk : ltPow10 num den (k - 1) = true
    · rw [if_pos hk]
      apply ih (k - 1) ((ltPow10_iff num den (k - 1) hd).1 hk)
      have : k - ((f + 1 : ℕ) : ℤ) - 1 = k - 1 - (f : ℤ) - 1 := by push_cast; ring
      rwa [this] at hlow
    · rw [if_neg hk]
      rw [ltPow10_iff num den (k - 1) hd] at hk
      exact ⟨h, not_lt.1 hk⟩

/-- if the logarithmic estimate `k0` is within reach (`10^(k0-9) ≤ x < 10^(k0+8)`), `decExp` is exact -/
theorem decExp_exact_of_est (num den : Nat) (hd : den ≠ 0)
    (hlo : (10 : ℚ) ^ (((Nat.log2 num : Int) - (Nat.log2 den : Int)) * 30103 / 100000 - 9) ≤ (num : ℚ) / (den : ℚ))
    (hhi : (num : ℚ) / (den : ℚ) < (10 : ℚ) ^ (((Nat.log2 num : Int) - (Nat.log2 den : Int)) * 30103 / 100000 + 8)) :
    (10 : ℚ) ^ (decExp num den - 1) ≤ (num : ℚ) / (den : ℚ) ∧ (num : ℚ) / (den : ℚ) < (10 : ℚ) ^ (decExp num den) := by
  have hdef : decExp num den = decExp.down num den 8
      (decExp.up num den 8 (((Nat.log2 num : Int) - (Nat.log2 den : Int)) * 30103 / 100000)) := rfl
  rw [hdef]
  generalize ((Nat.log2 num : Int) - (Nat.log2 den : Int)) * 30103 / 100000 = k0 at hlo hhi ⊢
  obtain ⟨a, b⟩ := up_spec num den hd 8 k0 (by simpa using hhi)
  have hlow : (10 : ℚ) ^ (decExp.up num den 8 k0 - ((8 : ℕ) : ℤ) - 1) ≤ (num : ℚ) / (den : ℚ) := by
    rcases b with b | b
    · rw [b]
      have : k0 - ((8 : ℕ) : ℤ) - 1 = k0 - 9 := by push_cast; ring
      rw [this]; exact hlo
    · refine le_trans ?_ b
      apply zpow_le_zpow_right₀ (by norm_num)
      push_cast; omega
  obtain ⟨c, d⟩ := down_spec num den hd 8 _ a hlow
  exact ⟨d, c⟩


/-! ### the logarithmic estimate is within reach: a finite table -/

/-- `b1^i ≤ b2^j` for integer exponents, cross-multiplied in `Nat` -/
def powLe (b1 : Nat) (i : Int) (b2 : Nat) (j : Int) : Bool :=
  decide (b1 ^ i.toNat * b2 ^ (-j).toNat ≤ b2 ^ j.toNat * b1 ^ (-i).toNat)

/-- for a value in `(2^(n-1), 2^(n+1))` the estimate `k0 = ⌊n·30103/100000⌋` satisfies `10^(k0-9) ≤ · < 10^(k0+8)` -/
def estOK (n : Int) : Bool :=
  powLe 10 (n * 30103 / 100000 - 9) 2 (n - 1) && powLe 2 (n + 1) 10 (n * 30103 / 100000 + 8)

/-- the table: all binary exponents a finite double (or a quotient of such magnitudes) can have -/
theorem est_table : (List.range 2100).all (fun t => estOK ((t : Int) - 1075)) = true := by decide +kernel

theorem zpow_split (b : ℚ) (i : ℤ) : b ^ i = b ^ i.toNat / b ^ (-i).toNat := by
  by_cases h : 0 ≤ i
  · have : (-i).toNat = 0 := by omega
    rw [this, zpow_nonneg_eq b h]; simp
  · have : i.toNat = 0 := by omega
    rw [this, zpow_neg_eq b (by omega)]; simp

theorem powLe_iff (b1 b2 : Nat) (h1 : 0 < b1) (h2 : 0 < b2) (i j : Int) :
    powLe b1 i b2 j = true ↔ ((b1 : ℚ)) ^ i ≤ ((b2 : ℚ)) ^ j := by
  have q1 : (0 : ℚ) < (b1 : ℚ) := by exact_mod_cast h1
  have q2 : (0 : ℚ) < (b2 : ℚ) := by exact_mod_cast h2
  unfold powLe
  rw [decide_eq_true_iff, zpow_split (b1 : ℚ) i, zpow_split (b2 : ℚ) j,
    div_le_div_iff₀ (by positivity) (by positivity), ← @Nat.cast_le ℚ]
  push_cast
  rfl

theorem est_of_table (n : Int) (h1 : -1075 ≤ n) (h2 : n < 1025) :
    (10 : ℚ) ^ (n * 30103 / 100000 - 9) ≤ (2 : ℚ) ^ (n - 1) ∧
    (2 : ℚ) ^ (n + 1) ≤ (10 : ℚ) ^ (n * 30103 / 100000 + 8) := by
  have ht := est_table
  rw [List.all_eq_true] at ht
  have := ht (n + 1075).toNat (List.mem_range.2 (by omega))
  rw [show (((n + 1075).toNat : ℕ) : ℤ) - 1075 = n by omega] at this
  unfold estOK at this
  rw [Bool.and_eq_true] at this
  obtain ⟨a, b⟩ := this
  have a' := (powLe_iff 10 2 (by decide) (by decide) _ _).1 a
  have b' := (powLe_iff 2 10 (by decide) (by decide) _ _).1 b
  exact ⟨by exact_mod_cast a', by exact_mod_cast b'⟩

/-- the value lies strictly between the powers of two given by the bit lengths -/
theorem val_log2_bounds {num den : Nat} (hn : num ≠ 0) (hd : den ≠ 0) :
    (2 : ℚ) ^ ((Nat.log2 num : Int) - (Nat.log2 den : Int) - 1) < (num : ℚ) / (den : ℚ) ∧
    (num : ℚ) / (den : ℚ) < (2 : ℚ) ^ ((Nat.log2 num : Int) - (Nat.log2 den : Int) + 1) := by
  obtain ⟨ha, ha'⟩ := log2_bounds hn
  obtain ⟨hb, hb'⟩ := log2_bounds hd
  have two_ne : (2 : ℚ) ≠ 0 := by norm_num
  have hdq : (0 : ℚ) < (den : ℚ) := by exact_mod_cast Nat.pos_of_ne_zero hd
  have qa : ((2 : ℚ)) ^ num.log2 ≤ (num : ℚ) := by exact_mod_cast ha
  have qa' : (num : ℚ) < ((2 : ℚ)) ^ (num.log2 + 1) := by exact_mod_cast ha'
  have qb : ((2 : ℚ)) ^ den.log2 ≤ (den : ℚ) := by exact_mod_cast hb
  have qb' : (den : ℚ) < ((2 : ℚ)) ^ (den.log2 + 1) := by exact_mod_cast hb'
  have pA : (0 : ℚ) < (2 : ℚ) ^ num.log2 := by positivity
  have pB : (0 : ℚ) < (2 : ℚ) ^ den.log2 := by positivity
  constructor
  · rw [show (Nat.log2 num : Int) - (Nat.log2 den : Int) - 1 = (Nat.log2 num : Int) - ((den.log2 + 1 : ℕ) : ℤ) by
      push_cast; ring, zpow_sub₀ two_ne, zpow_natCast, zpow_natCast,
      div_lt_div_iff₀ (by positivity) hdq]
    calc (2 : ℚ) ^ num.log2 * (den : ℚ) < (2 : ℚ) ^ num.log2 * (2 : ℚ) ^ (den.log2 + 1) :=
          mul_lt_mul_of_pos_left qb' pA
      _ ≤ (num : ℚ) * (2 : ℚ) ^ (den.log2 + 1) := mul_le_mul_of_nonneg_right qa (by positivity)
  · rw [show (Nat.log2 num : Int) - (Nat.log2 den : Int) + 1 = ((num.log2 + 1 : ℕ) : ℤ) - (Nat.log2 den : Int) by
      push_cast; ring, zpow_sub₀ two_ne, zpow_natCast, zpow_natCast,
      div_lt_div_iff₀ hdq (by positivity)]
    calc (num : ℚ) * (2 : ℚ) ^ den.log2 < (2 : ℚ) ^ (num.log2 + 1) * (2 : ℚ) ^ den.log2 :=
          mul_lt_mul_of_pos_right qa' pB
      _ ≤ (2 : ℚ) ^ (num.log2 + 1) * (den : ℚ) := mul_le_mul_of_nonneg_left qb (by positivity)

-- the literals `2 ^ 1024`, `2 ^ 1074` of the statement exceed the default threshold
set_option exponentiation.threshold 1100 in
/-- `decExp` is exact on every quotient of double-sized magnitudes: `10^(k-1) ≤ num/den < 10^k`. -/
theorem decExp_exact {num den : Nat} (hn : num ≠ 0) (hd : den ≠ 0) (hnum : num < 2 ^ 1024) (hden : den ≤ 2 ^ 1074) :
    (10 : ℚ) ^ (decExp num den - 1) ≤ (num : ℚ) / (den : ℚ) ∧ (num : ℚ) / (den : ℚ) < (10 : ℚ) ^ (decExp num den) := by
  have ha : num.log2 < 1024 := (Nat.log2_lt hn).2 hnum
  have hb : den.log2 < 1075 :=
    (Nat.log2_lt hd).2 (Nat.lt_of_le_of_lt hden (Nat.pow_lt_pow_right (by decide) (by decide)))
  obtain ⟨v1, v2⟩ := val_log2_bounds hn hd
  obtain ⟨t1, t2⟩ := est_of_table ((Nat.log2 num : Int) - (Nat.log2 den : Int)) (by omega) (by omega)
  exact decExp_exact_of_est num den hd (le_of_lt (lt_of_le_of_lt t1 v1)) (lt_of_lt_of_le v2 t2)


/-! ## 5. the candidates of the digit search and the 17-digit step -/

theorem cand_above {m c : Nat} {e p : Int} (hc : Canonical (fin false m e)) (hm : m ≠ 0)
    (h1 : (m : ℚ) * (2 : ℚ) ^ e ≤ (c : ℚ) * (10 : ℚ) ^ p)
    (h2 : (c : ℚ) * (10 : ℚ) ^ p < ((m : ℚ) + 1 / 2) * (2 : ℚ) ^ e) :
    rd false c p = fin false m e := by
  obtain ⟨N, D, hD, hrd, hv⟩ := rd_val c p
  rw [hrd]
  rw [← hv] at h1 h2
  exact roundRat_of_above hc hD hm h1 h2

theorem cand_below {m c : Nat} {e p : Int} (hc : Canonical (fin false m e)) (hm : m ≠ 0)
    (hb52 : m = 2 ^ 52 → e = -1074)
    (h1 : ((m : ℚ) - 1 / 2) * (2 : ℚ) ^ e < (c : ℚ) * (10 : ℚ) ^ p)
    (h2 : (c : ℚ) * (10 : ℚ) ^ p < (m : ℚ) * (2 : ℚ) ^ e) :
    rd false c p = fin false m e := by
  obtain ⟨N, D, hD, hrd, hv⟩ := rd_val c p
  rw [hrd]
  rw [← hv] at h1 h2
  have hN : N ≠ 0 := by
    rintro rfl
    have hu := two_zpow_pos e
    have : (1 : ℚ) ≤ (m : ℚ) := by exact_mod_cast Nat.pos_of_ne_zero hm
    have : (0 : ℚ) ≤ ((m : ℚ) - 1 / 2) * (2 : ℚ) ^ e := by
      apply mul_nonneg _ (le_of_lt hu); linarith
    simp at h1; linarith
  exact roundRat_of_below hc hN hD hb52 h1 h2

/-- the arithmetic heart: with a decimal grid of spacing `g ≤ x / 10^16` around `x = m·u`, `m < 2^53`, one of the two
grid neighbours `L ≤ x < L + g` lies strictly within `u/2` of `x`; at a binade boundary (`m = 2^52`) the upper one does. -/
theorem grid17 {m : Nat} {u g L : ℚ} (hm : m < 2 ^ 53) (hu : 0 < u) (hg : 0 < g)
    (hx : (10 : ℚ) ^ 16 * g ≤ (m : ℚ) * u) (hL1 : L ≤ (m : ℚ) * u) (hL2 : (m : ℚ) * u < L + g) :
    (m = 2 ^ 52 → L + g < ((m : ℚ) + 1 / 2) * u) ∧
    ((((m : ℚ) - 1 / 2) * u < L ∧ L < (m : ℚ) * u) ∨ L = (m : ℚ) * u ∨ L + g < ((m : ℚ) + 1 / 2) * u) := by
  have hmq : (m : ℚ) ≤ 2 ^ 53 - 1 := by
    have : m + 1 ≤ 2 ^ 53 := hm
    have : ((m + 1 : ℕ) : ℚ) ≤ ((2 ^ 53 : ℕ) : ℚ) := by exact_mod_cast this
    push_cast at this; linarith
  have hxu : (m : ℚ) * u ≤ (2 ^ 53 - 1) * u := mul_le_mul_of_nonneg_right hmq (le_of_lt hu)
  constructor
  · intro h52
    have : (m : ℚ) = 2 ^ 52 := by rw [h52]; norm_num
    rw [this] at hx hL1 hL2 ⊢
    norm_num at hx hL1 hL2 ⊢
    linarith
  · by_cases hlt : ((m : ℚ) - 1 / 2) * u < L
    · rcases lt_or_eq_of_le hL1 with h | h
      · exact Or.inl ⟨hlt, h⟩
      · exact Or.inr (Or.inl h)
    · refine Or.inr (Or.inr ?_)
      have := not_lt.1 hlt
      norm_num at hx hxu
      linarith


-- as above, for `2 ^ 1024` and `2 ^ 1074`
set_option exponentiation.threshold 1100 in
/-- the exact rational of a canonical double has a numerator below `2^1024` and a denominator at most `2^1074` -/
theorem toRat_bounds {m : Nat} {e : Int} (hc : Canonical (fin false m e)) :
    (toRat (fin false m e)).1 < 2 ^ 1024 ∧ (toRat (fin false m e)).2 ≤ 2 ^ 1074 := by
  obtain ⟨hm53, he1, he2, _⟩ := hc
  by_cases h : 0 ≤ e
  · simp only [toRat, h, if_true]
    refine ⟨?_, Nat.one_le_two_pow⟩
    have h1 : m * 2 ^ e.toNat < 2 ^ 53 * 2 ^ e.toNat := Nat.mul_lt_mul_of_pos_right hm53 (Nat.pow_pos (by decide))
    have h2 : 2 ^ 53 * 2 ^ e.toNat ≤ 2 ^ 53 * 2 ^ 971 :=
      Nat.mul_le_mul_left _ (Nat.pow_le_pow_right (by decide) (by omega))
    have h3 : 2 ^ 53 * 2 ^ 971 = 2 ^ 1024 := by rw [← Nat.pow_add]
    omega
  · simp only [toRat, h, if_false]
    refine ⟨Nat.lt_trans hm53 (Nat.pow_lt_pow_right (by decide) (by decide)), ?_⟩
    exact Nat.pow_le_pow_right (by decide) (by omega)

/-- the 17-digit step: one of the two 17-digit neighbours of a canonical non-zero double rounds back to it -/
theorem step17 {m : Nat} {e : Int} (hc : Canonical (fin false m e)) (hm : m ≠ 0) :
    (divPow10 (toRat (fin false m e)).1 (toRat (fin false m e)).2
        (decExp (toRat (fin false m e)).1 (toRat (fin false m e)).2 - 17) ≠ 0 ∧
      rd false (divPow10 (toRat (fin false m e)).1 (toRat (fin false m e)).2
        (decExp (toRat (fin false m e)).1 (toRat (fin false m e)).2 - 17))
        (decExp (toRat (fin false m e)).1 (toRat (fin false m e)).2 - 17) = fin false m e) ∨
    rd false (divPow10 (toRat (fin false m e)).1 (toRat (fin false m e)).2
        (decExp (toRat (fin false m e)).1 (toRat (fin false m e)).2 - 17) + 1)
        (decExp (toRat (fin false m e)).1 (toRat (fin false m e)).2 - 17) = fin false m e := by
  obtain ⟨hn, hd⟩ := toRat_ne_zero false e hm
  obtain ⟨hb1, hb2⟩ := toRat_bounds hc
  have hval := toRat_val false m e
  generalize (toRat (fin false m e)).1 = num at hn hb1 hval ⊢
  generalize (toRat (fin false m e)).2 = den at hd hb2 hval ⊢
  obtain ⟨k1, k2⟩ := decExp_exact hn hd hb1 hb2
  generalize decExp num den = k at k1 k2 ⊢
  obtain ⟨l1, l2⟩ := divPow10_spec num den (k - 17) hd
  generalize divPow10 num den (k - 17) = lo at l1 l2 ⊢
  rw [hval] at k1 k2 l1 l2
  have hu := two_zpow_pos e
  have hg := ten_zpow_pos (k - 17)
  have ten_ne : (10 : ℚ) ≠ 0 := by norm_num
  have hx : (10 : ℚ) ^ 16 * (10 : ℚ) ^ (k - 17) ≤ (m : ℚ) * (2 : ℚ) ^ e := by
    have : (10 : ℚ) ^ (k - 1) = (10 : ℚ) ^ 16 * (10 : ℚ) ^ (k - 17) := by
      rw [show k - 1 = ((16 : ℕ) : ℤ) + (k - 17) by push_cast; ring, zpow_add₀ ten_ne, zpow_natCast]
    rw [← this]; exact k1
  have hL2 : (m : ℚ) * (2 : ℚ) ^ e < (lo : ℚ) * (10 : ℚ) ^ (k - 17) + (10 : ℚ) ^ (k - 17) := by
    have : ((lo : ℚ) + 1) * (10 : ℚ) ^ (k - 17) = (lo : ℚ) * (10 : ℚ) ^ (k - 17) + (10 : ℚ) ^ (k - 17) := by ring
    rw [← this]; exact l2
  have hlo : lo ≠ 0 := by
    rintro rfl
    norm_num at hx hL2
    linarith
  obtain ⟨g1, g2⟩ := grid17 hc.1 hu hg hx l1 hL2
  have hhi : (lo : ℚ) * (10 : ℚ) ^ (k - 17) + (10 : ℚ) ^ (k - 17) = ((lo + 1 : ℕ) : ℚ) * (10 : ℚ) ^ (k - 17) := by
    push_cast; ring
  by_cases hb : m = 2 ^ 52
  · right
    apply cand_above hc hm
    · rw [← hhi]; exact le_of_lt hL2
    · rw [← hhi]; exact g1 hb
  · rcases g2 with ⟨a, b⟩ | a | a
    · left
      exact ⟨hlo, cand_below hc hm (fun h => absurd h hb) a b⟩
    · left
      refine ⟨hlo, cand_above hc hm (le_of_eq a.symm) ?_⟩
      rw [a]
      have : (0 : ℚ) < 1 / 2 * (2 : ℚ) ^ e := by positivity
      linarith
    · right
      apply cand_above hc hm
      · rw [← hhi]; exact le_of_lt hL2
      · rw [← hhi]; exact a


/-! ## 6. the search reaches `n = 17` (or stops earlier with an answer) -/

theorem go_isSome (f : F64) (num den : Nat) (k : Int) (fuel n : Nat) (hn : n ≤ 17) (hfuel : n + fuel = 18)
    (h17 : (divPow10 num den (k - 17) ≠ 0 ∧ roundTrips f (divPow10 num den (k - 17)) (k - 17) = true) ∨
      roundTrips f (divPow10 num den (k - 17) + 1) (k - 17) = true) :
    (shortestDigits.go f num den k fuel n).isSome = true := by
  induction fuel generalizing n with
  | zero => omega
  | succ fuel ih =>
    simp only [shortestDigits.go]
    split
    · split <;> rfl
    · split
      · rfl
      · split
        · rfl
        · rename_i h1 h2 h3
          by_cases hn17 : n = 17
          · exfalso
            subst hn17
            rw [show (k : Int) - ((17 : ℕ) : ℤ) = k - 17 by rfl] at h1 h2 h3
            rcases h17 with ⟨a, b⟩ | b
            · apply h2
              simp [a, b]
            · exact h3 b
          · exact ih (n + 1) (by omega) (by omega)

end Jawk.H17

namespace Jawk
open Jawk.F64 Jawk.F64RT Jawk.H17

/-- the digit search of `Display for f64` succeeds on every canonical finite double -/
theorem F64.shortestDigits_isSome (f : F64) (hc : f.Canonical) (hf : f.isFinite = true) :
    (F64.shortestDigits f).isSome = true := by
  cases f with
  | inf s => simp [F64.isFinite] at hf
  | nan => simp [F64.isFinite] at hf
  | fin s m e =>
    by_cases hm : m = 0
    · subst hm; rfl
    · have hc' : Canonical (fin false m e) := hc
      have hdef : shortestDigits (fin s m e) =
          shortestDigits.go (fin s m e) (toRat (fin false m e)).1 (toRat (fin false m e)).2
            (decExp (toRat (fin false m e)).1 (toRat (fin false m e)).2) 17 1 := by
        simp only [shortestDigits, F64.abs, hm, if_false]
      rw [hdef]
      apply go_isSome _ _ _ _ 17 1 (by decide) (by decide)
      rcases step17 hc' hm with ⟨a, b⟩ | b
      · exact Or.inl ⟨a, roundTrips_of_rd b⟩
      · exact Or.inr (roundTrips_of_rd b)

theorem F64.toDisplay?_isSome (f : F64) (hc : f.Canonical) (hf : f.isFinite = true) :
    (F64.toDisplay? f).isSome = true := by
  cases f with
  | inf s => rfl
  | nan => rfl
  | fin s m e =>
    have h := F64.shortestDigits_isSome (fin s m e) hc hf
    have hd : toDisplay? (fin s m e) = (match shortestDigits (fin s m e) with
        | some (d, p) => some (render s d p)
        | none => none) := rfl
    rw [hd]
    cases hsd : shortestDigits (fin s m e) with
    | none => rw [hsd] at h; simp at h
    | some dp => rfl

/-- `H17` holds: the last hypothesis of the C01/C02 theorems about floats is a theorem. -/
theorem Ser.h17 : Ser.H17 := fun f hc hf => F64.toDisplay?_isSome f hc hf

end Jawk

/-! ## Non-vacuity: instances of the hypotheses, and tests of the search on hard doubles -/

namespace Jawk.H17
open Jawk Jawk.F64 Jawk.F64RT

-- the main theorems instantiated (hypotheses `Canonical`, `isFinite` hold for concrete doubles)
example : (shortestDigits (fin false 1 (-1074))).isSome = true :=
  F64.shortestDigits_isSome _ (by decide) rfl
example : (toDisplay? (fin true (2 ^ 53 - 1) 971)).isSome = true :=
  F64.toDisplay?_isSome _ (by decide) rfl
example : Ser.H17 := Ser.h17

-- the nearest-rounding lemmas instantiated: 1/10 lies less than half an ulp below
-- 0x1999999999999A·2^-56 = 0.1000000000000000055…, so the lemma "from below" applies
example : roundRat false 1 10 = fin false 0x1999999999999A (-56) :=
  roundRat_of_below (by decide) (by decide) (by decide) (by decide) (by norm_num) (by norm_num)
-- 3 = 3·2^51·2^-51 exactly: the lemma "from above" with equality on the left
example : roundRat false 3 1 = fin false (3 * 2 ^ 51) (-51) :=
  roundRat_of_above (by decide) (by decide) (by decide) (by norm_num) (by norm_num)
-- `roundRat_nearest`, first alternative
example : roundRat false 3 1 = fin false (3 * 2 ^ 51) (-51) :=
  roundRat_nearest (q := 3 * 2 ^ 51) (r := 0) (D := 1) (by decide) (by decide) (by decide) (by decide +kernel)
    (Or.inl ⟨rfl, by decide⟩)
-- `decExp` is exact on the extreme magnitudes
example : decExp 1 (2 ^ 1074) = -323 := by decide +kernel
example : decExp ((2 ^ 53 - 1) * 2 ^ 971) 1 = 309 := by decide +kernel
example : (10 : ℚ) ^ (decExp 1 3 - 1) ≤ (1 : ℕ) / (3 : ℕ) ∧ ((1 : ℕ) : ℚ) / (3 : ℕ) < (10 : ℚ) ^ (decExp 1 3) :=
  decExp_exact (by decide) (by decide) (by decide +kernel) (by decide +kernel)
-- `step17` on 0.1
example := step17 (m := 0x1999999999999A) (e := -56) (by decide) (by decide)

/-! tests (labelled as tests): the search on hard doubles, evaluated by the kernel -/
-- 5e-324, the smallest subnormal
example : shortestDigits (fin false 1 (-1074)) = some (5, -324) := by decide +kernel
-- the largest subnormal and the smallest normal (binade boundary at the bottom)
example : shortestDigits (fin false (2 ^ 52 - 1) (-1074)) = some (2225073858507201, -323) := by decide +kernel
example : shortestDigits (fin false (2 ^ 52) (-1074)) = some (22250738585072014, -324) := by decide +kernel
-- binade boundaries `2^52·2^e`
example : shortestDigits (fin false (2 ^ 52) (-1073)) = some (4450147717014403, -323) := by decide +kernel
example : shortestDigits (fin false (2 ^ 52) (-52)) = some (1, 0) := by decide +kernel
example : shortestDigits (fin false (2 ^ 52) 971) = some (898846567431158, 293) := by decide +kernel
-- the largest double 1.7976931348623157e308
example : shortestDigits (fin false (2 ^ 53 - 1) 971) = some (17976931348623157, 292) := by decide +kernel
-- 0.1 and 0.30000000000000004 (17 digits needed)
example : shortestDigits (fin false 0x1999999999999A (-56)) = some (1, -1) := by decide +kernel
example : shortestDigits (fin true 0x13333333333334 (-54)) = some (30000000000000004, -17) := by decide +kernel
-- the neighbours of the unrepresentable 9007199254740993
example : shortestDigits (fin false (2 ^ 52) 1) = some (9007199254740992, 0) := by decide +kernel
example : shortestDigits (fin false (2 ^ 52 + 1) 1) = some (9007199254740994, 0) := by decide +kernel

end Jawk.H17
