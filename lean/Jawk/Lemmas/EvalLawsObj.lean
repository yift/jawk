/-
  Property C04: the object functions (`/repo/src/functions/object/**`) and the type conversions
  (`/repo/src/functions/type_group/cast/*`) evaluate to what their documentation prescribes.

  Same conventions as `EvalLaws.lean`: every law is stated for arbitrary argument EXPRESSIONS whose evaluation
  is a hypothesis; `eval … = .ok none` is the evaluator's "nothing".  An object is its list of members
  `List (Str × JV)` in member order.
-/
import Jawk.Lemmas.EvalLaws
import Jawk.Lemmas.SortFns
namespace Jawk.EvalLaws
open Jawk C04

/-! ## Dispatch: the object functions are skipped by the earlier groups -/
section DispatchObj
variable (ev : Ev) (args : List Expr) (ctx : Ctx)

theorem skipB_filter_keys : callBasic ev "filter_keys" args ctx = none :=
  (skipped_of_object (fn := "filter_keys") (by decide +kernel)).1
theorem skipL_filter_keys : callList ev "filter_keys" args ctx = none :=
  (skipped_of_object (fn := "filter_keys") (by decide +kernel)).2
theorem skipB_filter_values : callBasic ev "filter_values" args ctx = none :=
  (skipped_of_object (fn := "filter_values") (by decide +kernel)).1
theorem skipL_filter_values : callList ev "filter_values" args ctx = none :=
  (skipped_of_object (fn := "filter_values") (by decide +kernel)).2
theorem skipB_map_keys : callBasic ev "map_keys" args ctx = none :=
  (skipped_of_object (fn := "map_keys") (by decide +kernel)).1
theorem skipL_map_keys : callList ev "map_keys" args ctx = none :=
  (skipped_of_object (fn := "map_keys") (by decide +kernel)).2
theorem skipB_map_values : callBasic ev "map_values" args ctx = none :=
  (skipped_of_object (fn := "map_values") (by decide +kernel)).1
theorem skipL_map_values : callList ev "map_values" args ctx = none :=
  (skipped_of_object (fn := "map_values") (by decide +kernel)).2
theorem skipB_insert_if_absent : callBasic ev "insert_if_absent" args ctx = none :=
  (skipped_of_object (fn := "insert_if_absent") (by decide +kernel)).1
theorem skipL_insert_if_absent : callList ev "insert_if_absent" args ctx = none :=
  (skipped_of_object (fn := "insert_if_absent") (by decide +kernel)).2
theorem skipB_put : callBasic ev "put" args ctx = none :=
  (skipped_of_object (fn := "put") (by decide +kernel)).1
theorem skipL_put : callList ev "put" args ctx = none :=
  (skipped_of_object (fn := "put") (by decide +kernel)).2
theorem skipB_replace_if_exists : callBasic ev "replace_if_exists" args ctx = none :=
  (skipped_of_object (fn := "replace_if_exists") (by decide +kernel)).1
theorem skipL_replace_if_exists : callList ev "replace_if_exists" args ctx = none :=
  (skipped_of_object (fn := "replace_if_exists") (by decide +kernel)).2
theorem skipB_sort_by_values_by : callBasic ev "sort_by_values_by" args ctx = none :=
  (skipped_of_object (fn := "sort_by_values_by") (by decide +kernel)).1
theorem skipL_sort_by_values_by : callList ev "sort_by_values_by" args ctx = none :=
  (skipped_of_object (fn := "sort_by_values_by") (by decide +kernel)).2
theorem skipB_sort_by_keys : callBasic ev "sort_by_keys" args ctx = none :=
  (skipped_of_object (fn := "sort_by_keys") (by decide +kernel)).1
theorem skipL_sort_by_keys : callList ev "sort_by_keys" args ctx = none :=
  (skipped_of_object (fn := "sort_by_keys") (by decide +kernel)).2
theorem skipB_sort_by_values : callBasic ev "sort_by_values" args ctx = none :=
  (skipped_of_object (fn := "sort_by_values") (by decide +kernel)).1
theorem skipL_sort_by_values : callList ev "sort_by_values" args ctx = none :=
  (skipped_of_object (fn := "sort_by_values") (by decide +kernel)).2

end DispatchObj

/-! ## Helper lemmas about lists and objects (not about `eval`) -/

/-- the flag `filter_keys` / `filter_values` compute from the function's value on a member -/
theorem keep_flag (x : R) :
    (x >>= fun r => match r with
      | some (.bool true) => Except.ok true
      | _ => .ok false) = x.map isTrue := by
  rcases x with e | _ | _ | (_ | _) | _ | _ | _ | _ <;> rfl

/-- the renamed members of `map_keys`: member `i` gets the `i`-th new key when that is a string, and is dropped otherwise -/
def renameKeys (m : List (Str × JV)) (ks : List (Option JV)) : List (Str × JV) :=
  (m.zip ks).filterMap (fun x => (strArg x.2).map (fun s => (s, x.1.2)))

theorem renameKeys_map (m : List (Str × JV)) (g : Str → Option JV) :
    renameKeys m (m.map (fun kv => g kv.1)) = m.filterMap (fun kv => (strArg (g kv.1)).map (fun s => (s, kv.2))) := by
  induction m with
  | nil => rfl
  | cons x xs ih =>
    simp only [renameKeys] at ih
    simp only [renameKeys, List.map_cons, List.zip_cons_cons, List.filterMap_cons, ih]

/-- the re-valued members of `map_values`: member `i` gets the `i`-th new value, and is dropped when that is nothing -/
def revalue (m : List (Str × JV)) (vs : List (Option JV)) : List (Str × JV) :=
  (m.zip vs).filterMap (fun x => x.2.map (fun v => (x.1.1, v)))

theorem revalue_map (m : List (Str × JV)) (g : JV → Option JV) :
    revalue m (m.map (fun kv => g kv.2)) = m.filterMap (fun kv => (g kv.2).map (fun v => (kv.1, v))) := by
  induction m with
  | nil => rfl
  | cons x xs ih =>
    simp only [revalue] at ih
    simp only [revalue, List.map_cons, List.zip_cons_cons, List.filterMap_cons, ih]

/-! ## One equation per function: its value, whatever the arguments evaluate to -/

/-- the object functions look at their first argument alike: an object is worked on, anything else gives nothing -/
def overObj (v : Option JV) (k : List (Str × JV) → R) : R :=
  match v with
  | some (.obj m) => k m
  | _ => .ok none

theorem overObj_obj (m : List (Str × JV)) (k : List (Str × JV) → R) : overObj (some (.obj m)) k = k m := rfl

theorem overObj_wrong_type {v : Option JV} (hv : isObj v = false) (k : List (Str × JV) → R) :
    overObj v k = .ok none := by
  rcases v with _ | (_ | _ | _ | _ | _ | _) <;> first | rfl | cases hv

/-- `put`, `insert_if_absent` and `replace_if_exists` read their arguments alike: an object, a string key and a value
give the object `g m k v`, anything else gives nothing -/
def setMember (g : List (Str × JV) → Str → JV → List (Str × JV)) (x w y : Option JV) : Option JV :=
  match x, strArg w, y with
  | some (.obj m), some k, some v => some (.obj (g m k v))
  | _, _, _ => none

theorem setMember_wrong_type {g : List (Str × JV) → Str → JV → List (Str × JV)} {x w y : Option JV}
    (h : isObj x = false ∨ strArg w = none ∨ y = none) : setMember g x w y = none := by
  unfold setMember
  split
  · rename_i hk
    rcases h with h | h | h
    · cases h
    · rw [h] at hk; cases hk
    · cases h
  · rfl

section Equations
variable (orc : Oracles) (fuel : Nat) (ctx : Ctx)

theorem filter_keys_eq (a f : Expr) (v : Option JV) (ha : eval orc fuel a ctx = .ok v) :
    eval orc (fuel + 1) (.call "filter_keys" [a, f]) ctx = overObj v fun m =>
      (mapM' (fun kv => (eval orc fuel f (ctx.withInput (.str kv.1))).map isTrue) m).bind fun keep =>
        .ok (some (.obj (select m keep))) := by
  apply eval_object
  call_simp callObject [ha]
  rcases v with _ | (_ | _ | _ | _ | m | _)
  case some.obj => exact congrArg (fun F => some (mapM' F m >>= _)) (funext fun kv => keep_flag _)
  all_goals rfl

theorem filter_values_eq (a f : Expr) (v : Option JV) (ha : eval orc fuel a ctx = .ok v) :
    eval orc (fuel + 1) (.call "filter_values" [a, f]) ctx = overObj v fun m =>
      (mapM' (fun kv => (eval orc fuel f (ctx.withInput kv.2)).map isTrue) m).bind fun keep =>
        .ok (some (.obj (select m keep))) := by
  apply eval_object
  call_simp callObject [ha]
  rcases v with _ | (_ | _ | _ | _ | m | _)
  case some.obj => exact congrArg (fun F => some (mapM' F m >>= _)) (funext fun kv => keep_flag _)
  all_goals rfl

theorem map_keys_eq (a f : Expr) (v : Option JV) (ha : eval orc fuel a ctx = .ok v) :
    eval orc (fuel + 1) (.call "map_keys" [a, f]) ctx = overObj v fun m =>
      (mapM' (fun kv => eval orc fuel f (ctx.withInput (.str kv.1))) m).bind fun ks =>
        .ok (some (.obj (objOfList (renameKeys m ks)))) := by
  apply eval_object
  call_simp callObject [ha]
  rcases v with _ | (_ | _ | _ | _ | m | _)
  case some.obj =>
    -- a new key is kept exactly when `strArg` reads it
    refine congrArg (fun G => some (mapM' _ m >>= G)) (funext fun ks => ?_)
    refine congrArg (fun F => Except.ok (some (JV.obj (objOfList (List.filterMap F (m.zip ks)))))) (funext fun x => ?_)
    rcases x with ⟨kv, _ | (_ | _ | _ | _ | _ | _)⟩ <;> rfl
  all_goals rfl

theorem map_values_eq (a f : Expr) (v : Option JV) (ha : eval orc fuel a ctx = .ok v) :
    eval orc (fuel + 1) (.call "map_values" [a, f]) ctx = overObj v fun m =>
      (mapM' (fun kv => eval orc fuel f (ctx.withInput kv.2)) m).bind fun vs => .ok (some (.obj (revalue m vs))) := by
  apply eval_object
  call_simp callObject [ha]
  rcases v with _ | (_ | _ | _ | _ | _ | _) <;> rfl

theorem put_eq (a b c : Expr) (x w y : Option JV)
    (ha : eval orc fuel a ctx = .ok x) (hb : eval orc fuel b ctx = .ok w) (hc : eval orc fuel c ctx = .ok y) :
    eval orc (fuel + 1) (.call "put" [a, b, c]) ctx = .ok (setMember objInsert x w y) := by
  apply eval_object
  call_simp callObject [ha, hb, hc]
  unfold setMember
  rcases x with _ | (_ | _ | _ | _ | m | _) <;> try rfl
  rcases strArg w with _ | k <;> rcases y with _ | v <;> rfl

theorem insert_if_absent_eq (a b c : Expr) (x w y : Option JV)
    (ha : eval orc fuel a ctx = .ok x) (hb : eval orc fuel b ctx = .ok w) (hc : eval orc fuel c ctx = .ok y) :
    eval orc (fuel + 1) (.call "insert_if_absent" [a, b, c]) ctx =
      .ok (setMember (fun m k v => if (objGet? m k).isSome then m else objInsert m k v) x w y) := by
  apply eval_object
  call_simp callObject [ha, hb, hc]
  unfold setMember
  rcases x with _ | (_ | _ | _ | _ | m | _) <;> try rfl
  rcases strArg w with _ | k <;> rcases y with _ | v <;> rfl

theorem replace_if_exists_eq (a b c : Expr) (x w y : Option JV)
    (ha : eval orc fuel a ctx = .ok x) (hb : eval orc fuel b ctx = .ok w) (hc : eval orc fuel c ctx = .ok y) :
    eval orc (fuel + 1) (.call "replace_if_exists" [a, b, c]) ctx =
      .ok (setMember (fun m k v => if (objGet? m k).isSome then objInsert m k v else m) x w y) := by
  apply eval_object
  call_simp callObject [ha, hb, hc]
  unfold setMember
  rcases x with _ | (_ | _ | _ | _ | m | _) <;> try rfl
  rcases strArg w with _ | k <;> rcases y with _ | v <;> rfl

theorem sort_by_keys_eq (a : Expr) (v : Option JV) (ha : eval orc fuel a ctx = .ok v) :
    eval orc (fuel + 1) (.call "sort_by_keys" [a]) ctx = overObj v fun m =>
      .ok (some (.obj (stableSortBy (fun (x y : Str × JV) => cmpStr x.1 y.1) m))) := by
  apply eval_object
  call_simp callObject [ha]
  rcases v with _ | (_ | _ | _ | _ | _ | _) <;> rfl

theorem sort_by_values_eq (a : Expr) (v : Option JV) (ha : eval orc fuel a ctx = .ok v) :
    eval orc (fuel + 1) (.call "sort_by_values" [a]) ctx = overObj v fun m =>
      .ok (some (.obj (stableSortBy (fun (x y : Str × JV) => JV.cmp x.2 y.2) m))) := by
  apply eval_object
  call_simp callObject [ha]
  rcases v with _ | (_ | _ | _ | _ | _ | _) <;> rfl

theorem sort_by_values_by_eq (a f : Expr) (v : Option JV) (ha : eval orc fuel a ctx = .ok v) :
    eval orc (fuel + 1) (.call "sort_by_values_by" [a, f]) ctx = overObj v fun m =>
      (mapM' (fun kv => eval orc fuel f (ctx.withInput kv.2)) m).bind fun ks =>
        .ok (some (.obj (SortFns.sortZip m ks))) := by
  apply eval_object
  call_simp callObject [ha]
  rcases v with _ | (_ | _ | _ | _ | _ | _) <;> rfl

end Equations

end Jawk.EvalLaws

namespace Jawk.C04
open Jawk EvalLaws

variable (orc : Oracles) (fuel : Nat) (ctx : Ctx)

/-! ## `filter_keys`, `filter_values`: "Filter an object by keys." / "Filter an object by values." -/

theorem filter_keys_aux (a f : Expr) (m : List (Str × JV)) (x : Except Abort (List Bool))
    (ha : eval orc fuel a ctx = .ok (some (.obj m)))
    (hf : mapM' (fun (kv : Str × JV) => (eval orc fuel f (ctx.withInput (.str kv.1))).map isTrue) m = x) :
    eval orc (fuel + 1) (.call "filter_keys" [a, f]) ctx =
      x.bind (fun keep => .ok (some (.obj (select m keep)))) := by
  subst hf
  exact filter_keys_eq orc fuel ctx a f _ ha

theorem filter_keys_obj_ok (a f : Expr) (m : List (Str × JV)) (keep : List Bool)
    (ha : eval orc fuel a ctx = .ok (some (.obj m)))
    (hf : mapM' (fun (kv : Str × JV) => (eval orc fuel f (ctx.withInput (.str kv.1))).map isTrue) m = .ok keep) :
    eval orc (fuel + 1) (.call "filter_keys" [a, f]) ctx = .ok (some (.obj (select m keep))) :=
  filter_keys_aux orc fuel ctx a f m _ ha hf

theorem filter_keys_obj_error (a f : Expr) (m : List (Str × JV)) (e : Abort)
    (ha : eval orc fuel a ctx = .ok (some (.obj m)))
    (hf : mapM' (fun (kv : Str × JV) => (eval orc fuel f (ctx.withInput (.str kv.1))).map isTrue) m = .error e) :
    eval orc (fuel + 1) (.call "filter_keys" [a, f]) ctx = .error e :=
  filter_keys_aux orc fuel ctx a f m _ ha hf

/-- `filter_keys`: the members for whose KEY (given to the function as a string input) the function is `true`, in
their original order -/
theorem filter_keys_obj (a f : Expr) (m : List (Str × JV)) (p : Str → Option JV)
    (ha : eval orc fuel a ctx = .ok (some (.obj m)))
    (hf : ∀ kv ∈ m, eval orc fuel f (ctx.withInput (.str kv.1)) = .ok (p kv.1)) :
    eval orc (fuel + 1) (.call "filter_keys" [a, f]) ctx =
      .ok (some (.obj (m.filter (fun kv => isTrue (p kv.1))))) := by
  rw [filter_keys_obj_ok orc fuel ctx a f m _ ha
    (mapM'_ok _ (fun kv => isTrue (p kv.1)) m (fun kv hkv => by rw [hf kv hkv]; rfl)), select_map]

/-- exactly the members whose key satisfies the predicate, a sub-list of the members -/
theorem filter_keys_members (a f : Expr) (m : List (Str × JV)) (p : Str → Option JV)
    (ha : eval orc fuel a ctx = .ok (some (.obj m)))
    (hf : ∀ kv ∈ m, eval orc fuel f (ctx.withInput (.str kv.1)) = .ok (p kv.1)) :
    ∃ r, eval orc (fuel + 1) (.call "filter_keys" [a, f]) ctx = .ok (some (.obj r)) ∧ r.Sublist m ∧
      ∀ kv, kv ∈ r ↔ kv ∈ m ∧ p kv.1 = some (.bool true) := by
  refine ⟨_, filter_keys_obj orc fuel ctx a f m p ha hf, List.filter_sublist, fun kv => ?_⟩
  rw [List.mem_filter, isTrue_iff]

/-- whatever the function is: the result is a sub-list of the members (same members, same order, some left out),
and an abort is an abort of the function on one of the keys -/
theorem filter_keys_result (a f : Expr) (m : List (Str × JV)) (ha : eval orc fuel a ctx = .ok (some (.obj m))) :
    (∃ r, eval orc (fuel + 1) (.call "filter_keys" [a, f]) ctx = .ok (some (.obj r)) ∧ r.Sublist m) ∨
    (∃ e, eval orc (fuel + 1) (.call "filter_keys" [a, f]) ctx = .error e ∧
        ∃ kv ∈ m, eval orc fuel f (ctx.withInput (.str kv.1)) = .error e) :=
  select_result (fun kv => eval orc fuel f (ctx.withInput (.str kv.1))) m JV.obj _
    (filter_keys_aux orc fuel ctx a f m _ ha rfl)

/-- not an object ⇒ nothing (the documentation's `(filter_keys [1, 2, 4] false)`) -/
theorem filter_keys_wrong_type (a f : Expr) (v : Option JV) (hv : isObj v = false) (ha : eval orc fuel a ctx = .ok v) :
    eval orc (fuel + 1) (.call "filter_keys" [a, f]) ctx = .ok none :=
  (filter_keys_eq orc fuel ctx a f v ha).trans (overObj_wrong_type hv _)

theorem filter_values_aux (a f : Expr) (m : List (Str × JV)) (x : Except Abort (List Bool))
    (ha : eval orc fuel a ctx = .ok (some (.obj m)))
    (hf : mapM' (fun (kv : Str × JV) => (eval orc fuel f (ctx.withInput kv.2)).map isTrue) m = x) :
    eval orc (fuel + 1) (.call "filter_values" [a, f]) ctx =
      x.bind (fun keep => .ok (some (.obj (select m keep)))) := by
  subst hf
  exact filter_values_eq orc fuel ctx a f _ ha

theorem filter_values_obj_ok (a f : Expr) (m : List (Str × JV)) (keep : List Bool)
    (ha : eval orc fuel a ctx = .ok (some (.obj m)))
    (hf : mapM' (fun (kv : Str × JV) => (eval orc fuel f (ctx.withInput kv.2)).map isTrue) m = .ok keep) :
    eval orc (fuel + 1) (.call "filter_values" [a, f]) ctx = .ok (some (.obj (select m keep))) :=
  filter_values_aux orc fuel ctx a f m _ ha hf

theorem filter_values_obj_error (a f : Expr) (m : List (Str × JV)) (e : Abort)
    (ha : eval orc fuel a ctx = .ok (some (.obj m)))
    (hf : mapM' (fun (kv : Str × JV) => (eval orc fuel f (ctx.withInput kv.2)).map isTrue) m = .error e) :
    eval orc (fuel + 1) (.call "filter_values" [a, f]) ctx = .error e :=
  filter_values_aux orc fuel ctx a f m _ ha hf

/-- `filter_values`: the members for whose VALUE (the function's input) the function is `true`, in their original order -/
theorem filter_values_obj (a f : Expr) (m : List (Str × JV)) (p : JV → Option JV)
    (ha : eval orc fuel a ctx = .ok (some (.obj m)))
    (hf : ∀ kv ∈ m, eval orc fuel f (ctx.withInput kv.2) = .ok (p kv.2)) :
    eval orc (fuel + 1) (.call "filter_values" [a, f]) ctx =
      .ok (some (.obj (m.filter (fun kv => isTrue (p kv.2))))) := by
  rw [filter_values_obj_ok orc fuel ctx a f m _ ha
    (mapM'_ok _ (fun kv => isTrue (p kv.2)) m (fun kv hkv => by rw [hf kv hkv]; rfl)), select_map]

/-- exactly the members whose value satisfies the predicate, a sub-list of the members -/
theorem filter_values_members (a f : Expr) (m : List (Str × JV)) (p : JV → Option JV)
    (ha : eval orc fuel a ctx = .ok (some (.obj m)))
    (hf : ∀ kv ∈ m, eval orc fuel f (ctx.withInput kv.2) = .ok (p kv.2)) :
    ∃ r, eval orc (fuel + 1) (.call "filter_values" [a, f]) ctx = .ok (some (.obj r)) ∧ r.Sublist m ∧
      ∀ kv, kv ∈ r ↔ kv ∈ m ∧ p kv.2 = some (.bool true) := by
  refine ⟨_, filter_values_obj orc fuel ctx a f m p ha hf, List.filter_sublist, fun kv => ?_⟩
  rw [List.mem_filter, isTrue_iff]

theorem filter_values_result (a f : Expr) (m : List (Str × JV)) (ha : eval orc fuel a ctx = .ok (some (.obj m))) :
    (∃ r, eval orc (fuel + 1) (.call "filter_values" [a, f]) ctx = .ok (some (.obj r)) ∧ r.Sublist m) ∨
    (∃ e, eval orc (fuel + 1) (.call "filter_values" [a, f]) ctx = .error e ∧
        ∃ kv ∈ m, eval orc fuel f (ctx.withInput kv.2) = .error e) :=
  select_result (fun kv => eval orc fuel f (ctx.withInput kv.2)) m JV.obj _
    (filter_values_aux orc fuel ctx a f m _ ha rfl)

theorem filter_values_wrong_type (a f : Expr) (v : Option JV) (hv : isObj v = false) (ha : eval orc fuel a ctx = .ok v) :
    eval orc (fuel + 1) (.call "filter_values" [a, f]) ctx = .ok none :=
  (filter_values_eq orc fuel ctx a f v ha).trans (overObj_wrong_type hv _)

/-- a constant `true` keeps every member, any other constant none -/
theorem filter_keys_const_true (a : Expr) (m : List (Str × JV)) (ha : eval orc (fuel + 1) a ctx = .ok (some (.obj m))) :
    eval orc (fuel + 2) (.call "filter_keys" [a, .const (.bool true)]) ctx = .ok (some (.obj m)) := by
  rw [filter_keys_obj orc (fuel + 1) ctx a _ m (fun _ => some (.bool true)) ha (fun _ _ => rfl),
    (List.filter_eq_self (p := fun _ => EvalLaws.isTrue (some (.bool true)))).2 fun _ _ => rfl]

theorem filter_values_const_not_true (a : Expr) (m : List (Str × JV)) (c : JV) (hc : isTrue (some c) = false)
    (ha : eval orc (fuel + 1) a ctx = .ok (some (.obj m))) :
    eval orc (fuel + 2) (.call "filter_values" [a, .const c]) ctx = .ok (some (.obj [])) := by
  rw [filter_values_obj orc (fuel + 1) ctx a _ m (fun _ => some c) ha (fun _ _ => rfl),
    List.filter_eq_nil_iff.2 fun _ _ => ne_true_of_eq_false hc]

/-! ## `map_keys`: "Map an object keys." -/

theorem map_keys_obj_ok (a f : Expr) (m : List (Str × JV)) (ks : List (Option JV))
    (ha : eval orc fuel a ctx = .ok (some (.obj m)))
    (hf : mapM' (fun (kv : Str × JV) => eval orc fuel f (ctx.withInput (.str kv.1))) m = .ok ks) :
    eval orc (fuel + 1) (.call "map_keys" [a, f]) ctx = .ok (some (.obj (objOfList (renameKeys m ks)))) := by
  rw [map_keys_eq orc fuel ctx a f _ ha, overObj_obj, hf]
  rfl

theorem map_keys_obj_error (a f : Expr) (m : List (Str × JV)) (e : Abort)
    (ha : eval orc fuel a ctx = .ok (some (.obj m)))
    (hf : mapM' (fun (kv : Str × JV) => eval orc fuel f (ctx.withInput (.str kv.1))) m = .error e) :
    eval orc (fuel + 1) (.call "map_keys" [a, f]) ctx = .error e := by
  rw [map_keys_eq orc fuel ctx a f _ ha, overObj_obj, hf]
  rfl

/-- `map_keys`: every member is renamed to the function's value on its key; members whose new key is not a string are
dropped; the renamed members are collected into an object (`objOfList`: a later member with an equal new key REPLACES the
value of the earlier one, at the earlier one's place) -/
theorem map_keys_obj (a f : Expr) (m : List (Str × JV)) (g : Str → Option JV)
    (ha : eval orc fuel a ctx = .ok (some (.obj m)))
    (hf : ∀ kv ∈ m, eval orc fuel f (ctx.withInput (.str kv.1)) = .ok (g kv.1)) :
    eval orc (fuel + 1) (.call "map_keys" [a, f]) ctx =
      .ok (some (.obj (objOfList (m.filterMap (fun kv => (strArg (g kv.1)).map (fun s => (s, kv.2))))))) := by
  rw [map_keys_obj_ok orc fuel ctx a f m _ ha (mapM'_ok _ (fun kv => g kv.1) m hf), renameKeys_map]

/-- a renaming to strings that makes no two keys equal: same values, same order, new keys -/
theorem map_keys_injective (a f : Expr) (m : List (Str × JV)) (g : Str → Str)
    (hnd : (m.map (fun kv => g kv.1)).Nodup)
    (ha : eval orc fuel a ctx = .ok (some (.obj m)))
    (hf : ∀ kv ∈ m, eval orc fuel f (ctx.withInput (.str kv.1)) = .ok (some (.str (g kv.1)))) :
    eval orc (fuel + 1) (.call "map_keys" [a, f]) ctx = .ok (some (.obj (m.map (fun kv => (g kv.1, kv.2))))) := by
  rw [map_keys_obj orc fuel ctx a f m (fun k => some (.str (g k))) ha hf]
  simp only [strArg, Option.map_some, List.filterMap_eq_map']
  rw [objOfList_of_nodup]
  simpa [objKeys, List.map_map, Function.comp_def] using hnd

/-- the corollary for an injective renaming of an object with distinct keys -/
theorem map_keys_injective' (a f : Expr) (m : List (Str × JV)) (g : Str → Str)
    (hm : (objKeys m).Nodup) (hg : ∀ k₁ k₂, g k₁ = g k₂ → k₁ = k₂)
    (ha : eval orc fuel a ctx = .ok (some (.obj m)))
    (hf : ∀ kv ∈ m, eval orc fuel f (ctx.withInput (.str kv.1)) = .ok (some (.str (g kv.1)))) :
    eval orc (fuel + 1) (.call "map_keys" [a, f]) ctx = .ok (some (.obj (m.map (fun kv => (g kv.1, kv.2))))) := by
  refine map_keys_injective orc fuel ctx a f m g ?_ ha hf
  have : (objKeys m).map g = m.map (fun kv => g kv.1) := by simp [objKeys, List.map_map, Function.comp_def]
  rw [← this]
  exact List.Pairwise.map g (fun a b hab e => hab (hg a b e)) hm

/-- what the collected result looks like in general: its keys are distinct and are the string results in order of
first occurrence; looking a new key up gives the value of the LAST member renamed to it -/
theorem map_keys_lookup (a f : Expr) (m : List (Str × JV)) (g : Str → Option JV)
    (ha : eval orc fuel a ctx = .ok (some (.obj m)))
    (hf : ∀ kv ∈ m, eval orc fuel f (ctx.withInput (.str kv.1)) = .ok (g kv.1)) :
    ∃ r, eval orc (fuel + 1) (.call "map_keys" [a, f]) ctx = .ok (some (.obj r)) ∧
      (objKeys r).Nodup ∧
      objKeys r = (m.filterMap (fun kv => strArg (g kv.1))).eraseDups ∧
      ∀ k, objGet? r k = ((m.reverse.find? (fun kv => strArg (g kv.1) == some k)).map (·.2)) := by
  refine ⟨_, map_keys_obj orc fuel ctx a f m g ha hf, objOfList_nodup_keys _, ?_, fun k => ?_⟩
  · rw [objOfList_keys]
    congr 1
    simp only [objKeys, List.map_filterMap]
    congr 1; funext kv
    cases strArg (g kv.1) <;> rfl
  · rw [objGet?_objOfList, ← List.filterMap_reverse]
    generalize m.reverse = l
    induction l with
    | nil => rfl
    | cons x xs ih =>
      cases hx : strArg (g x.1) with
      | none =>
        simp only [List.filterMap_cons, List.find?_cons, hx, Option.map_none, ih]
        rfl
      | some s =>
        simp only [List.filterMap_cons, List.find?_cons, hx, Option.map_some]
        by_cases hs : s = k
        · subst hs; simp
        · have h1 : (some s == some k) = false := by simp [hs]
          have h2 : (s == k) = false := by simp [hs]
          simp only [h1, h2]
          exact ih

theorem map_keys_wrong_type (a f : Expr) (v : Option JV) (hv : isObj v = false) (ha : eval orc fuel a ctx = .ok v) :
    eval orc (fuel + 1) (.call "map_keys" [a, f]) ctx = .ok none :=
  (map_keys_eq orc fuel ctx a f v ha).trans (overObj_wrong_type hv _)

/-- no new key is a string (the documentation's `(map_keys {…} (number? .))`): the empty object -/
theorem map_keys_no_string (a f : Expr) (m : List (Str × JV)) (g : Str → Option JV)
    (hg : ∀ kv ∈ m, strArg (g kv.1) = none)
    (ha : eval orc fuel a ctx = .ok (some (.obj m)))
    (hf : ∀ kv ∈ m, eval orc fuel f (ctx.withInput (.str kv.1)) = .ok (g kv.1)) :
    eval orc (fuel + 1) (.call "map_keys" [a, f]) ctx = .ok (some (.obj [])) := by
  rw [map_keys_obj orc fuel ctx a f m g ha hf]
  have : m.filterMap (fun kv => (strArg (g kv.1)).map (fun s => (s, kv.2))) = [] := by
    rw [List.filterMap_eq_nil_iff]
    intro kv hkv; simp [hg kv hkv]
  rw [this]; rfl

/-! ## `map_values`: "Map an object values." -/

theorem map_values_obj_ok (a f : Expr) (m : List (Str × JV)) (vs : List (Option JV))
    (ha : eval orc fuel a ctx = .ok (some (.obj m)))
    (hf : mapM' (fun (kv : Str × JV) => eval orc fuel f (ctx.withInput kv.2)) m = .ok vs) :
    eval orc (fuel + 1) (.call "map_values" [a, f]) ctx = .ok (some (.obj (revalue m vs))) := by
  rw [map_values_eq orc fuel ctx a f _ ha, overObj_obj, hf]
  rfl

theorem map_values_obj_error (a f : Expr) (m : List (Str × JV)) (e : Abort)
    (ha : eval orc fuel a ctx = .ok (some (.obj m)))
    (hf : mapM' (fun (kv : Str × JV) => eval orc fuel f (ctx.withInput kv.2)) m = .error e) :
    eval orc (fuel + 1) (.call "map_values" [a, f]) ctx = .error e := by
  rw [map_values_eq orc fuel ctx a f _ ha, overObj_obj, hf]
  rfl

/-- `map_values`: every member keeps its key and gets the function's value on its value; a member on whose value the
function gives nothing is dropped; the order is kept -/
theorem map_values_obj (a f : Expr) (m : List (Str × JV)) (g : JV → Option JV)
    (ha : eval orc fuel a ctx = .ok (some (.obj m)))
    (hf : ∀ kv ∈ m, eval orc fuel f (ctx.withInput kv.2) = .ok (g kv.2)) :
    eval orc (fuel + 1) (.call "map_values" [a, f]) ctx =
      .ok (some (.obj (m.filterMap (fun kv => (g kv.2).map (fun v => (kv.1, v)))))) := by
  rw [map_values_obj_ok orc fuel ctx a f m _ ha (mapM'_ok _ (fun kv => g kv.2) m hf), revalue_map]

/-- the function gives a value for every member: same keys, same order, values mapped -/
theorem map_values_total (a f : Expr) (m : List (Str × JV)) (g : JV → JV)
    (ha : eval orc fuel a ctx = .ok (some (.obj m)))
    (hf : ∀ kv ∈ m, eval orc fuel f (ctx.withInput kv.2) = .ok (some (g kv.2))) :
    eval orc (fuel + 1) (.call "map_values" [a, f]) ctx = .ok (some (.obj (m.map (fun kv => (kv.1, g kv.2))))) := by
  rw [map_values_obj orc fuel ctx a f m (fun v => some (g v)) ha hf]
  simp only [Option.map_some, List.filterMap_eq_map']

/-- `keys (map_values o f) = keys o` for a function that always gives a value -/
theorem keys_map_values_total (a f : Expr) (m : List (Str × JV)) (g : JV → JV)
    (ha : eval orc fuel a ctx = .ok (some (.obj m)))
    (hf : ∀ kv ∈ m, eval orc fuel f (ctx.withInput kv.2) = .ok (some (g kv.2))) :
    eval orc (fuel + 2) (.call "keys" [.call "map_values" [a, f]]) ctx = eval orc (fuel + 1) (.call "keys" [a]) ctx := by
  rw [keys_obj orc (fuel + 1) ctx _ _ (map_values_total orc fuel ctx a f m g ha hf), keys_obj orc fuel ctx a m ha,
    List.map_map]
  rfl

/-- whatever the function is: the keys of the result are a sub-list of the keys (at most as many members, same order) -/
theorem map_values_result (a f : Expr) (m : List (Str × JV)) (ha : eval orc fuel a ctx = .ok (some (.obj m))) :
    (∃ r, eval orc (fuel + 1) (.call "map_values" [a, f]) ctx = .ok (some (.obj r)) ∧
        (objKeys r).Sublist (objKeys m) ∧ r.length ≤ m.length) ∨
    (∃ e, eval orc (fuel + 1) (.call "map_values" [a, f]) ctx = .error e ∧
        ∃ kv ∈ m, eval orc fuel f (ctx.withInput kv.2) = .error e) := by
  cases h : mapM' (fun (kv : Str × JV) => eval orc fuel f (ctx.withInput kv.2)) m with
  | error e => exact .inr ⟨e, map_values_obj_error orc fuel ctx a f m e ha h, mapM'_error _ m e h⟩
  | ok vs =>
    refine .inl ⟨_, map_values_obj_ok orc fuel ctx a f m vs ha h, ?_⟩
    have key : ∀ (m : List (Str × JV)) (vs : List (Option JV)), (objKeys (revalue m vs)).Sublist (objKeys m) := by
      intro m
      induction m with
      | nil => intro vs; simp [revalue, objKeys]
      | cons x xs ih =>
        intro vs
        cases vs with
        | nil => simp [revalue, objKeys]
        | cons w ws =>
          have := ih ws
          simp only [revalue, objKeys] at this
          cases w with
          | none => simpa [revalue, objKeys] using this.cons x.1
          | some w => simpa [revalue, objKeys] using this.cons_cons x.1
    refine ⟨key m vs, ?_⟩
    have := (key m vs).length_le
    simpa [objKeys] using this

theorem map_values_wrong_type (a f : Expr) (v : Option JV) (hv : isObj v = false) (ha : eval orc fuel a ctx = .ok v) :
    eval orc (fuel + 1) (.call "map_values" [a, f]) ctx = .ok none :=
  (map_values_eq orc fuel ctx a f v ha).trans (overObj_wrong_type hv _)

/-! ## `put`, `insert_if_absent`, `replace_if_exists` -/

/-- `put`: "Add a new entry to a map. … If the object has that key, it will be replaced." (`IndexMap::insert`) -/
theorem put_obj (a b c : Expr) (m : List (Str × JV)) (k : Str) (v : JV)
    (ha : eval orc fuel a ctx = .ok (some (.obj m))) (hb : eval orc fuel b ctx = .ok (some (.str k)))
    (hc : eval orc fuel c ctx = .ok (some v)) :
    eval orc (fuel + 1) (.call "put" [a, b, c]) ctx = .ok (some (.obj (objInsert m k v))) :=
  put_eq orc fuel ctx a b c _ _ _ ha hb hc

/-- a new key goes last -/
theorem put_absent (a b c : Expr) (m : List (Str × JV)) (k : Str) (v : JV) (hk : objGet? m k = none)
    (ha : eval orc fuel a ctx = .ok (some (.obj m))) (hb : eval orc fuel b ctx = .ok (some (.str k)))
    (hc : eval orc fuel c ctx = .ok (some v)) :
    eval orc (fuel + 1) (.call "put" [a, b, c]) ctx = .ok (some (.obj (m ++ [(k, v)]))) := by
  rw [put_obj orc fuel ctx a b c m k v ha hb hc, objInsert_absent m k v hk]

/-- an existing key keeps its place: only the value of the (first) member with that key changes -/
theorem put_present (a b c : Expr) (m : List (Str × JV)) (k : Str) (v : JV) (hk : (objGet? m k).isSome)
    (ha : eval orc fuel a ctx = .ok (some (.obj m))) (hb : eval orc fuel b ctx = .ok (some (.str k)))
    (hc : eval orc fuel c ctx = .ok (some v)) :
    ∃ pre post w, m = pre ++ (k, w) :: post ∧ (∀ kv ∈ pre, kv.1 ≠ k) ∧
      eval orc (fuel + 1) (.call "put" [a, b, c]) ctx = .ok (some (.obj (pre ++ (k, v) :: post))) := by
  obtain ⟨pre, post, w, h1, h2, h3⟩ := objInsert_present m k v hk
  exact ⟨pre, post, w, h1, h2, by rw [put_obj orc fuel ctx a b c m k v ha hb hc, h3]⟩

/-- put then get gives the value -/
theorem get_put_same (a b c b' : Expr) (m : List (Str × JV)) (k : Str) (v : JV)
    (ha : eval orc fuel a ctx = .ok (some (.obj m))) (hb : eval orc fuel b ctx = .ok (some (.str k)))
    (hc : eval orc fuel c ctx = .ok (some v)) (hb' : eval orc (fuel + 1) b' ctx = .ok (some (.str k))) :
    eval orc (fuel + 2) (.call "get" [.call "put" [a, b, c], b']) ctx = .ok (some v) := by
  rw [get_obj orc (fuel + 1) ctx _ b' _ k (put_obj orc fuel ctx a b c m k v ha hb hc) hb', objGet?_objInsert_same]

/-- the other keys are unchanged -/
theorem get_put_other (a b c b' : Expr) (m : List (Str × JV)) (k k' : Str) (v : JV) (hk : k' ≠ k)
    (ha : eval orc fuel a ctx = .ok (some (.obj m))) (hb : eval orc fuel b ctx = .ok (some (.str k)))
    (hc : eval orc fuel c ctx = .ok (some v)) (hb' : eval orc (fuel + 1) b' ctx = .ok (some (.str k'))) :
    eval orc (fuel + 2) (.call "get" [.call "put" [a, b, c], b']) ctx = .ok (objGet? m k') := by
  rw [get_obj orc (fuel + 1) ctx _ b' _ k' (put_obj orc fuel ctx a b c m k v ha hb hc) hb',
    objGet?_objInsert_other m k k' v hk]

/-- member order: the keys are unchanged when the key was there, and get the new key at the end otherwise -/
theorem keys_put (a b c : Expr) (m : List (Str × JV)) (k : Str) (v : JV)
    (ha : eval orc fuel a ctx = .ok (some (.obj m))) (hb : eval orc fuel b ctx = .ok (some (.str k)))
    (hc : eval orc fuel c ctx = .ok (some v)) :
    eval orc (fuel + 2) (.call "keys" [.call "put" [a, b, c]]) ctx =
      .ok (some (.arr ((if (objGet? m k).isSome then objKeys m else objKeys m ++ [k]).map JV.str))) := by
  rw [keys_obj orc (fuel + 1) ctx _ _ (put_obj orc fuel ctx a b c m k v ha hb hc), ← objKeys_objInsert m k v]
  simp [objKeys, List.map_map, Function.comp_def]

/-- the size grows by one exactly when the key was absent -/
theorem size_put (a b c : Expr) (m : List (Str × JV)) (k : Str) (v : JV)
    (ha : eval orc fuel a ctx = .ok (some (.obj m))) (hb : eval orc fuel b ctx = .ok (some (.str k)))
    (hc : eval orc fuel c ctx = .ok (some v)) :
    eval orc (fuel + 2) (.call "size" [.call "put" [a, b, c]]) ctx =
      .ok (some (.num (.pos (if (objGet? m k).isSome then m.length else m.length + 1)))) := by
  rw [size_obj orc (fuel + 1) ctx _ _ (put_obj orc fuel ctx a b c m k v ha hb hc), length_objInsert]

/-- the first argument is not an object, the key is not a string, or the value is nothing ⇒ nothing -/
theorem put_wrong_type (a b c : Expr) (x w y : Option JV) (h : isObj x = false ∨ strArg w = none ∨ y = none)
    (ha : eval orc fuel a ctx = .ok x) (hb : eval orc fuel b ctx = .ok w) (hc : eval orc fuel c ctx = .ok y) :
    eval orc (fuel + 1) (.call "put" [a, b, c]) ctx = .ok none := by
  rw [put_eq orc fuel ctx a b c x w y ha hb hc, setMember_wrong_type h]

/-- `insert_if_absent`: "Add a new entry to a map if it has no such key. … If the object has that key, it will not be
replaced." -/
theorem insert_if_absent_obj (a b c : Expr) (m : List (Str × JV)) (k : Str) (v : JV)
    (ha : eval orc fuel a ctx = .ok (some (.obj m))) (hb : eval orc fuel b ctx = .ok (some (.str k)))
    (hc : eval orc fuel c ctx = .ok (some v)) :
    eval orc (fuel + 1) (.call "insert_if_absent" [a, b, c]) ctx =
      .ok (some (.obj (if (objGet? m k).isSome then m else m ++ [(k, v)]))) := by
  rw [insert_if_absent_eq orc fuel ctx a b c _ _ _ ha hb hc]
  show Except.ok (some (JV.obj (if (objGet? m k).isSome then m else objInsert m k v))) = _
  split
  · rfl
  · rename_i h
    rw [objInsert_absent m k v (by simpa using h)]

/-- the key is there: the object is returned as it is -/
theorem insert_if_absent_present (a b c : Expr) (m : List (Str × JV)) (k : Str) (v : JV) (hk : (objGet? m k).isSome)
    (ha : eval orc fuel a ctx = .ok (some (.obj m))) (hb : eval orc fuel b ctx = .ok (some (.str k)))
    (hc : eval orc fuel c ctx = .ok (some v)) :
    eval orc (fuel + 1) (.call "insert_if_absent" [a, b, c]) ctx = .ok (some (.obj m)) := by
  rw [insert_if_absent_obj orc fuel ctx a b c m k v ha hb hc, if_pos hk]

/-- the key is not there: the new member goes last -/
theorem insert_if_absent_absent (a b c : Expr) (m : List (Str × JV)) (k : Str) (v : JV) (hk : objGet? m k = none)
    (ha : eval orc fuel a ctx = .ok (some (.obj m))) (hb : eval orc fuel b ctx = .ok (some (.str k)))
    (hc : eval orc fuel c ctx = .ok (some v)) :
    eval orc (fuel + 1) (.call "insert_if_absent" [a, b, c]) ctx = .ok (some (.obj (m ++ [(k, v)]))) := by
  rw [insert_if_absent_obj orc fuel ctx a b c m k v ha hb hc, if_neg (by simp [hk])]

/-- looking the key up afterwards gives the old value if there was one, the new value otherwise -/
theorem get_insert_if_absent_same (a b c b' : Expr) (m : List (Str × JV)) (k : Str) (v : JV)
    (ha : eval orc fuel a ctx = .ok (some (.obj m))) (hb : eval orc fuel b ctx = .ok (some (.str k)))
    (hc : eval orc fuel c ctx = .ok (some v)) (hb' : eval orc (fuel + 1) b' ctx = .ok (some (.str k))) :
    eval orc (fuel + 2) (.call "get" [.call "insert_if_absent" [a, b, c], b']) ctx =
      .ok (some ((objGet? m k).getD v)) := by
  rw [get_obj orc (fuel + 1) ctx _ b' _ k (insert_if_absent_obj orc fuel ctx a b c m k v ha hb hc) hb']
  cases h : objGet? m k with
  | some w => simp [h]
  | none =>
    have := objGet?_objInsert_same m k v
    rw [objInsert_absent m k v h] at this
    simp [this]

theorem get_insert_if_absent_other (a b c b' : Expr) (m : List (Str × JV)) (k k' : Str) (v : JV) (hk : k' ≠ k)
    (ha : eval orc fuel a ctx = .ok (some (.obj m))) (hb : eval orc fuel b ctx = .ok (some (.str k)))
    (hc : eval orc fuel c ctx = .ok (some v)) (hb' : eval orc (fuel + 1) b' ctx = .ok (some (.str k'))) :
    eval orc (fuel + 2) (.call "get" [.call "insert_if_absent" [a, b, c], b']) ctx = .ok (objGet? m k') := by
  rw [get_obj orc (fuel + 1) ctx _ b' _ k' (insert_if_absent_obj orc fuel ctx a b c m k v ha hb hc) hb']
  cases h : objGet? m k with
  | some w => simp
  | none =>
    have := objGet?_objInsert_other m k k' v hk
    rw [objInsert_absent m k v h] at this
    simp [this]

theorem size_insert_if_absent (a b c : Expr) (m : List (Str × JV)) (k : Str) (v : JV)
    (ha : eval orc fuel a ctx = .ok (some (.obj m))) (hb : eval orc fuel b ctx = .ok (some (.str k)))
    (hc : eval orc fuel c ctx = .ok (some v)) :
    eval orc (fuel + 2) (.call "size" [.call "insert_if_absent" [a, b, c]]) ctx =
      .ok (some (.num (.pos (if (objGet? m k).isSome then m.length else m.length + 1)))) := by
  rw [size_obj orc (fuel + 1) ctx _ _ (insert_if_absent_obj orc fuel ctx a b c m k v ha hb hc)]
  split <;> simp

theorem insert_if_absent_wrong_type (a b c : Expr) (x w y : Option JV)
    (h : isObj x = false ∨ strArg w = none ∨ y = none)
    (ha : eval orc fuel a ctx = .ok x) (hb : eval orc fuel b ctx = .ok w) (hc : eval orc fuel c ctx = .ok y) :
    eval orc (fuel + 1) (.call "insert_if_absent" [a, b, c]) ctx = .ok none := by
  rw [insert_if_absent_eq orc fuel ctx a b c x w y ha hb hc, setMember_wrong_type h]

/-- `replace_if_exists`: "Add a new entry to a map if it has such key. … If the object dosen't has that key, it will not
be replaced." -/
theorem replace_if_exists_obj (a b c : Expr) (m : List (Str × JV)) (k : Str) (v : JV)
    (ha : eval orc fuel a ctx = .ok (some (.obj m))) (hb : eval orc fuel b ctx = .ok (some (.str k)))
    (hc : eval orc fuel c ctx = .ok (some v)) :
    eval orc (fuel + 1) (.call "replace_if_exists" [a, b, c]) ctx =
      .ok (some (.obj (if (objGet? m k).isSome then objInsert m k v else m))) :=
  replace_if_exists_eq orc fuel ctx a b c _ _ _ ha hb hc

/-- the key is not there: the object is returned as it is -/
theorem replace_if_exists_absent (a b c : Expr) (m : List (Str × JV)) (k : Str) (v : JV) (hk : objGet? m k = none)
    (ha : eval orc fuel a ctx = .ok (some (.obj m))) (hb : eval orc fuel b ctx = .ok (some (.str k)))
    (hc : eval orc fuel c ctx = .ok (some v)) :
    eval orc (fuel + 1) (.call "replace_if_exists" [a, b, c]) ctx = .ok (some (.obj m)) := by
  rw [replace_if_exists_obj orc fuel ctx a b c m k v ha hb hc, if_neg (by simp [hk])]

/-- the key is there: its member gets the new value and keeps its place -/
theorem replace_if_exists_present (a b c : Expr) (m : List (Str × JV)) (k : Str) (v : JV) (hk : (objGet? m k).isSome)
    (ha : eval orc fuel a ctx = .ok (some (.obj m))) (hb : eval orc fuel b ctx = .ok (some (.str k)))
    (hc : eval orc fuel c ctx = .ok (some v)) :
    ∃ pre post w, m = pre ++ (k, w) :: post ∧ (∀ kv ∈ pre, kv.1 ≠ k) ∧
      eval orc (fuel + 1) (.call "replace_if_exists" [a, b, c]) ctx = .ok (some (.obj (pre ++ (k, v) :: post))) := by
  obtain ⟨pre, post, w, h1, h2, h3⟩ := objInsert_present m k v hk
  exact ⟨pre, post, w, h1, h2, by rw [replace_if_exists_obj orc fuel ctx a b c m k v ha hb hc, if_pos hk, h3]⟩

/-- looking the key up afterwards gives the new value exactly when there was an old one -/
theorem get_replace_if_exists_same (a b c b' : Expr) (m : List (Str × JV)) (k : Str) (v : JV)
    (ha : eval orc fuel a ctx = .ok (some (.obj m))) (hb : eval orc fuel b ctx = .ok (some (.str k)))
    (hc : eval orc fuel c ctx = .ok (some v)) (hb' : eval orc (fuel + 1) b' ctx = .ok (some (.str k))) :
    eval orc (fuel + 2) (.call "get" [.call "replace_if_exists" [a, b, c], b']) ctx =
      .ok ((objGet? m k).map (fun _ => v)) := by
  rw [get_obj orc (fuel + 1) ctx _ b' _ k (replace_if_exists_obj orc fuel ctx a b c m k v ha hb hc) hb']
  cases h : objGet? m k with
  | some w => simp [objGet?_objInsert_same]
  | none => simp [h]

theorem get_replace_if_exists_other (a b c b' : Expr) (m : List (Str × JV)) (k k' : Str) (v : JV) (hk : k' ≠ k)
    (ha : eval orc fuel a ctx = .ok (some (.obj m))) (hb : eval orc fuel b ctx = .ok (some (.str k)))
    (hc : eval orc fuel c ctx = .ok (some v)) (hb' : eval orc (fuel + 1) b' ctx = .ok (some (.str k'))) :
    eval orc (fuel + 2) (.call "get" [.call "replace_if_exists" [a, b, c], b']) ctx = .ok (objGet? m k') := by
  rw [get_obj orc (fuel + 1) ctx _ b' _ k' (replace_if_exists_obj orc fuel ctx a b c m k v ha hb hc) hb']
  split
  · rw [objGet?_objInsert_other m k k' v hk]
  · rfl

/-- the keys (and so the size and the member order) never change -/
theorem keys_replace_if_exists (a b c : Expr) (m : List (Str × JV)) (k : Str) (v : JV)
    (ha : eval orc fuel a ctx = .ok (some (.obj m))) (hb : eval orc fuel b ctx = .ok (some (.str k)))
    (hc : eval orc fuel c ctx = .ok (some v)) :
    eval orc (fuel + 2) (.call "keys" [.call "replace_if_exists" [a, b, c]]) ctx =
      .ok (some (.arr ((objKeys m).map JV.str))) := by
  rw [keys_obj orc (fuel + 1) ctx _ _ (replace_if_exists_obj orc fuel ctx a b c m k v ha hb hc)]
  have : objKeys (if (objGet? m k).isSome then objInsert m k v else m) = objKeys m := by
    split
    · rename_i h; rw [objKeys_objInsert, if_pos h]
    · rfl
  rw [← this]
  simp [objKeys, List.map_map, Function.comp_def]

theorem size_replace_if_exists (a b c : Expr) (m : List (Str × JV)) (k : Str) (v : JV)
    (ha : eval orc fuel a ctx = .ok (some (.obj m))) (hb : eval orc fuel b ctx = .ok (some (.str k)))
    (hc : eval orc fuel c ctx = .ok (some v)) :
    eval orc (fuel + 2) (.call "size" [.call "replace_if_exists" [a, b, c]]) ctx = .ok (some (.num (.pos m.length))) := by
  rw [size_obj orc (fuel + 1) ctx _ _ (replace_if_exists_obj orc fuel ctx a b c m k v ha hb hc)]
  split
  · rename_i h; rw [length_objInsert, if_pos h]
  · rfl

theorem replace_if_exists_wrong_type (a b c : Expr) (x w y : Option JV)
    (h : isObj x = false ∨ strArg w = none ∨ y = none)
    (ha : eval orc fuel a ctx = .ok x) (hb : eval orc fuel b ctx = .ok w) (hc : eval orc fuel c ctx = .ok y) :
    eval orc (fuel + 1) (.call "replace_if_exists" [a, b, c]) ctx = .ok none := by
  rw [replace_if_exists_eq orc fuel ctx a b c x w y ha hb hc, setMember_wrong_type h]

/-- `put` is `insert_if_absent` for a new key and `replace_if_exists` for an existing one -/
theorem put_eq_insert_if_absent (a b c : Expr) (m : List (Str × JV)) (k : Str) (v : JV) (hk : objGet? m k = none)
    (ha : eval orc fuel a ctx = .ok (some (.obj m))) (hb : eval orc fuel b ctx = .ok (some (.str k)))
    (hc : eval orc fuel c ctx = .ok (some v)) :
    eval orc (fuel + 1) (.call "put" [a, b, c]) ctx = eval orc (fuel + 1) (.call "insert_if_absent" [a, b, c]) ctx := by
  rw [put_absent orc fuel ctx a b c m k v hk ha hb hc, insert_if_absent_absent orc fuel ctx a b c m k v hk ha hb hc]

theorem put_eq_replace_if_exists (a b c : Expr) (m : List (Str × JV)) (k : Str) (v : JV) (hk : (objGet? m k).isSome)
    (ha : eval orc fuel a ctx = .ok (some (.obj m))) (hb : eval orc fuel b ctx = .ok (some (.str k)))
    (hc : eval orc fuel c ctx = .ok (some v)) :
    eval orc (fuel + 1) (.call "put" [a, b, c]) ctx = eval orc (fuel + 1) (.call "replace_if_exists" [a, b, c]) ctx := by
  rw [put_obj orc fuel ctx a b c m k v ha hb hc, replace_if_exists_obj orc fuel ctx a b c m k v ha hb hc, if_pos hk]

/-! ## `sort_by_keys`, `sort_by_values`, `sort_by_values_by` -/

/-- `sort_by_keys`: "return object sorted by it's keys": the stable sort of the members by `cmpStr` (code point order) on
the keys -/
theorem sort_by_keys_obj (a : Expr) (m : List (Str × JV)) (ha : eval orc fuel a ctx = .ok (some (.obj m))) :
    eval orc (fuel + 1) (.call "sort_by_keys" [a]) ctx =
      .ok (some (.obj (stableSortBy (fun (x y : Str × JV) => cmpStr x.1 y.1) m))) :=
  sort_by_keys_eq orc fuel ctx a _ ha

/-- the result is a permutation of the members, sorted by key, and stable (members with equal keys keep their order) -/
theorem sort_by_keys_spec (a : Expr) (m : List (Str × JV)) (ha : eval orc fuel a ctx = .ok (some (.obj m))) :
    ∃ r, eval orc (fuel + 1) (.call "sort_by_keys" [a]) ctx = .ok (some (.obj r)) ∧ r.Perm m ∧
      r.Pairwise (fun x y => cmpStr x.1 y.1 ≠ .gt) ∧
      ∀ k, r.filter (fun x => x.1 == k) = m.filter (fun x => x.1 == k) := by
  refine ⟨_, sort_by_keys_obj orc fuel ctx a m ha, SortFns.stableSortBy_perm' _ m,
    SortFns.stableSortBy_sorted Order.cmpStr_total_preorder (fun x : Str × JV => x.1) m, fun k => ?_⟩
  have h := SortFns.stableSortBy_stable Order.cmpStr_total_preorder (fun x : Str × JV => x.1) m k
  have e : (fun (x : Str × JV) => decide (cmpStr x.1 k = .eq)) = (fun x => x.1 == k) := by
    funext x
    by_cases hx : x.1 = k
    · simp [hx, Order.cmpStr_refl]
    · have : ¬ cmpStr x.1 k = .eq := fun h' => hx ((Order.cmpStr_eq_iff _ _).1 h')
      simp [hx, this]
  rwa [e] at h

/-- for an object with distinct keys the keys of the result are strictly increasing -/
theorem sort_by_keys_strict (a : Expr) (m : List (Str × JV)) (hm : (objKeys m).Nodup)
    (ha : eval orc fuel a ctx = .ok (some (.obj m))) :
    ∃ r, eval orc (fuel + 1) (.call "sort_by_keys" [a]) ctx = .ok (some (.obj r)) ∧ r.Perm m ∧
      r.Pairwise (fun x y => cmpStr x.1 y.1 = .lt) := by
  obtain ⟨r, h1, h2, h3, -⟩ := sort_by_keys_spec orc fuel ctx a m ha
  refine ⟨r, h1, h2, ?_⟩
  have hnd : (r.map (fun kv => kv.1)).Nodup := (h2.map (fun (kv : Str × JV) => kv.1)).nodup_iff.2 hm
  have hnd' : r.Pairwise (fun x y => x.1 ≠ y.1) := List.pairwise_map.1 hnd
  refine (h3.and hnd').imp ?_
  rintro x y ⟨h, h'⟩
  rcases Order.cmpStr_lt_or_gt_of_ne h' with h'' | h''
  · exact h''
  · exact absurd h'' h

theorem size_sort_by_keys (a : Expr) (m : List (Str × JV)) (ha : eval orc fuel a ctx = .ok (some (.obj m))) :
    eval orc (fuel + 2) (.call "size" [.call "sort_by_keys" [a]]) ctx = .ok (some (.num (.pos m.length))) := by
  rw [size_obj orc (fuel + 1) ctx _ _ (sort_by_keys_obj orc fuel ctx a m ha), SortFns.stableSortBy_length]

theorem sort_by_keys_wrong_type (a : Expr) (v : Option JV) (hv : isObj v = false) (ha : eval orc fuel a ctx = .ok v) :
    eval orc (fuel + 1) (.call "sort_by_keys" [a]) ctx = .ok none :=
  (sort_by_keys_eq orc fuel ctx a v ha).trans (overObj_wrong_type hv _)

/-- `sort_by_values`: "return object sorted by it's values": the stable sort of the members by `JV.cmp` on the values -/
theorem sort_by_values_obj (a : Expr) (m : List (Str × JV)) (ha : eval orc fuel a ctx = .ok (some (.obj m))) :
    eval orc (fuel + 1) (.call "sort_by_values" [a]) ctx =
      .ok (some (.obj (stableSortBy (fun (x y : Str × JV) => JV.cmp x.2 y.2) m))) :=
  sort_by_values_eq orc fuel ctx a _ ha

/-- the result is a permutation of the members, sorted by value, and stable (members with equal values keep their order) -/
theorem sort_by_values_spec (a : Expr) (m : List (Str × JV)) (ha : eval orc fuel a ctx = .ok (some (.obj m))) :
    ∃ r, eval orc (fuel + 1) (.call "sort_by_values" [a]) ctx = .ok (some (.obj r)) ∧ r.Perm m ∧
      r.Pairwise (fun x y => JV.cmp x.2 y.2 ≠ .gt) ∧
      ∀ v, r.filter (fun x => JV.cmp x.2 v = .eq) = m.filter (fun x => JV.cmp x.2 v = .eq) :=
  ⟨_, sort_by_values_obj orc fuel ctx a m ha, SortFns.stableSortBy_perm' _ m,
    SortFns.stableSortBy_sorted Order.cmp_total_preorder (fun x : Str × JV => x.2) m,
    SortFns.stableSortBy_stable Order.cmp_total_preorder (fun x : Str × JV => x.2) m⟩

theorem size_sort_by_values (a : Expr) (m : List (Str × JV)) (ha : eval orc fuel a ctx = .ok (some (.obj m))) :
    eval orc (fuel + 2) (.call "size" [.call "sort_by_values" [a]]) ctx = .ok (some (.num (.pos m.length))) := by
  rw [size_obj orc (fuel + 1) ctx _ _ (sort_by_values_obj orc fuel ctx a m ha), SortFns.stableSortBy_length]

theorem sort_by_values_wrong_type (a : Expr) (v : Option JV) (hv : isObj v = false) (ha : eval orc fuel a ctx = .ok v) :
    eval orc (fuel + 1) (.call "sort_by_values" [a]) ctx = .ok none :=
  (sort_by_values_eq orc fuel ctx a v ha).trans (overObj_wrong_type hv _)

theorem sort_by_values_by_obj_ok (a f : Expr) (m : List (Str × JV)) (ks : List (Option JV))
    (ha : eval orc fuel a ctx = .ok (some (.obj m)))
    (hf : mapM' (fun (kv : Str × JV) => eval orc fuel f (ctx.withInput kv.2)) m = .ok ks) :
    eval orc (fuel + 1) (.call "sort_by_values_by" [a, f]) ctx = .ok (some (.obj (SortFns.sortZip m ks))) := by
  rw [sort_by_values_by_eq orc fuel ctx a f _ ha, overObj_obj, hf]
  rfl

theorem sort_by_values_by_obj_error (a f : Expr) (m : List (Str × JV)) (e : Abort)
    (ha : eval orc fuel a ctx = .ok (some (.obj m)))
    (hf : mapM' (fun (kv : Str × JV) => eval orc fuel f (ctx.withInput kv.2)) m = .error e) :
    eval orc (fuel + 1) (.call "sort_by_values_by" [a, f]) ctx = .error e := by
  rw [sort_by_values_by_eq orc fuel ctx a f _ ha, overObj_obj, hf]
  rfl

/-- `sort_by_values_by`: "return object sorted by applying the second argumetn to it's values": the stable sort of the
members by `cmpOpt` (nothing first, then `JV.cmp`) on the function's value on the member's value -/
theorem sort_by_values_by_obj (a f : Expr) (m : List (Str × JV)) (g : JV → Option JV)
    (ha : eval orc fuel a ctx = .ok (some (.obj m)))
    (hf : ∀ kv ∈ m, eval orc fuel f (ctx.withInput kv.2) = .ok (g kv.2)) :
    eval orc (fuel + 1) (.call "sort_by_values_by" [a, f]) ctx =
      .ok (some (.obj (stableSortBy (fun (x y : Str × JV) => cmpOpt (g x.2) (g y.2)) m))) := by
  rw [sort_by_values_by_obj_ok orc fuel ctx a f m _ ha (mapM'_ok _ (fun kv => g kv.2) m hf),
    SortFns.sortZip_map (fun (kv : Str × JV) => g kv.2) m]

/-- the result is a permutation of the members, sorted by the computed key, and stable -/
theorem sort_by_values_by_spec (a f : Expr) (m : List (Str × JV)) (g : JV → Option JV)
    (ha : eval orc fuel a ctx = .ok (some (.obj m)))
    (hf : ∀ kv ∈ m, eval orc fuel f (ctx.withInput kv.2) = .ok (g kv.2)) :
    ∃ r, eval orc (fuel + 1) (.call "sort_by_values_by" [a, f]) ctx = .ok (some (.obj r)) ∧ r.Perm m ∧
      r.Pairwise (fun x y => cmpOpt (g x.2) (g y.2) ≠ .gt) ∧
      ∀ k, r.filter (fun x => cmpOpt (g x.2) k = .eq) = m.filter (fun x => cmpOpt (g x.2) k = .eq) :=
  ⟨_, sort_by_values_by_obj orc fuel ctx a f m g ha hf, SortFns.stableSortBy_perm' _ m,
    SortFns.stableSortBy_sorted SortFns.cmpOpt_total_preorder (fun (kv : Str × JV) => g kv.2) m,
    SortFns.stableSortBy_stable SortFns.cmpOpt_total_preorder (fun (kv : Str × JV) => g kv.2) m⟩

/-- whatever the function is: a permutation of the members, or the abort of the function on one of the values -/
theorem sort_by_values_by_result (a f : Expr) (m : List (Str × JV)) (ha : eval orc fuel a ctx = .ok (some (.obj m))) :
    (∃ r, eval orc (fuel + 1) (.call "sort_by_values_by" [a, f]) ctx = .ok (some (.obj r)) ∧ r.Perm m) ∨
    (∃ e, eval orc (fuel + 1) (.call "sort_by_values_by" [a, f]) ctx = .error e ∧
        ∃ kv ∈ m, eval orc fuel f (ctx.withInput kv.2) = .error e) := by
  cases h : mapM' (fun (kv : Str × JV) => eval orc fuel f (ctx.withInput kv.2)) m with
  | error e => exact .inr ⟨e, sort_by_values_by_obj_error orc fuel ctx a f m e ha h, mapM'_error _ m e h⟩
  | ok ks =>
    exact .inl ⟨_, sort_by_values_by_obj_ok orc fuel ctx a f m ks ha h,
      SortFns.sortZip_perm m ks (mapM'_length _ m ks h)⟩

/-- sorting by the identity function is `sort_by_values` -/
theorem sort_by_values_by_identity (a : Expr) (m : List (Str × JV)) (ha : eval orc (fuel + 1) a ctx = .ok (some (.obj m))) :
    eval orc (fuel + 2) (.call "sort_by_values_by" [a, .extract 0 []]) ctx =
      eval orc (fuel + 2) (.call "sort_by_values" [a]) ctx := by
  rw [sort_by_values_by_obj orc (fuel + 1) ctx a _ m some ha (fun _ _ => rfl),
    sort_by_values_obj orc (fuel + 1) ctx a m ha]
  rfl

theorem sort_by_values_by_wrong_type (a f : Expr) (v : Option JV) (hv : isObj v = false)
    (ha : eval orc fuel a ctx = .ok v) :
    eval orc (fuel + 1) (.call "sort_by_values_by" [a, f]) ctx = .ok none :=
  (sort_by_values_by_eq orc fuel ctx a f v ha).trans (overObj_wrong_type hv _)

/-! ## Type conversions ("return the … if the argument is …, nothing if it's not.") and `null?` -/

/-- all five at once: a conversion returns its argument unchanged when the type test of the same name holds, and
nothing otherwise; it never aborts -/
theorem casts (a : Expr) (v : Option JV) (ha : eval orc fuel a ctx = .ok v) :
    eval orc (fuel + 1) (.call "as_array" [a]) ctx = .ok (if isArr v then v else none) ∧
    eval orc (fuel + 1) (.call "as_object" [a]) ctx = .ok (if isObj v then v else none) ∧
    eval orc (fuel + 1) (.call "as_string" [a]) ctx = .ok (if (strArg v).isSome then v else none) ∧
    eval orc (fuel + 1) (.call "as_number" [a]) ctx = .ok (if (numArg v).isSome then v else none) ∧
    eval orc (fuel + 1) (.call "as_boolean" [a]) ctx = .ok (if isBool v then v else none) := by
  refine ⟨?_, ?_, ?_, ?_, ?_⟩ <;>
  · apply eval_basic
    call_simp callBasic [ha]
    rcases v with _ | (_ | _ | _ | _ | _ | _) <;> rfl

theorem as_array_arr (a : Expr) (l : List JV) (ha : eval orc fuel a ctx = .ok (some (.arr l))) :
    eval orc (fuel + 1) (.call "as_array" [a]) ctx = .ok (some (.arr l)) :=
  (casts orc fuel ctx a _ ha).1

theorem as_object_obj (a : Expr) (m : List (Str × JV)) (ha : eval orc fuel a ctx = .ok (some (.obj m))) :
    eval orc (fuel + 1) (.call "as_object" [a]) ctx = .ok (some (.obj m)) :=
  (casts orc fuel ctx a _ ha).2.1

theorem as_string_str (a : Expr) (s : Str) (ha : eval orc fuel a ctx = .ok (some (.str s))) :
    eval orc (fuel + 1) (.call "as_string" [a]) ctx = .ok (some (.str s)) :=
  (casts orc fuel ctx a _ ha).2.2.1

/-- the number is returned as it is (an integer stays an integer, a float the same float) -/
theorem as_number_num (a : Expr) (n : Num) (ha : eval orc fuel a ctx = .ok (some (.num n))) :
    eval orc (fuel + 1) (.call "as_number" [a]) ctx = .ok (some (.num n)) :=
  (casts orc fuel ctx a _ ha).2.2.2.1

theorem as_boolean_bool (a : Expr) (b : Bool) (ha : eval orc fuel a ctx = .ok (some (.bool b))) :
    eval orc (fuel + 1) (.call "as_boolean" [a]) ctx = .ok (some (.bool b)) :=
  (casts orc fuel ctx a _ ha).2.2.2.2

theorem as_array_wrong_type (a : Expr) (v : Option JV) (hv : isArr v = false) (ha : eval orc fuel a ctx = .ok v) :
    eval orc (fuel + 1) (.call "as_array" [a]) ctx = .ok none := by
  rw [(casts orc fuel ctx a v ha).1, hv]
  rfl

theorem as_object_wrong_type (a : Expr) (v : Option JV) (hv : isObj v = false) (ha : eval orc fuel a ctx = .ok v) :
    eval orc (fuel + 1) (.call "as_object" [a]) ctx = .ok none := by
  rw [(casts orc fuel ctx a v ha).2.1, hv]
  rfl

theorem as_string_wrong_type (a : Expr) (v : Option JV) (hv : strArg v = none) (ha : eval orc fuel a ctx = .ok v) :
    eval orc (fuel + 1) (.call "as_string" [a]) ctx = .ok none := by
  rw [(casts orc fuel ctx a v ha).2.2.1, hv]
  rfl

theorem as_number_wrong_type (a : Expr) (v : Option JV) (hv : numArg v = none) (ha : eval orc fuel a ctx = .ok v) :
    eval orc (fuel + 1) (.call "as_number" [a]) ctx = .ok none := by
  rw [(casts orc fuel ctx a v ha).2.2.2.1, hv]
  rfl

theorem as_boolean_wrong_type (a : Expr) (v : Option JV) (hv : isBool v = false) (ha : eval orc fuel a ctx = .ok v) :
    eval orc (fuel + 1) (.call "as_boolean" [a]) ctx = .ok none := by
  rw [(casts orc fuel ctx a v ha).2.2.2.2, hv]
  rfl

/-- a conversion followed by the type test of the same name: `true` exactly when the conversion gave a value -/
theorem array_test_as_array (a : Expr) (v : Option JV) (ha : eval orc fuel a ctx = .ok v) :
    eval orc (fuel + 2) (.call "array?" [.call "as_array" [a]]) ctx = eval orc (fuel + 1) (.call "array?" [a]) ctx := by
  rw [(type_tests orc (fuel + 1) ctx _ _ (casts orc fuel ctx a v ha).1).1, (type_tests orc fuel ctx a v ha).1]
  rcases v with _ | (_ | _ | _ | _ | _ | _) <;> rfl

/-- `null?`: "return true if the argument is a null." — a boolean for every argument, `false` for nothing -/
theorem null_test (a : Expr) (v : Option JV) (ha : eval orc fuel a ctx = .ok v) :
    eval orc (fuel + 1) (.call "null?" [a]) ctx = .ok (some (.bool (isNull v))) := by
  apply eval_basic
  call_simp callBasic [ha]
  rcases v with _ | (_ | _ | _ | _ | _ | _) <;> rfl

end Jawk.C04

namespace Jawk.EvalLaws
open Jawk

variable (orc : Oracles) (fuel : Nat) (ctx : Ctx)

/-! the laws that DESIGN.md names, also under the helpers' namespace -/

theorem map_keys_obj (a f : Expr) (m : List (Str × JV)) (g : Str → Option JV)
    (ha : eval orc fuel a ctx = .ok (some (.obj m)))
    (hf : ∀ kv ∈ m, eval orc fuel f (ctx.withInput (.str kv.1)) = .ok (g kv.1)) :
    eval orc (fuel + 1) (.call "map_keys" [a, f]) ctx =
      .ok (some (.obj (objOfList (m.filterMap (fun kv => (strArg (g kv.1)).map (fun s => (s, kv.2))))))) :=
  C04.map_keys_obj orc fuel ctx a f m g ha hf

theorem map_keys_injective (a f : Expr) (m : List (Str × JV)) (g : Str → Str)
    (hnd : (m.map (fun kv => g kv.1)).Nodup)
    (ha : eval orc fuel a ctx = .ok (some (.obj m)))
    (hf : ∀ kv ∈ m, eval orc fuel f (ctx.withInput (.str kv.1)) = .ok (some (.str (g kv.1)))) :
    eval orc (fuel + 1) (.call "map_keys" [a, f]) ctx = .ok (some (.obj (m.map (fun kv => (g kv.1, kv.2))))) :=
  C04.map_keys_injective orc fuel ctx a f m g hnd ha hf

theorem map_keys_lookup (a f : Expr) (m : List (Str × JV)) (g : Str → Option JV)
    (ha : eval orc fuel a ctx = .ok (some (.obj m)))
    (hf : ∀ kv ∈ m, eval orc fuel f (ctx.withInput (.str kv.1)) = .ok (g kv.1)) :
    ∃ r, eval orc (fuel + 1) (.call "map_keys" [a, f]) ctx = .ok (some (.obj r)) ∧
      (objKeys r).Nodup ∧
      objKeys r = (m.filterMap (fun kv => strArg (g kv.1))).eraseDups ∧
      ∀ k, objGet? r k = ((m.reverse.find? (fun kv => strArg (g kv.1) == some k)).map (·.2)) :=
  C04.map_keys_lookup orc fuel ctx a f m g ha hf

theorem get_put_same (a b c b' : Expr) (m : List (Str × JV)) (k : Str) (v : JV)
    (ha : eval orc fuel a ctx = .ok (some (.obj m))) (hb : eval orc fuel b ctx = .ok (some (.str k)))
    (hc : eval orc fuel c ctx = .ok (some v)) (hb' : eval orc (fuel + 1) b' ctx = .ok (some (.str k))) :
    eval orc (fuel + 2) (.call "get" [.call "put" [a, b, c], b']) ctx = .ok (some v) :=
  C04.get_put_same orc fuel ctx a b c b' m k v ha hb hc hb'

theorem get_put_other (a b c b' : Expr) (m : List (Str × JV)) (k k' : Str) (v : JV) (hk : k' ≠ k)
    (ha : eval orc fuel a ctx = .ok (some (.obj m))) (hb : eval orc fuel b ctx = .ok (some (.str k)))
    (hc : eval orc fuel c ctx = .ok (some v)) (hb' : eval orc (fuel + 1) b' ctx = .ok (some (.str k'))) :
    eval orc (fuel + 2) (.call "get" [.call "put" [a, b, c], b']) ctx = .ok (objGet? m k') :=
  C04.get_put_other orc fuel ctx a b c b' m k k' v hk ha hb hc hb'

theorem keys_put (a b c : Expr) (m : List (Str × JV)) (k : Str) (v : JV)
    (ha : eval orc fuel a ctx = .ok (some (.obj m))) (hb : eval orc fuel b ctx = .ok (some (.str k)))
    (hc : eval orc fuel c ctx = .ok (some v)) :
    eval orc (fuel + 2) (.call "keys" [.call "put" [a, b, c]]) ctx =
      .ok (some (.arr ((if (objGet? m k).isSome then objKeys m else objKeys m ++ [k]).map JV.str))) :=
  C04.keys_put orc fuel ctx a b c m k v ha hb hc

theorem size_put (a b c : Expr) (m : List (Str × JV)) (k : Str) (v : JV)
    (ha : eval orc fuel a ctx = .ok (some (.obj m))) (hb : eval orc fuel b ctx = .ok (some (.str k)))
    (hc : eval orc fuel c ctx = .ok (some v)) :
    eval orc (fuel + 2) (.call "size" [.call "put" [a, b, c]]) ctx =
      .ok (some (.num (.pos (if (objGet? m k).isSome then m.length else m.length + 1)))) :=
  C04.size_put orc fuel ctx a b c m k v ha hb hc

/-- every value (or nothing) passes exactly one of the seven type tests -/
theorem type_tests_partition (v : Option JV) :
    [isNull v, isBool v, (strArg v).isSome, (numArg v).isSome, isObj v, isArr v, v.isNone].count true = 1 := by
  rcases v with _ | (_ | _ | _ | _ | _ | _) <;> rfl

/-! Examples.  Where the function argument is itself a call, its value is read off the equation of its group
(`eval_basic (by rw [callBasic]; rfl)`) or off `type_tests`: a plain `rfl` would first try the names of all earlier
groups, one string comparison after the other. -/
section Examples
open C04
private def n (k : Nat) : JV := .num (.pos k)
private def o4 : List (Str × JV) := [("a".toList, n 1), ("aa".toList, n 2), ("aaa".toList, n 3), ("aaaa".toList, n 4)]
private def o3 : List (Str × JV) := [("a".toList, .arr [.null]), ("b".toList, .bool true), ("c".toList, .arr [])]
private def oz : List (Str × JV) := [("z".toList, n 1), ("x".toList, n 2), ("w".toList, .null)]

/-- `(filter_keys {"a": 1, "aa": 2, "aaa": 3, "aaaa": 4} (= . "aa"))` -/
example : eval {} 5 (.call "filter_keys" [.const (.obj o4), .call "=" [.extract 0 [], .const (.str "aa".toList)]]) {}
    = .ok (some (.obj [("aa".toList, n 2)])) := by
  rw [filter_keys_obj {} 4 {} _ _ o4 (fun k => some (.bool (JV.beq (.str k) (.str "aa".toList)))) rfl
    (fun _ _ => eval_basic (by rw [callBasic]; rfl))]
  simp [o4, isTrue, JV.beq]
/-- `(filter_values {"a": [null], "b": true, "c": []} (array? .))` -/
example : eval {} 5 (.call "filter_values" [.const (.obj o3), .call "array?" [.extract 0 []]]) {}
    = .ok (some (.obj [("a".toList, .arr [.null]), ("c".toList, .arr [])])) := by
  rw [filter_values_obj {} 4 {} _ _ o3 (fun v => some (.bool (isArr (some v)))) rfl
    (fun kv _ => (type_tests {} 3 _ _ (some kv.2) rfl).1)]
  rfl
example : eval {} 5 (.call "filter_keys" [.const (.arr [n 1, n 2, n 4]), .const (.bool false)]) {} = .ok none :=
  filter_keys_wrong_type {} 4 {} _ _ (some (.arr [n 1, n 2, n 4])) rfl rfl
example : eval {} 5 (.call "filter_keys" [.const (.obj o4), .const (.bool true)]) {} = .ok (some (.obj o4)) :=
  filter_keys_const_true {} 3 {} _ o4 rfl
/-- an abort inside the function is the only way `filter_values` aborts -/
example : eval {} 5 (.call "filter_values" [.const (.obj o4), .call "no-such-function" []]) {}
    = .error (.panic "unmodelled-function:no-such-function") :=
  filter_values_obj_error {} 4 {} _ _ o4 _ rfl
    (mapM'_cons_error (congrArg (Except.map isTrue) (eval_no_such_function ..)))
/-- the documentation's `(map_keys {"a": 1, "aa": 2, "aaa": 3, "aaaa": 4} (concat "_" .))` -/
example : eval {} 5 (.call "map_keys" [.const (.obj o4), .call "concat" [.const (.str "_".toList), .extract 0 []]]) {}
    = .ok (some (.obj [("_a".toList, n 1), ("_aa".toList, n 2), ("_aaa".toList, n 3), ("_aaaa".toList, n 4)])) :=
  map_keys_injective {} 4 {} _ _ o4 (fun k => "_".toList ++ k) (by decide +kernel) rfl
    (fun _ _ => eval_string (by rw [callString]; rfl))
example : eval {} 5 (.call "map_keys" [.const (.obj o4), .call "concat" [.const (.str "_".toList), .extract 0 []]]) {}
    = .ok (some (.obj [("_a".toList, n 1), ("_aa".toList, n 2), ("_aaa".toList, n 3), ("_aaaa".toList, n 4)])) :=
  map_keys_injective' {} 4 {} _ _ o4 (fun k => "_".toList ++ k) (by decide +kernel) (fun _ _ h => List.append_cancel_left h)
    rfl (fun _ _ => eval_string (by rw [callString]; rfl))
/-- two keys renamed to the same string: the later value replaces the earlier one at the earlier one's place:
`(map_keys {"ab": 1, "c": 2, "ac": null} (take . 1))` is `{"a": null, "c": 2}` -/
example : eval {} 5 (.call "map_keys" [.const (.obj [("ab".toList, n 1), ("c".toList, n 2), ("ac".toList, .null)]),
      .call "take" [.extract 0 [], .const (n 1)]]) {}
    = .ok (some (.obj [("a".toList, .null), ("c".toList, n 2)])) := by
  rw [map_keys_obj {} 4 {} _ _ _ (fun k => some (.str (k.take 1))) rfl (fun _ _ => eval_basic (by rw [callBasic]; rfl))]
  simp [strArg, objOfList, objInsert]
/-- the documentation's `(map_keys {…} (number? .))` is `{}` -/
example : eval {} 5 (.call "map_keys" [.const (.obj o4), .call "number?" [.extract 0 []]]) {} = .ok (some (.obj [])) :=
  map_keys_no_string {} 4 {} _ _ o4 (fun _ => some (.bool false)) (fun _ _ => rfl) rfl
    (fun kv _ => (type_tests {} 3 _ _ (some (.str kv.1)) rfl).2.2.2.2.1)
example : eval {} 5 (.call "map_keys" [.const (.arr [n 1]), .const (.bool false)]) {} = .ok none :=
  map_keys_wrong_type {} 4 {} _ _ (some (.arr [n 1])) rfl rfl
/-- `(map_values {"a": [null], "b": true, "c": []} (size .))` drops `b`, whose value has no size -/
example : eval {} 5 (.call "map_values" [.const (.obj o3), .call "size" [.extract 0 []]]) {}
    = .ok (some (.obj [("a".toList, n 1), ("c".toList, n 0)])) := by
  rw [map_values_obj {} 4 {} _ _ o3 (fun v => match v with | .arr l => some (n l.length) | _ => none) rfl
    (by intro kv hkv; simp [o3] at hkv; rcases hkv with rfl | rfl | rfl <;> exact eval_basic (by rw [callBasic]; rfl))]
  rfl
example : eval {} 5 (.call "map_values" [.const (.obj o3), .call "array?" [.extract 0 []]]) {}
    = .ok (some (.obj [("a".toList, .bool true), ("b".toList, .bool false), ("c".toList, .bool true)])) := by
  rw [map_values_total {} 4 {} _ _ o3 (fun v => .bool (isArr (some v))) rfl (fun _ _ => (type_tests {} 3 _ _ _ rfl).1)]
  rfl
/-- the documentation's examples of `put`, `insert_if_absent`, `replace_if_exists` -/
example : eval {} 5 (.call "put" [.const (.obj []), .const (.str "a".toList), .const (n 1)]) {}
    = .ok (some (.obj [("a".toList, n 1)])) :=
  put_absent {} 4 {} _ _ _ [] "a".toList (n 1) rfl rfl rfl rfl
example : eval {} 5 (.call "put" [.const (.obj [("a".toList, n 10), ("b".toList, n 22)]), .const (.str "a".toList),
      .const (.num (.neg (-1)))]) {} = .ok (some (.obj [("a".toList, .num (.neg (-1))), ("b".toList, n 22)])) := by
  rw [put_obj {} 4 {} _ _ _ [("a".toList, n 10), ("b".toList, n 22)] "a".toList (.num (.neg (-1))) rfl rfl rfl]
  simp [objInsert]
example : ∃ pre post w, [("b".toList, n 22), ("a".toList, n 10)] = pre ++ ("a".toList, w) :: post ∧ (∀ kv ∈ pre, kv.1 ≠ "a".toList) ∧
    eval {} 5 (.call "put" [.const (.obj [("b".toList, n 22), ("a".toList, n 10)]), .const (.str "a".toList), .const .null]) {}
      = .ok (some (.obj (pre ++ ("a".toList, .null) :: post))) :=
  put_present {} 4 {} _ _ _ _ "a".toList .null rfl rfl rfl rfl
example : eval {} 5 (.call "put" [.const (.arr []), .const (.str "a".toList), .const (n 1)]) {} = .ok none :=
  put_wrong_type {} 4 {} _ _ _ (some (.arr [])) _ _ (.inl rfl) rfl rfl rfl
example : eval {} 5 (.call "put" [.const (.obj []), .const (n 1), .const (n 1)]) {} = .ok none :=
  put_wrong_type {} 4 {} _ _ _ _ (some (n 1)) _ (.inr (.inl rfl)) rfl rfl rfl
/-- `(put {} "1" <nothing>)` -/
example : eval {} 5 (.call "put" [.const (.obj []), .const (.str "1".toList), .var "unset".toList]) {} = .ok none :=
  put_wrong_type {} 4 {} _ _ _ _ _ none (.inr (.inr rfl)) rfl rfl rfl
example : eval {} 5 (.call "get" [.call "put" [.const (.obj o4), .const (.str "aa".toList), .const .null],
      .const (.str "aa".toList)]) {} = .ok (some .null) :=
  get_put_same {} 3 {} _ _ _ _ o4 "aa".toList .null rfl rfl rfl rfl
example : eval {} 5 (.call "get" [.call "put" [.const (.obj o4), .const (.str "aa".toList), .const .null],
      .const (.str "a".toList)]) {} = .ok (some (n 1)) :=
  get_put_other {} 3 {} _ _ _ _ o4 "aa".toList "a".toList .null (by decide) rfl rfl rfl rfl
example : eval {} 5 (.call "size" [.call "put" [.const (.obj o4), .const (.str "b".toList), .const .null]]) {}
    = .ok (some (n 5)) :=
  size_put {} 3 {} _ _ _ o4 "b".toList .null rfl rfl rfl
example : eval {} 5 (.call "insert_if_absent" [.const (.obj [("a".toList, n 10), ("b".toList, n 22)]),
      .const (.str "a".toList), .const (.num (.neg (-1)))]) {} = .ok (some (.obj [("a".toList, n 10), ("b".toList, n 22)])) :=
  insert_if_absent_present {} 4 {} _ _ _ _ "a".toList _ rfl rfl rfl rfl
example : eval {} 5 (.call "insert_if_absent" [.const (.obj []), .const (.str "a".toList), .const (n 1)]) {}
    = .ok (some (.obj [("a".toList, n 1)])) :=
  insert_if_absent_absent {} 4 {} _ _ _ [] "a".toList (n 1) rfl rfl rfl rfl
example : eval {} 5 (.call "insert_if_absent" [.const (.arr []), .const (.str "a".toList), .const (n 1)]) {} = .ok none :=
  insert_if_absent_wrong_type {} 4 {} _ _ _ (some (.arr [])) _ _ (.inl rfl) rfl rfl rfl
example : eval {} 5 (.call "replace_if_exists" [.const (.obj []), .const (.str "a".toList), .const (n 1)]) {}
    = .ok (some (.obj [])) :=
  replace_if_exists_absent {} 4 {} _ _ _ [] "a".toList (n 1) rfl rfl rfl rfl
example : eval {} 5 (.call "replace_if_exists" [.const (.obj [("a".toList, n 10), ("b".toList, n 22)]),
      .const (.str "a".toList), .const (.num (.neg (-1)))]) {}
    = .ok (some (.obj [("a".toList, .num (.neg (-1))), ("b".toList, n 22)])) := by
  rw [replace_if_exists_obj {} 4 {} _ _ _ [("a".toList, n 10), ("b".toList, n 22)] "a".toList (.num (.neg (-1))) rfl rfl rfl]
  simp [objInsert, objGet?]
example : eval {} 5 (.call "replace_if_exists" [.const (.obj []), .const (n 1), .const (n 1)]) {} = .ok none :=
  replace_if_exists_wrong_type {} 4 {} _ _ _ _ (some (n 1)) _ (.inr (.inl rfl)) rfl rfl rfl
/-- the documentation's `(sort_by_keys {"z": 1, "x": 2, "w": null})` (`List.mergeSort` does not reduce in the kernel;
the instance is computed through the bridge to the insertion sort of the specification) -/
example : eval {} 5 (.call "sort_by_keys" [.const (.obj oz)]) {}
    = .ok (some (.obj [("w".toList, .null), ("x".toList, n 2), ("z".toList, n 1)])) := by
  rw [sort_by_keys_obj {} 4 {} _ oz rfl, SortFns.stableSortBy_eq_sortDir Order.cmpStr_total_preorder (fun x : Str × JV => x.1)]
  rfl
example : eval {} 5 (.call "sort_by_keys" [.const (.bool false)]) {} = .ok none :=
  sort_by_keys_wrong_type {} 4 {} _ (some (.bool false)) rfl rfl
/-- `(sort_by_values {"z": "s", "x": true, "w": null})` -/
example : eval {} 5 (.call "sort_by_values" [.const (.obj
      [("z".toList, .str "s".toList), ("x".toList, .bool true), ("w".toList, .null)])]) {}
    = .ok (some (.obj [("w".toList, .null), ("x".toList, .bool true), ("z".toList, .str "s".toList)])) := by
  rw [sort_by_values_obj {} 4 {} _ _ rfl, SortFns.stableSortBy_eq_sortDir Order.cmp_total_preorder (fun x : Str × JV => x.2)]
  rfl
/-- `(sort_by_values_by {"a": [null], "b": true, "c": []} (first .))`: the keys are `null`, nothing, nothing;
the members without a key come first in their original order -/
example : eval {} 5 (.call "sort_by_values_by" [.const (.obj o3), .call "first" [.extract 0 []]]) {}
    = .ok (some (.obj [("b".toList, .bool true), ("c".toList, .arr []), ("a".toList, .arr [.null])])) := by
  rw [sort_by_values_by_obj {} 4 {} _ _ o3 (fun v => match v with | .arr l => l.head? | _ => none) rfl
    (by intro kv hkv; simp [o3] at hkv; rcases hkv with rfl | rfl | rfl <;> exact eval_list (by rw [callList]; rfl)),
    SortFns.sort_by_eq_spec]
  rfl
example : eval {} 5 (.call "sort_by_values_by" [.const (.bool false), .extract 0 []]) {} = .ok none :=
  sort_by_values_by_wrong_type {} 4 {} _ _ (some (.bool false)) rfl rfl
example : ∃ r, eval {} 5 (.call "sort_by_keys" [.const (.obj o4)]) {} = .ok (some (.obj r)) ∧ r.Perm o4 ∧
    r.Pairwise (fun x y => cmpStr x.1 y.1 = .lt) :=
  sort_by_keys_strict {} 4 {} _ o4 (by decide) rfl
/-- the documentation's examples of the conversions -/
example : eval {} 5 (.call "as_array" [.const (.arr [n 1, n 2])]) {} = .ok (some (.arr [n 1, n 2])) :=
  as_array_arr {} 4 {} _ _ rfl
example : eval {} 5 (.call "as_array" [.const (n 312)]) {} = .ok none :=
  as_array_wrong_type {} 4 {} _ (some (n 312)) rfl rfl
example : eval {} 5 (.call "as_object" [.const (.obj [("key".toList, n 12)])]) {} = .ok (some (.obj [("key".toList, n 12)])) :=
  as_object_obj {} 4 {} _ _ rfl
example : eval {} 5 (.call "as_string" [.const (.str "text".toList)]) {} = .ok (some (.str "text".toList)) :=
  as_string_str {} 4 {} _ _ rfl
example : eval {} 5 (.call "as_string" [.const (n 312)]) {} = .ok none :=
  as_string_wrong_type {} 4 {} _ (some (n 312)) rfl rfl
example : eval {} 5 (.call "as_number" [.const (.num (.flt (.fin true 21 (-2))))]) {} = .ok (some (.num (.flt (.fin true 21 (-2))))) :=
  as_number_num {} 4 {} _ _ rfl
example : eval {} 5 (.call "as_number" [.const (.bool false)]) {} = .ok none :=
  as_number_wrong_type {} 4 {} _ (some (.bool false)) rfl rfl
example : eval {} 5 (.call "as_boolean" [.const (.bool false)]) {} = .ok (some (.bool false)) :=
  as_boolean_bool {} 4 {} _ _ rfl
example : eval {} 5 (.call "as_boolean" [.var "unset".toList]) {} = .ok none :=
  as_boolean_wrong_type {} 4 {} _ none rfl rfl
example : eval {} 5 (.call "null?" [.const .null]) {} = .ok (some (.bool true)) := null_test {} 4 {} _ (some .null) rfl
example : eval {} 5 (.call "null?" [.const (n 1)]) {} = .ok (some (.bool false)) := null_test {} 4 {} _ (some (n 1)) rfl
example : eval {} 5 (.call "null?" [.var "unset".toList]) {} = .ok (some (.bool false)) := null_test {} 4 {} _ none rfl
/-- the helper lemmas on concrete objects -/
example : objOfList [("a".toList, n 1), ("b".toList, n 2), ("a".toList, n 3)] = [("a".toList, n 3), ("b".toList, n 2)] := by
  simp [objOfList, objInsert]
example : objKeys (objOfList [("a".toList, n 1), ("b".toList, n 2), ("a".toList, n 3)]) = ["a".toList, "b".toList] := by
  rw [objOfList_keys]; decide
end Examples

end Jawk.EvalLaws
