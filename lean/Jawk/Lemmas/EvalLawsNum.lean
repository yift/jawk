/-
  Property C04: arithmetic (`+ * - / % abs floor ceil round`) and strings
  (`concat`, `split`, `join ∘ split`, the library-backed functions) — the laws `EvalLaws.lean` does not cover.

  As there: every law is stated for arbitrary argument EXPRESSIONS whose evaluation is a hypothesis;
  `eval … = .ok none` is the evaluator's "nothing".  Numbers go through `F64` (binary64), so the
  exact-integer laws carry the bound `< 2^53` below which every integer is a double.
-/
import Jawk.Lemmas.EvalLaws
import Jawk.Lemmas.RoundTrip
namespace Jawk.EvalLaws
open Jawk C04

/-! ## Dispatch for the names of this file -/
section DispatchNum
variable (ev : Ev) (args : List Expr) (ctx : Ctx)

theorem nskB_mul : callBasic ev "*" args ctx = none := (skipped_of_number (by decide +kernel)).1
theorem nskB_sub : callBasic ev "-" args ctx = none := (skipped_of_number (by decide +kernel)).1
theorem nskB_div : callBasic ev "/" args ctx = none := (skipped_of_number (by decide +kernel)).1
theorem nskB_rem : callBasic ev "%" args ctx = none := (skipped_of_number (by decide +kernel)).1
theorem nskB_abs : callBasic ev "abs" args ctx = none := (skipped_of_number (by decide +kernel)).1
theorem nskB_floor : callBasic ev "floor" args ctx = none := (skipped_of_number (by decide +kernel)).1
theorem nskB_ceil : callBasic ev "ceil" args ctx = none := (skipped_of_number (by decide +kernel)).1
theorem nskB_round : callBasic ev "round" args ctx = none := (skipped_of_number (by decide +kernel)).1
theorem nskB_concat : callBasic ev "concat" args ctx = none := (skipped_of_string (by decide +kernel)).1
theorem nskB_split : callBasic ev "split" args ctx = none := (skipped_of_string (by decide +kernel)).1
theorem nskB_stringify : callBasic ev "stringify" args ctx = none := (skipped_of_string (by decide +kernel)).1
theorem nskB_parse : callBasic ev "parse" args ctx = none := (skipped_of_string (by decide +kernel)).1
theorem nskB_env : callBasic ev "env" args ctx = none := (skipped_of_string (by decide +kernel)).1
theorem nskB_match : callBasic ev "match" args ctx = none := (skipped_of_string (by decide +kernel)).1
theorem nskB_erg : callBasic ev "extract_regex_group" args ctx = none := (skipped_of_string (by decide +kernel)).1
theorem nskB_b63 : callBasic ev "base63_decode" args ctx = none := (skipped_of_string (by decide +kernel)).1
theorem nskB_ft : callBasic ev "format_time" args ctx = none := (skipped_of_string (by decide +kernel)).1
theorem nskB_pt : callBasic ev "parse_time" args ctx = none := (skipped_of_string (by decide +kernel)).1
theorem nskB_ptz : callBasic ev "parse_time_with_zone" args ctx = none := (skipped_of_string (by decide +kernel)).1
theorem nskL_mul : callList ev "*" args ctx = none := (skipped_of_number (by decide +kernel)).2.1
theorem nskL_sub : callList ev "-" args ctx = none := (skipped_of_number (by decide +kernel)).2.1
theorem nskL_div : callList ev "/" args ctx = none := (skipped_of_number (by decide +kernel)).2.1
theorem nskL_rem : callList ev "%" args ctx = none := (skipped_of_number (by decide +kernel)).2.1
theorem nskL_abs : callList ev "abs" args ctx = none := (skipped_of_number (by decide +kernel)).2.1
theorem nskL_floor : callList ev "floor" args ctx = none := (skipped_of_number (by decide +kernel)).2.1
theorem nskL_ceil : callList ev "ceil" args ctx = none := (skipped_of_number (by decide +kernel)).2.1
theorem nskL_round : callList ev "round" args ctx = none := (skipped_of_number (by decide +kernel)).2.1
theorem nskL_concat : callList ev "concat" args ctx = none := (skipped_of_string (by decide +kernel)).2.1
theorem nskL_split : callList ev "split" args ctx = none := (skipped_of_string (by decide +kernel)).2.1
theorem nskL_stringify : callList ev "stringify" args ctx = none := (skipped_of_string (by decide +kernel)).2.1
theorem nskL_parse : callList ev "parse" args ctx = none := (skipped_of_string (by decide +kernel)).2.1
theorem nskL_env : callList ev "env" args ctx = none := (skipped_of_string (by decide +kernel)).2.1
theorem nskL_match : callList ev "match" args ctx = none := (skipped_of_string (by decide +kernel)).2.1
theorem nskL_erg : callList ev "extract_regex_group" args ctx = none := (skipped_of_string (by decide +kernel)).2.1
theorem nskL_b63 : callList ev "base63_decode" args ctx = none := (skipped_of_string (by decide +kernel)).2.1
theorem nskL_ft : callList ev "format_time" args ctx = none := (skipped_of_string (by decide +kernel)).2.1
theorem nskL_pt : callList ev "parse_time" args ctx = none := (skipped_of_string (by decide +kernel)).2.1
theorem nskL_ptz : callList ev "parse_time_with_zone" args ctx = none := (skipped_of_string (by decide +kernel)).2.1
theorem nskO_mul : callObject ev "*" args ctx = none := (skipped_of_number (by decide +kernel)).2.2
theorem nskO_sub : callObject ev "-" args ctx = none := (skipped_of_number (by decide +kernel)).2.2
theorem nskO_div : callObject ev "/" args ctx = none := (skipped_of_number (by decide +kernel)).2.2
theorem nskO_rem : callObject ev "%" args ctx = none := (skipped_of_number (by decide +kernel)).2.2
theorem nskO_abs : callObject ev "abs" args ctx = none := (skipped_of_number (by decide +kernel)).2.2
theorem nskO_floor : callObject ev "floor" args ctx = none := (skipped_of_number (by decide +kernel)).2.2
theorem nskO_ceil : callObject ev "ceil" args ctx = none := (skipped_of_number (by decide +kernel)).2.2
theorem nskO_round : callObject ev "round" args ctx = none := (skipped_of_number (by decide +kernel)).2.2
theorem nskO_concat : callObject ev "concat" args ctx = none := (skipped_of_string (by decide +kernel)).2.2.1
theorem nskO_split : callObject ev "split" args ctx = none := (skipped_of_string (by decide +kernel)).2.2.1
theorem nskO_stringify : callObject ev "stringify" args ctx = none := (skipped_of_string (by decide +kernel)).2.2.1
theorem nskO_parse : callObject ev "parse" args ctx = none := (skipped_of_string (by decide +kernel)).2.2.1
theorem nskO_env : callObject ev "env" args ctx = none := (skipped_of_string (by decide +kernel)).2.2.1
theorem nskO_match : callObject ev "match" args ctx = none := (skipped_of_string (by decide +kernel)).2.2.1
theorem nskO_erg : callObject ev "extract_regex_group" args ctx = none := (skipped_of_string (by decide +kernel)).2.2.1
theorem nskO_b63 : callObject ev "base63_decode" args ctx = none := (skipped_of_string (by decide +kernel)).2.2.1
theorem nskO_ft : callObject ev "format_time" args ctx = none := (skipped_of_string (by decide +kernel)).2.2.1
theorem nskO_pt : callObject ev "parse_time" args ctx = none := (skipped_of_string (by decide +kernel)).2.2.1
theorem nskO_ptz : callObject ev "parse_time_with_zone" args ctx = none := (skipped_of_string (by decide +kernel)).2.2.1
theorem nskO_join : callObject ev "join" args ctx = none := callObject_eq_none (by decide +kernel)
theorem nskN_concat : callNumber ev "concat" args ctx = none := callNumber_eq_none (by decide +kernel)
theorem nskN_split : callNumber ev "split" args ctx = none := callNumber_eq_none (by decide +kernel)
theorem nskN_stringify : callNumber ev "stringify" args ctx = none := callNumber_eq_none (by decide +kernel)
theorem nskN_parse : callNumber ev "parse" args ctx = none := callNumber_eq_none (by decide +kernel)
theorem nskN_env : callNumber ev "env" args ctx = none := callNumber_eq_none (by decide +kernel)
theorem nskN_match : callNumber ev "match" args ctx = none := callNumber_eq_none (by decide +kernel)
theorem nskN_erg : callNumber ev "extract_regex_group" args ctx = none := callNumber_eq_none (by decide +kernel)
theorem nskN_b63 : callNumber ev "base63_decode" args ctx = none := callNumber_eq_none (by decide +kernel)
theorem nskN_ft : callNumber ev "format_time" args ctx = none := callNumber_eq_none (by decide +kernel)
theorem nskN_pt : callNumber ev "parse_time" args ctx = none := callNumber_eq_none (by decide +kernel)
theorem nskN_ptz : callNumber ev "parse_time_with_zone" args ctx = none := callNumber_eq_none (by decide +kernel)

end DispatchNum

/-! ## Exact integer arithmetic in `F64` below `2^53` (helpers; not about `eval`) -/


/-- an integer below `2^53` over a power of two rounds like the integer itself -/
theorem roundRat_scale (s : Bool) (k j : Nat) (hk : k < 2 ^ 53) :
    F64.roundRat s (k * 2 ^ j) (2 ^ j) = F64.roundRat s k 1 := by
  by_cases h0 : k = 0
  · subst h0; simp [F64.roundRat]
  · have h1 := roundRat_exact s k j h0 hk
    have h2 := roundRat_exact s k 0 h0 hk
    simp only [Nat.pow_zero, Nat.mul_one] at h2
    rw [h1, h2]

set_option exponentiation.threshold 2000 in
/-- the double of an integer below `2^53`: mantissa `k * 2^t`, exponent `-t` -/
theorem roundRat_int_form (s : Bool) (k : Nat) (hk : k < 2 ^ 53) :
    ∃ t : Nat, F64.roundRat s k 1 = .fin s (k * 2 ^ t) (-(t : Int)) := by
  by_cases h0 : k = 0
  · subst h0; exact ⟨1074, by simp [F64.roundRat]⟩
  · have h2 := roundRat_exact s k 0 h0 hk
    simp only [Nat.pow_zero, Nat.mul_one] at h2
    exact ⟨_, h2⟩

theorem ofNat_form (n : Nat) (hn : n < 2 ^ 53) : ∃ t : Nat, F64.ofNat n = .fin false (n * 2 ^ t) (-(t : Int)) :=
  roundRat_int_form false n hn

/-- `F64.ofInt` of a negative integer above `-2^53` -/
theorem ofInt_neg_eq (k : Nat) (hk0 : 0 < k) : F64.ofInt (-(k : Int)) = F64.roundRat true k 1 := by
  have h : (-(k : Int)) < 0 := by omega
  simp only [F64.ofInt, h, if_true]
  congr 1
  omega

theorem ofInt_nonneg_eq (k : Nat) : F64.ofInt (k : Int) = F64.ofNat k := by
  have h : ¬ ((k : Int)) < 0 := by omega
  simp only [F64.ofInt, h, if_false, F64.ofNat]
  congr 1

/-- the product of two doubles holding naturals is exact when below `2^53` -/
theorem mul_ofNat (m n : Nat) (hm : m < 2 ^ 53) (hn : n < 2 ^ 53) (h : m * n < 2 ^ 53) :
    F64.mul (F64.ofNat m) (F64.ofNat n) = F64.ofNat (m * n) := by
  obtain ⟨p, hp⟩ := ofNat_form m hm
  obtain ⟨q, hq⟩ := ofNat_form n hn
  rw [hp, hq]
  simp only [F64.mul, toRat_scaled]
  have : m * 2 ^ p * (n * 2 ^ q) = (m * n) * 2 ^ (p + q) := by
    rw [Nat.pow_add]; ac_rfl
  rw [this, ← Nat.pow_add]
  simp only [bne_self_eq_false]
  exact roundRat_scale false (m * n) (p + q) h

/-- the difference of two doubles holding naturals `m ≥ n` is exact -/
theorem sub_ofNat_ge (m n : Nat) (hm : m < 2 ^ 53) (hnm : n ≤ m) :
    F64.sub (F64.ofNat m) (F64.ofNat n) = F64.ofNat (m - n) := by
  obtain ⟨p, hp⟩ := ofNat_form m hm
  obtain ⟨q, hq⟩ := ofNat_form n (by omega)
  rw [hp, hq]
  simp only [F64.sub, F64.neg, F64.add, toRat_scaled, F64.addRat, Bool.not_false]
  have hab : m * 2 ^ p * 2 ^ q ≥ n * 2 ^ q * 2 ^ p := by
    have : n * 2 ^ q * 2 ^ p = n * (2 ^ p * 2 ^ q) := by ac_rfl
    rw [this, Nat.mul_assoc]
    exact Nat.mul_le_mul_right _ hnm
  have hd : m * 2 ^ p * 2 ^ q - n * 2 ^ q * 2 ^ p = (m - n) * 2 ^ (p + q) := by
    rw [Nat.sub_mul, Nat.pow_add]
    congr 1 <;> ac_rfl
  simp only [show (false == true) = false from rfl, Bool.false_eq_true, if_false, hab, if_true, hd, ← Nat.pow_add,
    Bool.false_and]
  by_cases h0 : m - n = 0
  · simp [h0, F64.ofNat, F64.roundRat]
  · have hne : (m - n) * 2 ^ (p + q) ≠ 0 := Nat.mul_ne_zero h0 (Nat.pos_iff_ne_zero.1 (Nat.two_pow_pos _))
    rw [if_neg hne]
    exact roundRat_scale false (m - n) (p + q) (by omega)

/-- … and for `m < n` it is the (negative) exact difference -/
theorem sub_ofNat_lt (m n : Nat) (hn : n < 2 ^ 53) (hmn : m < n) :
    F64.sub (F64.ofNat m) (F64.ofNat n) = F64.ofInt (-((n - m : Nat) : Int)) := by
  obtain ⟨p, hp⟩ := ofNat_form m (by omega)
  obtain ⟨q, hq⟩ := ofNat_form n hn
  rw [hp, hq, ofInt_neg_eq _ (by omega)]
  simp only [F64.sub, F64.neg, F64.add, toRat_scaled, F64.addRat, Bool.not_false]
  have hab : ¬ (m * 2 ^ p * 2 ^ q ≥ n * 2 ^ q * 2 ^ p) := by
    have : n * 2 ^ q * 2 ^ p = n * (2 ^ p * 2 ^ q) := by ac_rfl
    rw [this, Nat.mul_assoc]
    have := Nat.mul_lt_mul_of_pos_right hmn (Nat.mul_pos (Nat.two_pow_pos p) (Nat.two_pow_pos q))
    omega
  have hd : n * 2 ^ q * 2 ^ p - m * 2 ^ p * 2 ^ q = (n - m) * 2 ^ (p + q) := by
    rw [Nat.sub_mul, Nat.pow_add]
    congr 1 <;> ac_rfl
  simp only [show (false == true) = false from rfl, Bool.false_eq_true, if_false, hab, hd, ← Nat.pow_add]
  have h0 : n - m ≠ 0 := by omega
  have hne : (n - m) * 2 ^ (p + q) ≠ 0 := Nat.mul_ne_zero h0 (Nat.pos_iff_ne_zero.1 (Nat.two_pow_pos _))
  rw [if_neg hne]
  exact roundRat_scale true (n - m) (p + q) (by omega)

/-- `fmod` of two doubles holding naturals is the exact remainder -/
theorem rem_ofNat (m n : Nat) (hm : m < 2 ^ 53) (hn : n < 2 ^ 53) (hn0 : 0 < n) :
    F64.rem (F64.ofNat m) (F64.ofNat n) = F64.ofNat (m % n) := by
  obtain ⟨p, hp⟩ := ofNat_form m hm
  obtain ⟨q, hq⟩ := ofNat_form n hn
  rw [hp, hq]
  have hm2 : n * 2 ^ q ≠ 0 := Nat.mul_ne_zero (by omega) (Nat.pos_iff_ne_zero.1 (Nat.two_pow_pos _))
  simp only [F64.rem, toRat_scaled, hm2, if_false]
  have hr : m * 2 ^ p * 2 ^ q % (n * 2 ^ q * 2 ^ p) = (m % n) * 2 ^ (p + q) := by
    rw [Nat.mul_assoc, Nat.mul_assoc, Nat.mul_comm (2 ^ q) (2 ^ p), ← Nat.pow_add, Nat.mul_mod_mul_right]
  rw [hr, ← Nat.pow_add]
  have hlt : m % n < 2 ^ 53 := Nat.lt_of_lt_of_le (Nat.mod_lt _ hn0) (by omega)
  by_cases h0 : m % n = 0
  · simp [h0, F64.ofNat, F64.roundRat]
  · have hne : (m % n) * 2 ^ (p + q) ≠ 0 := Nat.mul_ne_zero h0 (Nat.pos_iff_ne_zero.1 (Nat.two_pow_pos _))
    rw [if_neg hne]
    exact roundRat_scale false (m % n) (p + q) hlt


/-- the double of a positive integer is not a zero -/
theorem ofNat_not_isZero (n : Nat) (hn : n < 2 ^ 53) (hn0 : 0 < n) : (F64.ofNat n).isZero = false := by
  obtain ⟨t, ht⟩ := ofNat_form n hn
  have hM : n * 2 ^ t ≠ 0 := Nat.mul_ne_zero (by omega) (Nat.pos_iff_ne_zero.1 (Nat.two_pow_pos _))
  rw [ht]
  unfold F64.isZero
  split
  · rename_i h; injection h with _ h2 _; exact absurd h2 hM
  · rfl

theorem ofInt_min : F64.ofInt (-(2 ^ 63)) = .fin true (2 ^ 52) 11 := by decide +kernel

/-- a negative integer above `-2^53` survives the trip through `f64` -/
theorem ofF64_negInt (k : Nat) (hk0 : 0 < k) (hk : k < 2 ^ 53) :
    Num.ofF64 (F64.roundRat true k 1) = .neg (-(k : Int)) := by
  have h0 : k ≠ 0 := by omega
  have hex := roundRat_exact true k 0 h0 hk
  simp only [Nat.pow_zero, Nat.mul_one] at hex
  generalize ht : 52 - Nat.log2 k = t at hex
  rw [hex]
  have hM : k * 2 ^ t ≠ 0 := Nat.mul_ne_zero h0 (Nat.pos_iff_ne_zero.1 (Nat.two_pow_pos _))
  have hfr : (F64.fin true (k * 2 ^ t) (-(t : Int))).fractIsZero = true := by
    unfold F64.fractIsZero
    simp [hM]
  have hlt : F64.lt (F64.fin true (k * 2 ^ t) (-(t : Int))) F64.zero = true := by
    simp [F64.lt, F64.zero, hM]
  have hle : F64.le (F64.ofInt (-(2 ^ 63))) (F64.fin true (k * 2 ^ t) (-(t : Int))) = true := by
    rw [ofInt_min]
    have h11 : (F64.fin true (2 ^ 52) 11).toRat = (2 ^ 63, 1) := by decide +kernel
    have : k * 2 ^ t * 1 < 2 ^ 63 * 2 ^ t := by
      rw [Nat.mul_one]; exact Nat.mul_lt_mul_of_pos_right (by omega) (Nat.two_pow_pos t)
    simp only [F64.le, F64.lt, hM, show (2 : Nat) ^ 52 ≠ 0 by decide, and_false, if_false, F64.cmpMag,
      toRat_scaled, h11, Nat.compare_eq_gt.2 this]
    rfl
  have hi : (F64.fin true (k * 2 ^ t) (-(t : Int))).toI64 = -(k : Int) := by
    simp only [F64.toI64, toRat_scaled, if_true]
    have hq : ((k * 2 ^ t : Nat) : Int) / ((2 ^ t : Nat) : Int) = (k : Int) := by
      rw [← Int.natCast_ediv, Nat.mul_div_cancel _ (Nat.two_pow_pos t)]
    rw [hq, if_neg (by omega)]
  rw [ofF64_neg _ hfr hlt hle, hi]

theorem ofF64_ofInt_neg (k : Nat) (hk0 : 0 < k) (hk : k < 2 ^ 53) :
    Num.ofF64 (F64.ofInt (-(k : Int))) = .neg (-(k : Int)) := by
  have h : (-(k : Int)) < 0 := by omega
  have h2 : (-(k : Int)).natAbs = k := by omega
  simp only [F64.ofInt, h, if_true, h2]
  exact ofF64_negInt k hk0 hk


theorem ofNat_isFinite_lt53 (k : Nat) (hk : k < 2 ^ 53) : (F64.ofNat k).isFinite = true := by
  obtain ⟨t, ht⟩ := ofNat_form k hk
  rw [ht]; rfl

theorem jnumFinite_negInt (k : Nat) (hk0 : 0 < k) (hk : k < 2 ^ 53) :
    jnumFinite (F64.ofInt (-(k : Int))) = some (.num (.neg (-(k : Int)))) := by
  have hf : (F64.ofInt (-(k : Int))).isFinite = true := by
    rw [ofInt_neg_eq k hk0]
    obtain ⟨t, ht⟩ := roundRat_int_form true k hk
    rw [ht]; rfl
  simp only [jnumFinite, hf, if_true, jnum, ofF64_ofInt_neg k hk0 hk]

theorem fract_scaled (s : Bool) (k t : Nat) : (F64.fin s (k * 2 ^ t) (-(t : Int))).fractIsZero = true := by
  unfold F64.fractIsZero
  by_cases hM : k * 2 ^ t = 0
  · simp [hM]
  · simp [hM]

/-- a double holding an integer is its own `floor`, `ceil`, `round` -/
theorem floor_of_fract (f : F64) (h : f.fractIsZero = true) : f.floor = f := by
  cases f <;> simp_all [F64.floor]
theorem ceil_of_fract (f : F64) (h : f.fractIsZero = true) : f.ceil = f := by
  cases f <;> simp_all [F64.ceil]
theorem round_of_fract (f : F64) (h : f.fractIsZero = true) : f.round = f := by
  cases f <;> simp_all [F64.round]

theorem ofNat_fract (k : Nat) (hk : k < 2 ^ 53) : (F64.ofNat k).fractIsZero = true := by
  obtain ⟨t, ht⟩ := ofNat_form k hk
  rw [ht]; exact fract_scaled _ _ _

theorem ofInt_neg_fract (k : Nat) (hk0 : 0 < k) (hk : k < 2 ^ 53) : (F64.ofInt (-(k : Int))).fractIsZero = true := by
  rw [ofInt_neg_eq k hk0]
  obtain ⟨t, ht⟩ := roundRat_int_form true k hk
  rw [ht]; exact fract_scaled _ _ _

theorem abs_ofNat (k : Nat) (hk : k < 2 ^ 53) : (F64.ofNat k).abs = F64.ofNat k := by
  obtain ⟨t, ht⟩ := ofNat_form k hk
  rw [ht]; rfl

theorem neg_roundRat_int (s : Bool) (k : Nat) (hk0 : 0 < k) (hk : k < 2 ^ 53) :
    (F64.roundRat s k 1).neg = F64.roundRat (!s) k 1 := by
  have h1 := roundRat_exact s k 0 (by omega) hk
  have h2 := roundRat_exact (!s) k 0 (by omega) hk
  simp only [Nat.pow_zero, Nat.mul_one] at h1 h2
  rw [h1, h2]; rfl

theorem abs_ofInt_neg (k : Nat) (hk0 : 0 < k) (hk : k < 2 ^ 53) : (F64.ofInt (-(k : Int))).abs = F64.ofNat k := by
  rw [ofInt_neg_eq k hk0]
  have h1 := roundRat_exact true k 0 (by omega) hk
  have h2 := roundRat_exact false k 0 (by omega) hk
  simp only [Nat.pow_zero, Nat.mul_one] at h1 h2
  rw [F64.ofNat, h1, h2]; rfl

/-- `0 - (-k) = k` -/
theorem sub_zero_ofInt_neg (k : Nat) (hk0 : 0 < k) (hk : k < 2 ^ 53) :
    F64.sub F64.zero (F64.ofInt (-(k : Int))) = F64.ofNat k := by
  rw [F64.sub, ofInt_neg_eq k hk0, neg_roundRat_int true k hk0 hk]
  exact zero_add_ofNat k hk


theorem roundRat_int_fract (s : Bool) (k : Nat) (hk : k < 2 ^ 53) : (F64.roundRat s k 1).fractIsZero = true := by
  obtain ⟨t, ht⟩ := roundRat_int_form s k hk
  rw [ht]; exact fract_scaled _ _ _

/-- the integer part of a double with a fractional part is below `2^52` -/
theorem toRat_quot_lt (s : Bool) (m : Nat) (e : Int) (hm : m < 2 ^ 53)
    (hfr : (F64.fin s m e).fractIsZero = false) :
    (F64.fin s m e).toRat.1 / (F64.fin s m e).toRat.2 < 2 ^ 52 ∧
    (F64.fin s m e).toRat.2 = 2 ^ (-e).toNat ∧ (F64.fin s m e).toRat.1 = m ∧ 0 < (-e).toNat := by
  unfold F64.fractIsZero at hfr
  by_cases hm0 : m = 0
  · simp [hm0] at hfr
  · by_cases he : 0 ≤ e
    · simp [hm0, he] at hfr
    · simp only [F64.toRat, he, if_false]
      have hk : 0 < (-e).toNat := by omega
      refine ⟨?_, trivial, trivial, hk⟩
      have h2 : 2 ≤ 2 ^ (-e).toNat := by
        calc 2 = 2 ^ 1 := rfl
          _ ≤ 2 ^ (-e).toNat := Nat.pow_le_pow_right (by decide) hk
      have : m / 2 ^ (-e).toNat ≤ m / 2 := Nat.div_le_div_left h2 (by decide)
      omega

/-- `floor`, `ceil`, `round` of a finite double (mantissa below `2^53`, as every `f64` has) are integral -/
theorem floor_integral (s : Bool) (m : Nat) (e : Int) (hm : m < 2 ^ 53) :
    (F64.fin s m e).floor.fractIsZero = true := by
  cases hfr : (F64.fin s m e).fractIsZero with
  | true => rw [floor_of_fract _ hfr, hfr]
  | false =>
    obtain ⟨hq, -, -, -⟩ := toRat_quot_lt s m e hm hfr
    simp only [F64.floor, hfr, Bool.false_eq_true, if_false]
    split
    · exact roundRat_int_fract _ _ (by omega)
    · split
      · rfl
      · exact roundRat_int_fract _ _ (by omega)

theorem ceil_integral (s : Bool) (m : Nat) (e : Int) (hm : m < 2 ^ 53) :
    (F64.fin s m e).ceil.fractIsZero = true := by
  cases hfr : (F64.fin s m e).fractIsZero with
  | true => rw [ceil_of_fract _ hfr, hfr]
  | false =>
    obtain ⟨hq, -, -, -⟩ := toRat_quot_lt s m e hm hfr
    simp only [F64.ceil, hfr, Bool.false_eq_true, if_false]
    split
    · split
      · rfl
      · exact roundRat_int_fract _ _ (by omega)
    · exact roundRat_int_fract _ _ (by omega)

theorem round_integral (s : Bool) (m : Nat) (e : Int) (hm : m < 2 ^ 53) :
    (F64.fin s m e).round.fractIsZero = true := by
  cases hfr : (F64.fin s m e).fractIsZero with
  | true => rw [round_of_fract _ hfr, hfr]
  | false =>
    obtain ⟨hq, hd, hn, hk⟩ := toRat_quot_lt s m e hm hfr
    simp only [F64.round, hfr, Bool.false_eq_true, if_false]
    split
    · rfl
    · apply roundRat_int_fract
      generalize (F64.fin s m e).toRat.1 = n at *
      generalize (F64.fin s m e).toRat.2 = d at *
      have hd0 : 0 < d := by rw [hd]; exact Nat.two_pow_pos _
      have : (2 * n + d) / (2 * d) ≤ n / d + 1 := by
        rw [Nat.div_le_iff_le_mul_add_pred (by omega)]
        have := Nat.div_add_mod n d
        have := Nat.mod_lt n hd0
        have h3 : 2 * d * (n / d + 1) = 2 * (d * (n / d)) + 2 * d := by
          rw [Nat.mul_add, Nat.mul_one, Nat.mul_assoc]
        omega
      omega

theorem numFoldl_mul_ofNat (ns : List Nat) (k : Nat) (hk : 0 < k) (hpos : ∀ n ∈ ns, 0 < n) (h : k * ns.prod < 2 ^ 53) :
    (ns.map Num.pos).foldl (fun s x => F64.mul s x.toF64) (F64.ofNat k) = F64.ofNat (k * ns.prod) := by
  induction ns generalizing k with
  | nil => simp
  | cons n ns ih =>
    simp only [List.prod_cons] at h
    have hn : 0 < n := hpos n List.mem_cons_self
    have hp : 0 < ns.prod := List.prod_pos_iff_forall_pos_nat.2 fun n' hn' => hpos n' (List.mem_cons_of_mem _ hn')
    have h1 : k * n ≤ k * (n * ns.prod) := Nat.mul_le_mul_left k (Nat.le_mul_of_pos_right n hp)
    have h2 : k ≤ k * n := Nat.le_mul_of_pos_right k hn
    have h3 : n ≤ k * n := Nat.le_mul_of_pos_left n hk
    simp only [List.map_cons, List.foldl_cons, List.prod_cons]
    rw [show (Num.pos n).toF64 = F64.ofNat n from rfl, mul_ofNat k n (by omega) (by omega) (by omega),
      ih (k * n) (Nat.mul_pos hk hn) (fun n' hn' => hpos n' (List.mem_cons_of_mem _ hn')) (by rw [Nat.mul_assoc]; exact h),
      Nat.mul_assoc]

/-! ### `jnumFinite` (`JsonValue::from_finite`) -/

/-- a result of `from_finite` is a number, and never an infinity or a NaN -/
theorem jnumFinite_finite (f : F64) (v : JV) (h : jnumFinite f = some v) :
    ∃ n, v = .num n ∧ ∀ g, n = .flt g → g.isFinite = true := by
  unfold jnumFinite at h
  split at h
  · rename_i hf
    simp only [jnum, Option.some.injEq] at h
    refine ⟨_, h.symm, ?_⟩
    intro g hg
    rw [Ser.ofF64_flt_inv hg]; exact hf
  · cases h

/-- an overflow (or an invalid operation) is nothing -/
theorem jnumFinite_eq_none (f : F64) : jnumFinite f = none ↔ f.isFinite = false := by
  unfold jnumFinite
  cases h : f.isFinite <;> simp [jnum]


/-- a result that went through `from_finite` is nothing, or a number that is no infinity and no NaN -/
theorem jnumFinite_result (r : R) (f : F64) (h : r = .ok (jnumFinite f)) :
    r = .ok none ∨ ∃ n, r = .ok (some (.num n)) ∧ ∀ g, n = .flt g → g.isFinite = true := by
  subst h
  cases h : jnumFinite f with
  | none => exact .inl rfl
  | some v =>
    obtain ⟨n, rfl, hn⟩ := jnumFinite_finite f v h
    exact .inr ⟨n, rfl, hn⟩

/-! ### `foldArgs`: the loop over the arguments -/

/-- the loop of the n-ary functions (`+`, `*`, `concat`): the arguments on whose values `step` goes on are folded in,
the first one on which it stops ends the loop with nothing -/
theorem foldArgs_stop {σ} (ev : Ev) (ctx : Ctx) (step : σ → Option JV → Except Abort (Sum (Option JV) σ))
    (fin : σ → Option JV) (pre post : List Expr) (e : Expr) (w : Option JV) (s : σ)
    (hpre : ∀ e' ∈ pre, ∃ v, ev e' ctx = .ok v ∧ ∀ s, ∃ s', step s v = .ok (.inr s'))
    (he : ev e ctx = .ok w) (hw : ∀ s, step s w = .ok (.inl none)) :
    foldArgs ev ctx step fin (pre ++ e :: post) s = .ok none := by
  induction pre generalizing s with
  | nil => simp only [List.nil_append, foldArgs, he, hw, ok_bind]
  | cons p ps ih =>
    obtain ⟨v, hv, hs⟩ := hpre p List.mem_cons_self
    obtain ⟨s', hs'⟩ := hs s
    simp only [List.cons_append, foldArgs, hv, hs', ok_bind]
    exact ih _ (fun e' he' => hpre e' (List.mem_cons_of_mem _ he'))

/-- the loop on arguments on all of which `step` goes on (by `f`, on the value `mk x`): the left fold of `f` -/
theorem foldArgs_all {σ β} (ev : Ev) (ctx : Ctx) (step : σ → Option JV → Except Abort (Sum (Option JV) σ))
    (fin : σ → Option JV) (mk : β → Option JV) (f : σ → β → σ) (hstep : ∀ s x, step s (mk x) = .ok (.inr (f s x)))
    (args : List Expr) (xs : List β) (s : σ)
    (h : args.map (fun e => ev e ctx) = xs.map (fun x => .ok (mk x))) :
    foldArgs ev ctx step fin args s = .ok (fin (xs.foldl f s)) := by
  induction args generalizing s xs with
  | nil => cases xs with
    | nil => rfl
    | cons => simp at h
  | cons p ps ih =>
    cases xs with
    | nil => simp at h
    | cons x xs =>
      simp only [List.map_cons, List.cons.injEq] at h
      simp only [foldArgs, h.1, hstep, ok_bind, List.foldl_cons]
      exact ih xs _ h.2


/-! ### `str::split`: joining the parts with the separator gives the string back -/

theorem intercalate_nil_sep (L : List Str) : ([] : Str).intercalate L = L.flatten := by
  induction L with
  | nil => rfl
  | cons x l ih =>
    cases l with
    | nil => simp [List.intercalate]
    | cons y l => rw [List.intercalate_cons_cons, ih]; simp

theorem flatten_singletons (s : Str) : (s.map (fun c => [c])).flatten = s := by
  induction s with
  | nil => rfl
  | cons c cs ih => simp [ih]

theorem splitGo_ne_nil (sep : Str) (fuel : Nat) (cur rest : Str) : splitStr.go sep fuel cur rest ≠ [] := by
  induction fuel generalizing cur rest with
  | zero => simp [splitStr.go]
  | succ f ih =>
    cases rest with
    | nil => simp [splitStr.go]
    | cons c cs =>
      simp only [splitStr.go]
      split
      · simp
      · exact ih _ _

theorem splitGo_intercalate (sep : Str) (fuel : Nat) (cur rest : Str) :
    sep.intercalate (splitStr.go sep fuel cur rest) = cur.reverse ++ rest := by
  induction fuel generalizing cur rest with
  | zero => simp [splitStr.go]
  | succ f ih =>
    cases rest with
    | nil => simp [splitStr.go]
    | cons c cs =>
      simp only [splitStr.go]
      split
      · rename_i hp
        have hne := splitGo_ne_nil sep f [] ((c :: cs).drop sep.length)
        have hih := ih [] ((c :: cs).drop sep.length)
        cases hg : splitStr.go sep f [] ((c :: cs).drop sep.length) with
        | nil => exact absurd hg hne
        | cons y l =>
          rw [hg] at hih
          rw [List.intercalate_cons_cons, hih, List.reverse_nil, List.nil_append, List.append_assoc,
            List.prefix_iff_eq_append.1 (List.isPrefixOf_iff_prefix.1 hp)]
      · rw [ih]; simp

/-- `intercalate sep (split s sep) = s`, for every separator (the empty one included) -/
theorem splitStr_intercalate (s sep : Str) : sep.intercalate (splitStr s sep) = s := by
  unfold splitStr
  split
  · rename_i h
    have : sep = [] := by cases sep <;> simp_all
    subst this
    rw [intercalate_nil_sep]
    simp [flatten_singletons]
  · simpa using splitGo_intercalate sep (s.length + 1) [] s

theorem splitStr_ne_nil (s sep : Str) : splitStr s sep ≠ [] := by
  unfold splitStr
  split
  · simp
  · exact splitGo_ne_nil sep _ _ _

/-- a string in which the (non-empty) separator does not occur is not split -/
theorem splitGo_no_sep (sep : Str) (fuel : Nat) (cur rest : Str)
    (h : ∀ t, t <:+ rest → t ≠ [] → sep.isPrefixOf t = false) :
    splitStr.go sep fuel cur rest = [cur.reverse ++ rest] := by
  induction fuel generalizing cur rest with
  | zero => simp [splitStr.go]
  | succ f ih =>
    cases rest with
    | nil => simp [splitStr.go]
    | cons c cs =>
      simp only [splitStr.go, h (c :: cs) (List.suffix_refl _) (by simp), Bool.false_eq_true, if_false]
      rw [ih _ _ (fun t ht hne => h t (ht.trans (List.suffix_cons c cs)) hne)]
      simp

/-- a string in which the (non-empty) separator does not occur is not split -/
theorem splitStr_no_sep (s sep : Str) (hne : sep ≠ [])
    (h : ∀ i, i < s.length → sep.isPrefixOf (s.drop i) = false) : splitStr s sep = [s] := by
  unfold splitStr
  rw [if_neg (by cases sep <;> simp_all)]
  rw [splitGo_no_sep sep _ [] s]
  · rfl
  · intro t ht htne
    rw [List.suffix_iff_eq_drop.1 ht]
    apply h
    have := ht.length_le
    have : t.length ≠ 0 := by cases t <;> simp_all
    omega

/-- `join` on a list of strings is `intercalate` (the empty list included) -/
theorem joinGo_strs_all (sep : Str) (L : List Str) :
    callList.joinGo sep true [] (L.map JV.str) = some (sep.intercalate L) := by
  cases L with
  | nil => simp [callList.joinGo, List.intercalate]
  | cons s ss => exact joinGo_strs sep s ss



/-! ## What each function does on ANY values (nothing unless numbers, resp. strings); the laws for numbers, zero divisors
and wrong types below are instances -/
section AnyValues
variable (orc : Oracles) (fuel : Nat) (ctx : Ctx)

theorem minus_eq (a b : Expr) (v w : Option JV)
    (ha : eval orc fuel a ctx = .ok v) (hb : eval orc fuel b ctx = .ok w) :
    eval orc (fuel + 1) (.call "-" [a, b]) ctx =
      .ok ((numArg v).bind fun x => (numArg w).bind fun y => jnumFinite (F64.sub x y)) := by
  apply eval_number
  call_simp callNumber [ha, hb, List.length_cons, List.length_nil]
  rw [if_neg (by decide)]
  cases numArg v <;> cases numArg w <;> rfl

/-- with one argument `-` is `0 - x` -/
theorem neg_eq (a : Expr) (v : Option JV) (ha : eval orc fuel a ctx = .ok v) :
    eval orc (fuel + 1) (.call "-" [a]) ctx =
      .ok ((numArg v).bind fun x => jnumFinite (F64.sub F64.zero x)) := by
  apply eval_number
  call_simp callNumber [ha, List.length_cons, List.length_nil]
  rw [if_pos trivial]
  cases numArg v <;> rfl

/-- a zero divisor (`0`, `0.0` and `-0.0` alike) gives nothing -/
theorem div_eq (a b : Expr) (v w : Option JV)
    (ha : eval orc fuel a ctx = .ok v) (hb : eval orc fuel b ctx = .ok w) :
    eval orc (fuel + 1) (.call "/" [a, b]) ctx =
      .ok ((numArg v).bind fun x => (numArg w).bind fun y =>
        if y.isZero then none else jnumFinite (F64.div x y)) := by
  apply eval_number
  call_simp callNumber [ha, hb]
  cases numArg v <;> cases numArg w <;> try rfl
  exact congrArg some (apply_ite Except.ok ..).symm

/-- `fmod`; its result is finite whenever the arguments are, so there is no `from_finite` -/
theorem rem_eq (a b : Expr) (v w : Option JV)
    (ha : eval orc fuel a ctx = .ok v) (hb : eval orc fuel b ctx = .ok w) :
    eval orc (fuel + 1) (.call "%" [a, b]) ctx =
      .ok ((numArg v).bind fun x => (numArg w).bind fun y =>
        if y.isZero then none else jnum (F64.rem x y)) := by
  apply eval_number
  call_simp callNumber [ha, hb]
  cases numArg v <;> cases numArg w <;> try rfl
  exact congrArg some (apply_ite Except.ok ..).symm

theorem abs_eq (a : Expr) (v : Option JV) (ha : eval orc fuel a ctx = .ok v) :
    eval orc (fuel + 1) (.call "abs" [a]) ctx = .ok ((numArg v).bind fun x => jnum x.abs) := by
  apply eval_number
  call_simp callNumber [ha]
  cases numArg v <;> rfl

theorem floor_eq (a : Expr) (v : Option JV) (ha : eval orc fuel a ctx = .ok v) :
    eval orc (fuel + 1) (.call "floor" [a]) ctx = .ok ((numArg v).bind fun x => jnum x.floor) := by
  apply eval_number
  call_simp callNumber [ha]
  cases numArg v <;> rfl

theorem ceil_eq (a : Expr) (v : Option JV) (ha : eval orc fuel a ctx = .ok v) :
    eval orc (fuel + 1) (.call "ceil" [a]) ctx = .ok ((numArg v).bind fun x => jnum x.ceil) := by
  apply eval_number
  call_simp callNumber [ha]
  cases numArg v <;> rfl

theorem round_eq (a : Expr) (v : Option JV) (ha : eval orc fuel a ctx = .ok v) :
    eval orc (fuel + 1) (.call "round" [a]) ctx = .ok ((numArg v).bind fun x => jnum x.round) := by
  apply eval_number
  call_simp callNumber [ha]
  cases numArg v <;> rfl

/-- `split` on any two values: nothing unless both are strings -/
theorem split_eq (a b : Expr) (v w : Option JV)
    (ha : eval orc fuel a ctx = .ok v) (hb : eval orc fuel b ctx = .ok w) :
    eval orc (fuel + 1) (.call "split" [a, b]) ctx =
      .ok ((strArg v).bind fun s => (strArg w).bind fun sep => some (.arr ((splitStr s sep).map JV.str))) := by
  apply eval_string
  call_simp callString [ha, hb]
  cases strArg v <;> cases strArg w <;> rfl

/-- `stringify`: the compact JSON text of a value, nothing for nothing -/
theorem stringify_eq (a : Expr) (v : Option JV) (ha : eval orc fuel a ctx = .ok v) :
    eval orc (fuel + 1) (.call "stringify" [a]) ctx = .ok (v.map fun x => .str x.display) := by
  apply eval_string
  call_simp callString [ha]
  cases v <;> rfl

end AnyValues

end Jawk.EvalLaws

namespace Jawk.C04
open Jawk EvalLaws

variable (orc : Oracles) (fuel : Nat) (ctx : Ctx)

/-! ## `+` and `*` with any number of arguments: the `f64` operation folded from the left, converted back by
`From<f64>`; a result that is not finite is nothing (`JsonValue::from_finite`) -/

/-- `+`: "If all the arguments are number, add them." — any number of arguments: the left-to-right `f64` sum from `0.0` -/
theorem add_many (args : List Expr) (xs : List Num)
    (h : args.map (fun e => eval orc fuel e ctx) = xs.map (fun x => .ok (some (.num x)))) :
    eval orc (fuel + 1) (.call "+" args) ctx =
      .ok (jnumFinite (xs.foldl (fun s x => F64.add s x.toF64) F64.zero)) := by
  apply eval_number
  rw [callNumber]
  exact congrArg some (foldArgs_all _ ctx _ jnumFinite (fun x => some (.num x)) (fun s x => F64.add s x.toF64)
    (fun _ _ => rfl) args xs _ h)

/-- `*`: "If all the arguments are number, multiply them." — the left-to-right `f64` product from `1.0` -/
theorem mul_many (args : List Expr) (xs : List Num)
    (h : args.map (fun e => eval orc fuel e ctx) = xs.map (fun x => .ok (some (.num x)))) :
    eval orc (fuel + 1) (.call "*" args) ctx =
      .ok (jnumFinite (xs.foldl (fun s x => F64.mul s x.toF64) (F64.ofNat 1))) := by
  apply eval_number
  rw [callNumber]
  exact congrArg some (foldArgs_all _ ctx _ jnumFinite (fun x => some (.num x)) (fun s x => F64.mul s x.toF64)
    (fun _ _ => rfl) args xs _ h)

/-- `*`: "If all the arguments are number, multiply them." — the `f64` product, starting from `1.0` -/
theorem mul_nums (a b : Expr) (x y : Num)
    (ha : eval orc fuel a ctx = .ok (some (.num x))) (hb : eval orc fuel b ctx = .ok (some (.num y))) :
    eval orc (fuel + 1) (.call "*" [a, b]) ctx =
      .ok (jnumFinite (F64.mul (F64.mul (F64.ofNat 1) x.toF64) y.toF64)) :=
  mul_many orc fuel ctx [a, b] [x, y] (by simp only [List.map_cons, List.map_nil, ha, hb])

/-- non-negative integers whose sum is below `2^53`: the exact sum, for any number of arguments -/
theorem add_pos_many (args : List Expr) (ns : List Nat) (hs : ns.sum < 2 ^ 53)
    (h : args.map (fun e => eval orc fuel e ctx) = ns.map (fun n => .ok (some (.num (.pos n))))) :
    eval orc (fuel + 1) (.call "+" args) ctx = .ok (some (.num (.pos ns.sum))) := by
  rw [add_many orc fuel ctx args (ns.map Num.pos) (by rw [h, List.map_map]; rfl), ← ofNat_zero,
    numFoldl_add_ofNat ns 0 (by omega), Nat.zero_add, jnumFinite_ofNat_exact _ hs]

/-- positive integers whose product is below `2^53`: the exact product, for any number of arguments -/
theorem mul_pos_many (args : List Expr) (ns : List Nat) (hpos : ∀ n ∈ ns, 0 < n) (hp : ns.prod < 2 ^ 53)
    (h : args.map (fun e => eval orc fuel e ctx) = ns.map (fun n => .ok (some (.num (.pos n))))) :
    eval orc (fuel + 1) (.call "*" args) ctx = .ok (some (.num (.pos ns.prod))) := by
  rw [mul_many orc fuel ctx args (ns.map Num.pos) (by rw [h, List.map_map]; rfl),
    numFoldl_mul_ofNat ns 1 (by decide) hpos (by omega), Nat.one_mul, jnumFinite_ofNat_exact _ hp]

/-- n-ary `+`: numbers, then an argument that is not a number (the rest is not evaluated) ⇒ nothing -/
theorem add_non_number_any (pre post : List Expr) (e : Expr) (w : Option JV) (hw : numArg w = none)
    (hpre : ∀ e' ∈ pre, ∃ x : Num, eval orc fuel e' ctx = .ok (some (.num x)))
    (he : eval orc fuel e ctx = .ok w) :
    eval orc (fuel + 1) (.call "+" (pre ++ e :: post)) ctx = .ok none := by
  apply eval_number
  rw [callNumber]
  exact congrArg some (foldArgs_stop _ ctx _ jnumFinite pre post e w _
    (fun e' he' => (hpre e' he').elim fun x hx => ⟨_, hx, fun _ => ⟨_, rfl⟩⟩) he (fun _ => by simp only [hw]))

/-- n-ary `*`: numbers, then an argument that is not a number ⇒ nothing -/
theorem mul_non_number_any (pre post : List Expr) (e : Expr) (w : Option JV) (hw : numArg w = none)
    (hpre : ∀ e' ∈ pre, ∃ x : Num, eval orc fuel e' ctx = .ok (some (.num x)))
    (he : eval orc fuel e ctx = .ok w) :
    eval orc (fuel + 1) (.call "*" (pre ++ e :: post)) ctx = .ok none := by
  apply eval_number
  rw [callNumber]
  exact congrArg some (foldArgs_stop _ ctx _ jnumFinite pre post e w _
    (fun e' he' => (hpre e' he').elim fun x hx => ⟨_, hx, fun _ => ⟨_, rfl⟩⟩) he (fun _ => by simp only [hw]))

theorem mul_non_number_left (a b : Expr) (v : Option JV) (hv : numArg v = none)
    (ha : eval orc fuel a ctx = .ok v) :
    eval orc (fuel + 1) (.call "*" [a, b]) ctx = .ok none :=
  mul_non_number_any orc fuel ctx [] [b] a v hv (fun _ h => absurd h List.not_mem_nil) ha

theorem mul_non_number_right (a b : Expr) (x : Num) (w : Option JV) (hw : numArg w = none)
    (ha : eval orc fuel a ctx = .ok (some (.num x))) (hb : eval orc fuel b ctx = .ok w) :
    eval orc (fuel + 1) (.call "*" [a, b]) ctx = .ok none :=
  mul_non_number_any orc fuel ctx [a] [] b w hw (fun e' h => by rw [List.mem_singleton.1 h]; exact ⟨x, ha⟩) hb

/-! ## `-`, `/`, `%`: what they do on any two values; nothing unless both are numbers -/

/-- `-` with two arguments: "substract the second argument from the first one if both are number" -/
theorem sub_nums (a b : Expr) (x y : Num)
    (ha : eval orc fuel a ctx = .ok (some (.num x))) (hb : eval orc fuel b ctx = .ok (some (.num y))) :
    eval orc (fuel + 1) (.call "-" [a, b]) ctx = .ok (jnumFinite (F64.sub x.toF64 y.toF64)) :=
  minus_eq orc fuel ctx a b _ _ ha hb

/-- `-` with one argument: "return the negative of that number" (computed as `0 - x`) -/
theorem neg_num (a : Expr) (x : Num) (ha : eval orc fuel a ctx = .ok (some (.num x))) :
    eval orc (fuel + 1) (.call "-" [a]) ctx = .ok (jnumFinite (F64.sub F64.zero x.toF64)) :=
  neg_eq orc fuel ctx a _ ha

/-- `/`: "Divide the firs argument by the second argument." (second argument not zero) -/
theorem div_nums (a b : Expr) (x y : Num) (hy : y.toF64.isZero = false)
    (ha : eval orc fuel a ctx = .ok (some (.num x))) (hb : eval orc fuel b ctx = .ok (some (.num y))) :
    eval orc (fuel + 1) (.call "/" [a, b]) ctx = .ok (jnumFinite (F64.div x.toF64 y.toF64)) := by
  rw [div_eq orc fuel ctx a b _ _ ha hb]
  simp only [numArg_num, Option.bind_some, hy, Bool.false_eq_true, if_false]

/-- `/`: "If the second argument is 0 will return nothing" (`0`, `0.0` and `-0.0` alike) -/
theorem div_by_zero (a b : Expr) (x y : Num) (hy : y.toF64.isZero = true)
    (ha : eval orc fuel a ctx = .ok (some (.num x))) (hb : eval orc fuel b ctx = .ok (some (.num y))) :
    eval orc (fuel + 1) (.call "/" [a, b]) ctx = .ok none := by
  rw [div_eq orc fuel ctx a b _ _ ha hb]
  simp only [numArg_num, Option.bind_some, hy, if_true]

/-- `%`: "Find the reminder of the division of the firs argument by the second argument." (`fmod`; second argument not zero) -/
theorem rem_nums (a b : Expr) (x y : Num) (hy : y.toF64.isZero = false)
    (ha : eval orc fuel a ctx = .ok (some (.num x))) (hb : eval orc fuel b ctx = .ok (some (.num y))) :
    eval orc (fuel + 1) (.call "%" [a, b]) ctx = .ok (jnum (F64.rem x.toF64 y.toF64)) := by
  rw [rem_eq orc fuel ctx a b _ _ ha hb]
  simp only [numArg_num, Option.bind_some, hy, Bool.false_eq_true, if_false]

/-- `%`: "If the second argument is 0 will return nothing" -/
theorem rem_by_zero (a b : Expr) (x y : Num) (hy : y.toF64.isZero = true)
    (ha : eval orc fuel a ctx = .ok (some (.num x))) (hb : eval orc fuel b ctx = .ok (some (.num y))) :
    eval orc (fuel + 1) (.call "%" [a, b]) ctx = .ok none := by
  rw [rem_eq orc fuel ctx a b _ _ ha hb]
  simp only [numArg_num, Option.bind_some, hy, if_true]

/-! a non-number argument ⇒ nothing -/

theorem neg_non_number (a : Expr) (v : Option JV) (hv : numArg v = none) (ha : eval orc fuel a ctx = .ok v) :
    eval orc (fuel + 1) (.call "-" [a]) ctx = .ok none := by
  rw [neg_eq orc fuel ctx a v ha, hv, Option.bind_none]

theorem sub_non_number (a b : Expr) (v w : Option JV) (h : numArg v = none ∨ numArg w = none)
    (ha : eval orc fuel a ctx = .ok v) (hb : eval orc fuel b ctx = .ok w) :
    eval orc (fuel + 1) (.call "-" [a, b]) ctx = .ok none := by
  rw [minus_eq orc fuel ctx a b v w ha hb]
  rcases h with h | h <;> simp only [h, Option.bind_none, Option.bind_fun_none]

theorem div_non_number (a b : Expr) (v w : Option JV) (h : numArg v = none ∨ numArg w = none)
    (ha : eval orc fuel a ctx = .ok v) (hb : eval orc fuel b ctx = .ok w) :
    eval orc (fuel + 1) (.call "/" [a, b]) ctx = .ok none := by
  rw [div_eq orc fuel ctx a b v w ha hb]
  rcases h with h | h <;> simp only [h, Option.bind_none, Option.bind_fun_none]

theorem rem_non_number (a b : Expr) (v w : Option JV) (h : numArg v = none ∨ numArg w = none)
    (ha : eval orc fuel a ctx = .ok v) (hb : eval orc fuel b ctx = .ok w) :
    eval orc (fuel + 1) (.call "%" [a, b]) ctx = .ok none := by
  rw [rem_eq orc fuel ctx a b v w ha hb]
  rcases h with h | h <;> simp only [h, Option.bind_none, Option.bind_fun_none]

/-! ## Exact integer results below `2^53` -/

/-- `(* a b)` on two non-negative integers whose product is below `2^53` is the exact integer product -/
theorem mul_pos_pos (a b : Expr) (m n : Nat) (hm : m < 2 ^ 53) (hn : n < 2 ^ 53) (h : m * n < 2 ^ 53)
    (ha : eval orc fuel a ctx = .ok (some (.num (.pos m)))) (hb : eval orc fuel b ctx = .ok (some (.num (.pos n)))) :
    eval orc (fuel + 1) (.call "*" [a, b]) ctx = .ok (some (.num (.pos (m * n)))) := by
  rw [mul_nums orc fuel ctx a b _ _ ha hb]
  simp only [Num.toF64]
  rw [mul_ofNat 1 m (by decide) hm (by omega), Nat.one_mul, mul_ofNat m n hm hn h, jnumFinite_ofNat_exact _ h]

/-- `(- a b)` on two non-negative integers `m ≥ n` below `2^53` is the exact difference -/
theorem sub_pos_pos_ge (a b : Expr) (m n : Nat) (hm : m < 2 ^ 53) (hnm : n ≤ m)
    (ha : eval orc fuel a ctx = .ok (some (.num (.pos m)))) (hb : eval orc fuel b ctx = .ok (some (.num (.pos n)))) :
    eval orc (fuel + 1) (.call "-" [a, b]) ctx = .ok (some (.num (.pos (m - n)))) := by
  rw [sub_nums orc fuel ctx a b _ _ ha hb]
  simp only [Num.toF64]
  rw [sub_ofNat_ge m n hm hnm, jnumFinite_ofNat_exact _ (by omega)]

/-- … and for `m < n` it is the exact negative difference, a negative INTEGER value -/
theorem sub_pos_pos_lt (a b : Expr) (m n : Nat) (hn : n < 2 ^ 53) (hmn : m < n)
    (ha : eval orc fuel a ctx = .ok (some (.num (.pos m)))) (hb : eval orc fuel b ctx = .ok (some (.num (.pos n)))) :
    eval orc (fuel + 1) (.call "-" [a, b]) ctx = .ok (some (.num (.neg ((m : Int) - (n : Int))))) := by
  rw [sub_nums orc fuel ctx a b _ _ ha hb]
  simp only [Num.toF64]
  rw [sub_ofNat_lt m n hn hmn, jnumFinite_negInt _ (by omega) (by omega)]
  congr 4
  omega

/-- unary `-`: "return the negative of that number": a positive integer below `2^53` -/
theorem neg_pos (a : Expr) (n : Nat) (hn0 : 0 < n) (hn : n < 2 ^ 53)
    (ha : eval orc fuel a ctx = .ok (some (.num (.pos n)))) :
    eval orc (fuel + 1) (.call "-" [a]) ctx = .ok (some (.num (.neg (-(n : Int))))) := by
  rw [neg_num orc fuel ctx a _ ha]
  simp only [Num.toF64]
  rw [← ofNat_zero, sub_ofNat_lt 0 n hn hn0, Nat.sub_zero, jnumFinite_negInt _ hn0 hn]

/-- the negative of zero is (the integer) zero -/
theorem neg_zero (a : Expr) (ha : eval orc fuel a ctx = .ok (some (.num (.pos 0)))) :
    eval orc (fuel + 1) (.call "-" [a]) ctx = .ok (some (.num (.pos 0))) := by
  rw [neg_num orc fuel ctx a _ ha]
  simp only [Num.toF64]
  rw [← ofNat_zero, sub_ofNat_ge 0 0 (by decide) (Nat.le_refl 0), jnumFinite_ofNat_exact _ (by decide)]

/-- the negative of a negative integer above `-2^53` -/
theorem neg_neg_int (a : Expr) (k : Nat) (hk0 : 0 < k) (hk : k < 2 ^ 53)
    (ha : eval orc fuel a ctx = .ok (some (.num (.neg (-(k : Int)))))) :
    eval orc (fuel + 1) (.call "-" [a]) ctx = .ok (some (.num (.pos k))) := by
  rw [neg_num orc fuel ctx a _ ha]
  simp only [Num.toF64]
  rw [sub_zero_ofInt_neg k hk0 hk, jnumFinite_ofNat_exact _ hk]

/-- negation is an involution: `(- (- a)) = a` -/
theorem neg_neg (a : Expr) (n : Nat) (hn : n < 2 ^ 53)
    (ha : eval orc fuel a ctx = .ok (some (.num (.pos n)))) :
    eval orc (fuel + 2) (.call "-" [.call "-" [a]]) ctx = .ok (some (.num (.pos n))) := by
  by_cases h0 : n = 0
  · subst h0
    exact neg_zero orc (fuel + 1) ctx _ (neg_zero orc fuel ctx a ha)
  · exact neg_neg_int orc (fuel + 1) ctx _ n (by omega) hn (neg_pos orc fuel ctx a n (by omega) hn ha)

/-- `(% a b)` on non-negative integers below `2^53`, `b > 0`, is `a % b` -/
theorem rem_pos_pos (a b : Expr) (m n : Nat) (hm : m < 2 ^ 53) (hn : n < 2 ^ 53) (hn0 : 0 < n)
    (ha : eval orc fuel a ctx = .ok (some (.num (.pos m)))) (hb : eval orc fuel b ctx = .ok (some (.num (.pos n)))) :
    eval orc (fuel + 1) (.call "%" [a, b]) ctx = .ok (some (.num (.pos (m % n)))) := by
  have hlt : m % n < 2 ^ 53 := Nat.lt_of_lt_of_le (Nat.mod_lt _ hn0) (by omega)
  rw [rem_nums orc fuel ctx a b (.pos m) (.pos n) (ofNat_not_isZero n hn hn0) ha hb]
  simp only [Num.toF64]
  rw [rem_ofNat m n hm hn hn0, jnum, ofF64_ofNat _ hlt]

/-! ## `abs`, `floor`, `ceil`, `round`: the `f64` operation on a number, nothing on anything else -/

/-- `abs`: "If the argument is numeric, return it's absolute value." -/
theorem abs_num (a : Expr) (x : Num) (ha : eval orc fuel a ctx = .ok (some (.num x))) :
    eval orc (fuel + 1) (.call "abs" [a]) ctx = .ok (jnum x.toF64.abs) :=
  abs_eq orc fuel ctx a _ ha

/-- `floor`: "If the argument is numeric, return it's floor." -/
theorem floor_num (a : Expr) (x : Num) (ha : eval orc fuel a ctx = .ok (some (.num x))) :
    eval orc (fuel + 1) (.call "floor" [a]) ctx = .ok (jnum x.toF64.floor) :=
  floor_eq orc fuel ctx a _ ha

/-- `ceil`: "If the argument is numeric, return it's ceiling." -/
theorem ceil_num (a : Expr) (x : Num) (ha : eval orc fuel a ctx = .ok (some (.num x))) :
    eval orc (fuel + 1) (.call "ceil" [a]) ctx = .ok (jnum x.toF64.ceil) :=
  ceil_eq orc fuel ctx a _ ha

/-- `round`: "If the argument is numeric, return it's rounded." (half away from zero) -/
theorem round_num (a : Expr) (x : Num) (ha : eval orc fuel a ctx = .ok (some (.num x))) :
    eval orc (fuel + 1) (.call "round" [a]) ctx = .ok (jnum x.toF64.round) :=
  round_eq orc fuel ctx a _ ha

theorem abs_non_number (a : Expr) (v : Option JV) (hv : numArg v = none) (ha : eval orc fuel a ctx = .ok v) :
    eval orc (fuel + 1) (.call "abs" [a]) ctx = .ok none := by
  rw [abs_eq orc fuel ctx a v ha, hv, Option.bind_none]

theorem floor_non_number (a : Expr) (v : Option JV) (hv : numArg v = none) (ha : eval orc fuel a ctx = .ok v) :
    eval orc (fuel + 1) (.call "floor" [a]) ctx = .ok none := by
  rw [floor_eq orc fuel ctx a v ha, hv, Option.bind_none]

theorem ceil_non_number (a : Expr) (v : Option JV) (hv : numArg v = none) (ha : eval orc fuel a ctx = .ok v) :
    eval orc (fuel + 1) (.call "ceil" [a]) ctx = .ok none := by
  rw [ceil_eq orc fuel ctx a v ha, hv, Option.bind_none]

theorem round_non_number (a : Expr) (v : Option JV) (hv : numArg v = none) (ha : eval orc fuel a ctx = .ok v) :
    eval orc (fuel + 1) (.call "round" [a]) ctx = .ok none := by
  rw [round_eq orc fuel ctx a v ha, hv, Option.bind_none]

/-- on a non-negative integer below `2^53` all four are that integer -/
theorem abs_pos (a : Expr) (n : Nat) (hn : n < 2 ^ 53) (ha : eval orc fuel a ctx = .ok (some (.num (.pos n)))) :
    eval orc (fuel + 1) (.call "abs" [a]) ctx = .ok (some (.num (.pos n))) := by
  rw [abs_num orc fuel ctx a _ ha]
  simp only [Num.toF64, abs_ofNat n hn, jnum, ofF64_ofNat n hn]

theorem floor_pos (a : Expr) (n : Nat) (hn : n < 2 ^ 53) (ha : eval orc fuel a ctx = .ok (some (.num (.pos n)))) :
    eval orc (fuel + 1) (.call "floor" [a]) ctx = .ok (some (.num (.pos n))) := by
  rw [floor_num orc fuel ctx a _ ha]
  simp only [Num.toF64, floor_of_fract _ (ofNat_fract n hn), jnum, ofF64_ofNat n hn]

theorem ceil_pos (a : Expr) (n : Nat) (hn : n < 2 ^ 53) (ha : eval orc fuel a ctx = .ok (some (.num (.pos n)))) :
    eval orc (fuel + 1) (.call "ceil" [a]) ctx = .ok (some (.num (.pos n))) := by
  rw [ceil_num orc fuel ctx a _ ha]
  simp only [Num.toF64, ceil_of_fract _ (ofNat_fract n hn), jnum, ofF64_ofNat n hn]

theorem round_pos (a : Expr) (n : Nat) (hn : n < 2 ^ 53) (ha : eval orc fuel a ctx = .ok (some (.num (.pos n)))) :
    eval orc (fuel + 1) (.call "round" [a]) ctx = .ok (some (.num (.pos n))) := by
  rw [round_num orc fuel ctx a _ ha]
  simp only [Num.toF64, round_of_fract _ (ofNat_fract n hn), jnum, ofF64_ofNat n hn]

/-- on a negative integer `-k` above `-2^53`: `abs` is `k`, the other three are `-k` -/
theorem abs_neg (a : Expr) (k : Nat) (hk0 : 0 < k) (hk : k < 2 ^ 53)
    (ha : eval orc fuel a ctx = .ok (some (.num (.neg (-(k : Int)))))) :
    eval orc (fuel + 1) (.call "abs" [a]) ctx = .ok (some (.num (.pos k))) := by
  rw [abs_num orc fuel ctx a _ ha]
  simp only [Num.toF64, abs_ofInt_neg k hk0 hk, jnum, ofF64_ofNat k hk]

theorem floor_neg (a : Expr) (k : Nat) (hk0 : 0 < k) (hk : k < 2 ^ 53)
    (ha : eval orc fuel a ctx = .ok (some (.num (.neg (-(k : Int)))))) :
    eval orc (fuel + 1) (.call "floor" [a]) ctx = .ok (some (.num (.neg (-(k : Int))))) := by
  rw [floor_num orc fuel ctx a _ ha]
  simp only [Num.toF64, floor_of_fract _ (ofInt_neg_fract k hk0 hk), jnum, ofF64_ofInt_neg k hk0 hk]

theorem ceil_neg (a : Expr) (k : Nat) (hk0 : 0 < k) (hk : k < 2 ^ 53)
    (ha : eval orc fuel a ctx = .ok (some (.num (.neg (-(k : Int)))))) :
    eval orc (fuel + 1) (.call "ceil" [a]) ctx = .ok (some (.num (.neg (-(k : Int))))) := by
  rw [ceil_num orc fuel ctx a _ ha]
  simp only [Num.toF64, ceil_of_fract _ (ofInt_neg_fract k hk0 hk), jnum, ofF64_ofInt_neg k hk0 hk]

theorem round_neg (a : Expr) (k : Nat) (hk0 : 0 < k) (hk : k < 2 ^ 53)
    (ha : eval orc fuel a ctx = .ok (some (.num (.neg (-(k : Int)))))) :
    eval orc (fuel + 1) (.call "round" [a]) ctx = .ok (some (.num (.neg (-(k : Int))))) := by
  rw [round_num orc fuel ctx a _ ha]
  simp only [Num.toF64, round_of_fract _ (ofInt_neg_fract k hk0 hk), jnum, ofF64_ofInt_neg k hk0 hk]

/-- on ANY number whose double is integral, `floor`, `ceil` and `round` agree (they all return the argument's double) -/
theorem floor_ceil_round_integral (a : Expr) (x : Num) (hx : x.toF64.fractIsZero = true)
    (ha : eval orc fuel a ctx = .ok (some (.num x))) :
    eval orc (fuel + 1) (.call "floor" [a]) ctx = .ok (jnum x.toF64) ∧
    eval orc (fuel + 1) (.call "ceil" [a]) ctx = .ok (jnum x.toF64) ∧
    eval orc (fuel + 1) (.call "round" [a]) ctx = .ok (jnum x.toF64) := by
  rw [floor_num orc fuel ctx a _ ha, ceil_num orc fuel ctx a _ ha, round_num orc fuel ctx a _ ha,
    floor_of_fract _ hx, ceil_of_fract _ hx, round_of_fract _ hx]
  exact ⟨rfl, rfl, rfl⟩

/-- on every finite float the result of `floor` / `ceil` / `round` is (the `From<f64>` of) an integral double -/
theorem floor_ceil_round_integral_result (a : Expr) (s : Bool) (m : Nat) (e : Int) (hm : m < 2 ^ 53)
    (ha : eval orc fuel a ctx = .ok (some (.num (.flt (.fin s m e))))) :
    (∃ g, eval orc (fuel + 1) (.call "floor" [a]) ctx = .ok (jnum g) ∧ g.fractIsZero = true) ∧
    (∃ g, eval orc (fuel + 1) (.call "ceil" [a]) ctx = .ok (jnum g) ∧ g.fractIsZero = true) ∧
    (∃ g, eval orc (fuel + 1) (.call "round" [a]) ctx = .ok (jnum g) ∧ g.fractIsZero = true) :=
  ⟨⟨_, floor_num orc fuel ctx a _ ha, floor_integral s m e hm⟩,
   ⟨_, ceil_num orc fuel ctx a _ ha, ceil_integral s m e hm⟩,
   ⟨_, round_num orc fuel ctx a _ ha, round_integral s m e hm⟩⟩

/-! ## An arithmetic result never is an infinity or a NaN -/

/-- whatever numbers `+ * - /` are applied to: the result is nothing or a number, and a float result is finite -/
theorem arith_result_finite (op : String) (hop : op ∈ ["+", "*", "-", "/"]) (a b : Expr) (x y : Num)
    (ha : eval orc fuel a ctx = .ok (some (.num x))) (hb : eval orc fuel b ctx = .ok (some (.num y))) :
    eval orc (fuel + 1) (.call op [a, b]) ctx = .ok none ∨
    ∃ n, eval orc (fuel + 1) (.call op [a, b]) ctx = .ok (some (.num n)) ∧ ∀ g, n = .flt g → g.isFinite = true := by
  simp only [List.mem_cons, List.not_mem_nil, or_false] at hop
  rcases hop with rfl | rfl | rfl | rfl
  · exact jnumFinite_result _ _ (add_nums orc fuel ctx a b x y ha hb)
  · exact jnumFinite_result _ _ (mul_nums orc fuel ctx a b x y ha hb)
  · exact jnumFinite_result _ _ (sub_nums orc fuel ctx a b x y ha hb)
  · cases hy : y.toF64.isZero with
    | true => exact .inl (div_by_zero orc fuel ctx a b x y hy ha hb)
    | false => exact jnumFinite_result _ _ (div_nums orc fuel ctx a b x y hy ha hb)

/-- the same for the unary `-` -/
theorem neg_result_finite (a : Expr) (x : Num) (ha : eval orc fuel a ctx = .ok (some (.num x))) :
    eval orc (fuel + 1) (.call "-" [a]) ctx = .ok none ∨
    ∃ n, eval orc (fuel + 1) (.call "-" [a]) ctx = .ok (some (.num n)) ∧ ∀ g, n = .flt g → g.isFinite = true :=
  jnumFinite_result _ _ (neg_num orc fuel ctx a x ha)

/-- an `f64` result that is not finite (overflow) is nothing -/
theorem mul_overflow (a b : Expr) (x y : Num)
    (hinf : (F64.mul (F64.mul (F64.ofNat 1) x.toF64) y.toF64).isFinite = false)
    (ha : eval orc fuel a ctx = .ok (some (.num x))) (hb : eval orc fuel b ctx = .ok (some (.num y))) :
    eval orc (fuel + 1) (.call "*" [a, b]) ctx = .ok none := by
  rw [mul_nums orc fuel ctx a b x y ha hb, (jnumFinite_eq_none _).2 hinf]

theorem add_overflow (a b : Expr) (x y : Num)
    (hinf : (F64.add (F64.add F64.zero x.toF64) y.toF64).isFinite = false)
    (ha : eval orc fuel a ctx = .ok (some (.num x))) (hb : eval orc fuel b ctx = .ok (some (.num y))) :
    eval orc (fuel + 1) (.call "+" [a, b]) ctx = .ok none := by
  rw [add_nums orc fuel ctx a b x y ha hb, (jnumFinite_eq_none _).2 hinf]

theorem sub_overflow (a b : Expr) (x y : Num) (hinf : (F64.sub x.toF64 y.toF64).isFinite = false)
    (ha : eval orc fuel a ctx = .ok (some (.num x))) (hb : eval orc fuel b ctx = .ok (some (.num y))) :
    eval orc (fuel + 1) (.call "-" [a, b]) ctx = .ok none := by
  rw [sub_nums orc fuel ctx a b x y ha hb, (jnumFinite_eq_none _).2 hinf]

theorem div_overflow (a b : Expr) (x y : Num) (hy : y.toF64.isZero = false)
    (hinf : (F64.div x.toF64 y.toF64).isFinite = false)
    (ha : eval orc fuel a ctx = .ok (some (.num x))) (hb : eval orc fuel b ctx = .ok (some (.num y))) :
    eval orc (fuel + 1) (.call "/" [a, b]) ctx = .ok none := by
  rw [div_nums orc fuel ctx a b x y hy ha hb, (jnumFinite_eq_none _).2 hinf]

/-! ## Strings: `concat`, `split`, `join ∘ split` -/

/-- `concat`: "Concat all string arguments.": all arguments strings ⇒ their concatenation, in order -/
theorem concat_strs (args : List Expr) (ss : List Str)
    (h : args.map (fun e => eval orc fuel e ctx) = ss.map (fun s => .ok (some (.str s)))) :
    eval orc (fuel + 1) (.call "concat" args) ctx = .ok (some (.str ss.flatten)) := by
  apply eval_string
  rw [callString]
  have hf : ss.foldl (· ++ ·) [] = ss.flatten := by
    simpa using List.foldl_append_eq_append (l := ss) (f := id) (l' := [])
  rw [foldArgs_all _ ctx _ _ (fun s => some (.str s)) (· ++ ·) (fun _ _ => rfl) args ss [] h, hf]

theorem concat_two (a b : Expr) (s t : Str)
    (ha : eval orc fuel a ctx = .ok (some (.str s))) (hb : eval orc fuel b ctx = .ok (some (.str t))) :
    eval orc (fuel + 1) (.call "concat" [a, b]) ctx = .ok (some (.str (s ++ t))) := by
  rw [concat_strs orc fuel ctx [a, b] [s, t] (by simp only [List.map_cons, List.map_nil, ha, hb])]
  simp only [List.flatten_cons, List.flatten_nil, List.append_nil]

/-- strings, then an argument that is not a string (the rest is not evaluated) ⇒ nothing -/
theorem concat_non_string (pre post : List Expr) (e : Expr) (w : Option JV) (hw : strArg w = none)
    (hpre : ∀ e' ∈ pre, ∃ s : Str, eval orc fuel e' ctx = .ok (some (.str s)))
    (he : eval orc fuel e ctx = .ok w) :
    eval orc (fuel + 1) (.call "concat" (pre ++ e :: post)) ctx = .ok none := by
  apply eval_string
  rw [callString]
  exact congrArg some (foldArgs_stop _ ctx _ _ pre post e w []
    (fun e' he' => (hpre e' he').elim fun x hx => ⟨_, hx, fun _ => ⟨_, rfl⟩⟩) he (fun _ => by simp only [hw]))

/-- the length of a concatenation is the sum of the lengths -/
theorem size_concat (a b : Expr) (s t : Str)
    (ha : eval orc fuel a ctx = .ok (some (.str s))) (hb : eval orc fuel b ctx = .ok (some (.str t))) :
    eval orc (fuel + 2) (.call "size" [.call "concat" [a, b]]) ctx = .ok (some (.num (.pos (s.length + t.length)))) := by
  rw [size_str orc (fuel + 1) ctx _ _ (concat_two orc fuel ctx a b s t ha hb), List.length_append]

/-- `split`: "Split the string into array of strings." (`str::split`) -/
theorem split_str (a b : Expr) (s sep : Str)
    (ha : eval orc fuel a ctx = .ok (some (.str s))) (hb : eval orc fuel b ctx = .ok (some (.str sep))) :
    eval orc (fuel + 1) (.call "split" [a, b]) ctx = .ok (some (.arr ((splitStr s sep).map JV.str))) :=
  split_eq orc fuel ctx a b _ _ ha hb

/-- the result of `split` is a non-empty array of strings which, joined by the separator, give the string back -/
theorem split_str_spec (a b : Expr) (s sep : Str)
    (ha : eval orc fuel a ctx = .ok (some (.str s))) (hb : eval orc fuel b ctx = .ok (some (.str sep))) :
    ∃ parts : List Str, eval orc (fuel + 1) (.call "split" [a, b]) ctx = .ok (some (.arr (parts.map JV.str))) ∧
      parts ≠ [] ∧ sep.intercalate parts = s :=
  ⟨_, split_str orc fuel ctx a b s sep ha hb, splitStr_ne_nil s sep, splitStr_intercalate s sep⟩

/-- a string or separator that is not a string ⇒ nothing -/
theorem split_wrong_type (a b : Expr) (v w : Option JV) (h : strArg v = none ∨ strArg w = none)
    (ha : eval orc fuel a ctx = .ok v) (hb : eval orc fuel b ctx = .ok w) :
    eval orc (fuel + 1) (.call "split" [a, b]) ctx = .ok none := by
  rw [split_eq orc fuel ctx a b v w ha hb]
  rcases h with h | h <;> simp only [h, Option.bind_none, Option.bind_fun_none]

/-- a string in which the (non-empty) separator does not occur is not split: `[s]` -/
theorem split_no_sep (a b : Expr) (s sep : Str) (hne : sep ≠ [])
    (h : ∀ i, i < s.length → sep.isPrefixOf (s.drop i) = false)
    (ha : eval orc fuel a ctx = .ok (some (.str s))) (hb : eval orc fuel b ctx = .ok (some (.str sep))) :
    eval orc (fuel + 1) (.call "split" [a, b]) ctx = .ok (some (.arr [.str s])) := by
  rw [split_str orc fuel ctx a b s sep ha hb, splitStr_no_sep s sep hne h]; rfl

/-- `(join (split s sep) sep) = s` -/
theorem join_split (a b c : Expr) (s sep : Str)
    (ha : eval orc fuel a ctx = .ok (some (.str s))) (hb : eval orc fuel b ctx = .ok (some (.str sep)))
    (hc : eval orc (fuel + 1) c ctx = .ok (some (.str sep))) :
    eval orc (fuel + 2) (.call "join" [.call "split" [a, b], c]) ctx = .ok (some (.str s)) := by
  rw [join_arr orc (fuel + 1) ctx _ c _ sep (split_str orc fuel ctx a b s sep ha hb) hc,
    joinGo_strs_all, splitStr_intercalate]
  rfl

/-! ## `stringify` and `parse` -/

/-- `stringify`: the compact JSON text of the value -/
theorem stringify_val (a : Expr) (v : JV) (ha : eval orc fuel a ctx = .ok (some v)) :
    eval orc (fuel + 1) (.call "stringify" [a]) ctx = .ok (some (.str v.display)) :=
  stringify_eq orc fuel ctx a _ ha

theorem stringify_nothing (a : Expr) (ha : eval orc fuel a ctx = .ok none) :
    eval orc (fuel + 1) (.call "stringify" [a]) ctx = .ok none :=
  stringify_eq orc fuel ctx a _ ha

/-- `parse` of something that is not a string ⇒ nothing -/
theorem parse_wrong_type (a : Expr) (v : Option JV) (hv : strArg v = none) (ha : eval orc fuel a ctx = .ok v) :
    eval orc (fuel + 1) (.call "parse" [a]) ctx = .ok none := by
  apply eval_string
  call_simp callString [ha, hv]

/-- `parse` of the printed text of a printable value is that value (in the parser's normal form: a `Negative`
holding a non-negative integer is read as a `Positive`) -/
theorem parse_display (a : Expr) (v : JV) (hv : RT.Printable {} v)
    (ha : eval orc fuel a ctx = .ok (some (.str v.display))) :
    eval orc (fuel + 1) (.call "parse" [a]) ctx = .ok (some (RT.norm v)) := by
  have hd : RT.Delim v [] := RT.Delim.of_numDelim (fun b hb => by simp at hb)
  obtain ⟨r1, h1, hr1⟩ := RT.nextJson_print {} v hv [] (fun _ h => absurd h List.not_mem_nil) [] hd
    (Reader.ofString v.display) (by simpa [Reader.ofString, JV.display] using RT.ready_ofBytes _ _)
  obtain ⟨r2, h2, -⟩ := RT.nextJson_end [] (fun _ h => absurd h List.not_mem_nil) r1 hr1
  apply eval_string
  call_simp callString [ha, h1, h2]

/-- `(parse (stringify x)) = x` -/
theorem parse_stringify (a : Expr) (v : JV) (hv : RT.Printable {} v) (ha : eval orc fuel a ctx = .ok (some v)) :
    eval orc (fuel + 2) (.call "parse" [.call "stringify" [a]]) ctx = .ok (some (RT.norm v)) :=
  parse_display orc (fuel + 1) ctx _ v hv (stringify_val orc fuel ctx a v ha)

/-! ## Library-backed functions (`env`, `match`, `extract_regex_group`, `base63_decode`, the time functions):
their values come from the library; an argument of the wrong type ⇒ nothing, without asking the library -/

/-- with arguments of the right types the answer is the library's (the oracle's) -/
theorem env_str (a : Expr) (s : Str) (ha : eval orc fuel a ctx = .ok (some (.str s))) :
    eval orc (fuel + 1) (.call "env" [a]) ctx = orc.ask "env" [.str s] := by
  apply eval_string
  call_simp callString [ha]

theorem match_strs (a b : Expr) (s re : Str)
    (ha : eval orc fuel a ctx = .ok (some (.str s))) (hb : eval orc fuel b ctx = .ok (some (.str re))) :
    eval orc (fuel + 1) (.call "match" [a, b]) ctx = orc.ask "match" [.str s, .str re] := by
  apply eval_string
  call_simp callString [ha, hb]

/-! wrong types: the function looks at its arguments with a `match`; in the branch that asks the library every
argument has the right type, which the hypothesis excludes -/

theorem env_wrong_type (a : Expr) (v : Option JV) (hv : strArg v = none) (ha : eval orc fuel a ctx = .ok v) :
    eval orc (fuel + 1) (.call "env" [a]) ctx = .ok none := by
  apply eval_string
  call_simp callString [ha]
  split
  · cases hv
  · rfl

theorem match_wrong_type (a b : Expr) (v w : Option JV) (h : strArg v = none ∨ strArg w = none)
    (ha : eval orc fuel a ctx = .ok v) (hb : eval orc fuel b ctx = .ok w) :
    eval orc (fuel + 1) (.call "match" [a, b]) ctx = .ok none := by
  apply eval_string
  call_simp callString [ha, hb]
  split
  · rcases h with h | h <;> cases h
  · rfl

theorem base63_decode_wrong_type (a : Expr) (v : Option JV) (hv : strArg v = none) (ha : eval orc fuel a ctx = .ok v) :
    eval orc (fuel + 1) (.call "base63_decode" [a]) ctx = .ok none := by
  apply eval_string
  call_simp callString [ha]
  split
  · cases hv
  · rfl

theorem parse_time_wrong_type (a b : Expr) (v w : Option JV) (h : strArg v = none ∨ strArg w = none)
    (ha : eval orc fuel a ctx = .ok v) (hb : eval orc fuel b ctx = .ok w) :
    eval orc (fuel + 1) (.call "parse_time" [a, b]) ctx = .ok none := by
  apply eval_string
  call_simp callString [ha, hb]
  split
  · rcases h with h | h <;> cases h
  · rfl

theorem parse_time_with_zone_wrong_type (a b : Expr) (v w : Option JV) (h : strArg v = none ∨ strArg w = none)
    (ha : eval orc fuel a ctx = .ok v) (hb : eval orc fuel b ctx = .ok w) :
    eval orc (fuel + 1) (.call "parse_time_with_zone" [a, b]) ctx = .ok none := by
  apply eval_string
  call_simp callString [ha, hb]
  split
  · rcases h with h | h <;> cases h
  · rfl

/-- `format_time`: the time must be a number, the format a string -/
theorem format_time_wrong_type (a b : Expr) (v w : Option JV) (h : numArg v = none ∨ strArg w = none)
    (ha : eval orc fuel a ctx = .ok v) (hb : eval orc fuel b ctx = .ok w) :
    eval orc (fuel + 1) (.call "format_time" [a, b]) ctx = .ok none := by
  apply eval_string
  call_simp callString [ha, hb]
  split
  · split
    · rcases h with h | h <;> cases h
    · rfl
  · rfl

/-- `extract_regex_group`: string, string, non-negative integer -/
theorem extract_regex_group_wrong_type (a b c : Expr) (v w u : Option JV)
    (h : strArg v = none ∨ strArg w = none ∨ usizeArg u = none)
    (ha : eval orc fuel a ctx = .ok v) (hb : eval orc fuel b ctx = .ok w) (hc : eval orc fuel c ctx = .ok u) :
    eval orc (fuel + 1) (.call "extract_regex_group" [a, b, c]) ctx = .ok none := by
  apply eval_string
  call_simp callString [ha, hb, hc]
  split
  · split
    · next n _ hn =>
      -- all three have the right type: `h` is refuted
      rcases h with h | h | h
      · cases h
      · cases h
      · cases hn.symm.trans h
    · rfl
  · rfl

end Jawk.C04

namespace Jawk.EvalLaws
open Jawk C04

section Examples
private def n (k : Nat) : Expr := .const (.num (.pos k))
private def s (t : String) : Expr := .const (.str t.toList)
/-- the double nearest to a decimal literal -/
private def dec (t : String) : F64 := (F64.parseDecimal t.toList).getD .nan
private def d (t : String) : Expr := .const (.num (.flt (dec t)))

/-! the documentation's examples -/
example : eval {} 5 (.call "*" [n 2, n 3]) {} = .ok (some (.num (.pos 6))) :=
  mul_pos_pos {} 4 {} _ _ 2 3 (by decide) (by decide) (by decide) rfl rfl
example : eval {} 5 (.call "*" [n 2, n 3, n 7]) {} = .ok (some (.num (.pos 42))) :=
  mul_pos_many {} 4 {} _ [2, 3, 7] (by decide) (by decide) rfl
example : eval {} 5 (.call "+" [n 1, n 3, n 3]) {} = .ok (some (.num (.pos 7))) :=
  add_pos_many {} 4 {} _ [1, 3, 3] (by decide) rfl
example : eval {} 5 (.call "*" [n 2, .const (.bool true)]) {} = .ok none :=
  mul_non_number_right {} 4 {} _ _ (.pos 2) (some (.bool true)) rfl rfl rfl
example : eval {} 5 (.call "-" [n 100, n 3]) {} = .ok (some (.num (.pos 97))) :=
  sub_pos_pos_ge {} 4 {} _ _ 100 3 (by decide) (by decide) rfl rfl
example : eval {} 5 (.call "-" [n 3, n 5]) {} = .ok (some (.num (.neg (-2)))) :=
  sub_pos_pos_lt {} 4 {} _ _ 3 5 (by decide) (by decide) rfl rfl
example : eval {} 5 (.call "-" [n 10]) {} = .ok (some (.num (.neg (-10)))) :=
  neg_pos {} 4 {} _ 10 (by decide) (by decide) rfl
example : eval {} 5 (.call "-" [.call "-" [n 10]]) {} = .ok (some (.num (.pos 10))) :=
  neg_neg {} 3 {} _ 10 (by decide) rfl
example : eval {} 5 (.call "-" [n 10, s "text"]) {} = .ok none :=
  sub_non_number {} 4 {} _ _ _ (some (.str "text".toList)) (.inr rfl) rfl rfl
example : eval {} 5 (.call "-" [.const .null, n 6]) {} = .ok none :=
  sub_non_number {} 4 {} _ _ (some .null) _ (.inl rfl) rfl rfl
example : eval {} 5 (.call "-" [.const (.obj [])]) {} = .ok none :=
  neg_non_number {} 4 {} _ (some (.obj [])) rfl rfl
/-- `(- 10 3.2)` is `6.8` -/
example : eval {} 5 (.call "-" [n 10, d "3.2"]) {} = .ok (some (.num (.flt (dec "6.8")))) := by
  rw [sub_nums {} 4 {} _ _ (.pos 10) (.flt (dec "3.2")) rfl rfl]
  have h : F64.sub (Num.pos 10).toF64 (Num.flt (dec "3.2")).toF64 = dec "6.8" := by decide +kernel
  have h2 : (dec "6.8").isFinite = true := by decide +kernel
  have h3 : Num.ofF64 (dec "6.8") = .flt (dec "6.8") := by decide +kernel
  simp only [h, jnumFinite, h2, if_true, jnum, h3]
example : eval {} 5 (.call "/" [n 100, n 25]) {} = .ok (some (.num (.pos 4))) := by
  rw [div_nums {} 4 {} _ _ (.pos 100) (.pos 25) (by decide +kernel) rfl rfl]
  have h : F64.div (Num.pos 100).toF64 (Num.pos 25).toF64 = F64.ofNat 4 := by decide +kernel
  rw [h, jnumFinite_ofNat_exact 4 (by decide)]
/-- `(/ 7 2)` is `3.5` -/
example : eval {} 5 (.call "/" [n 7, n 2]) {} = .ok (some (.num (.flt (dec "3.5")))) := by
  rw [div_nums {} 4 {} _ _ (.pos 7) (.pos 2) (by decide +kernel) rfl rfl]
  have h : F64.div (Num.pos 7).toF64 (Num.pos 2).toF64 = dec "3.5" := by decide +kernel
  have h2 : (dec "3.5").isFinite = true := by decide +kernel
  have h3 : Num.ofF64 (dec "3.5") = .flt (dec "3.5") := by decide +kernel
  simp only [h, jnumFinite, h2, if_true, jnum, h3]
example : eval {} 5 (.call "/" [n 7, n 0]) {} = .ok none :=
  div_by_zero {} 4 {} _ _ (.pos 7) (.pos 0) (by decide +kernel) rfl rfl
/-- a negative zero divisor is a zero divisor -/
example : eval {} 5 (.call "/" [n 7, .const (.num (.flt F64.negZero))]) {} = .ok none :=
  div_by_zero {} 4 {} _ _ (.pos 7) (.flt F64.negZero) rfl rfl rfl
example : eval {} 5 (.call "/" [n 7, .const (.arr [])]) {} = .ok none :=
  div_non_number {} 4 {} _ _ _ (some (.arr [])) (.inr rfl) rfl rfl
example : eval {} 5 (.call "%" [n 5, n 3]) {} = .ok (some (.num (.pos 2))) :=
  rem_pos_pos {} 4 {} _ _ 5 3 (by decide) (by decide) (by decide) rfl rfl
example : eval {} 5 (.call "%" [n 7, n 2]) {} = .ok (some (.num (.pos 1))) :=
  rem_pos_pos {} 4 {} _ _ 7 2 (by decide) (by decide) (by decide) rfl rfl
example : eval {} 5 (.call "%" [n 7, n 0]) {} = .ok none :=
  rem_by_zero {} 4 {} _ _ (.pos 7) (.pos 0) (by decide +kernel) rfl rfl
example : eval {} 5 (.call "%" [n 7, .const (.bool false)]) {} = .ok none :=
  rem_non_number {} 4 {} _ _ _ (some (.bool false)) (.inr rfl) rfl rfl
/-- `(% 10 7.5)` is `2.5`; `(% -10 7)` is `-3` (the sign of the dividend) -/
example : eval {} 5 (.call "%" [n 10, d "7.5"]) {} = .ok (some (.num (.flt (dec "2.5")))) := by
  rw [rem_nums {} 4 {} _ _ (.pos 10) (.flt (dec "7.5")) (by decide +kernel) rfl rfl]
  have h : Num.ofF64 (F64.rem (Num.pos 10).toF64 (Num.flt (dec "7.5")).toF64) = .flt (dec "2.5") := by decide +kernel
  simp only [jnum, h]
example : eval {} 5 (.call "%" [.const (.num (.neg (-10))), n 7]) {} = .ok (some (.num (.neg (-3)))) := by
  rw [rem_nums {} 4 {} _ _ (.neg (-10)) (.pos 7) (by decide +kernel) rfl rfl]
  have h : Num.ofF64 (F64.rem (Num.neg (-10)).toF64 (Num.pos 7).toF64) = .neg (-3) := by decide +kernel
  simp only [jnum, h]
example : eval {} 5 (.call "abs" [n 100]) {} = .ok (some (.num (.pos 100))) := abs_pos {} 4 {} _ 100 (by decide) rfl
example : eval {} 5 (.call "abs" [.const (.num (.neg (-100)))]) {} = .ok (some (.num (.pos 100))) :=
  abs_neg {} 4 {} _ 100 (by decide) (by decide) rfl
example : eval {} 5 (.call "abs" [.const (.arr [.num (.pos 0)])]) {} = .ok none :=
  abs_non_number {} 4 {} _ (some (.arr [.num (.pos 0)])) rfl rfl
example : eval {} 5 (.call "floor" [.const (.num (.neg (-10)))]) {} = .ok (some (.num (.neg (-10)))) :=
  floor_neg {} 4 {} _ 10 (by decide) (by decide) rfl
example : eval {} 5 (.call "ceil" [.const (.num (.neg (-10)))]) {} = .ok (some (.num (.neg (-10)))) :=
  ceil_neg {} 4 {} _ 10 (by decide) (by decide) rfl
example : eval {} 5 (.call "round" [.const (.num (.neg (-10)))]) {} = .ok (some (.num (.neg (-10)))) :=
  round_neg {} 4 {} _ 10 (by decide) (by decide) rfl
/-- `floor 10.3 = 10`, `floor -10.3 = -11`, `ceil 10.3 = 11`, `ceil -10.5 = -10`, `round 10.5 = 11`, `round -10.5 = -11` -/
example : eval {} 5 (.call "floor" [d "10.3"]) {} = .ok (some (.num (.pos 10))) := by
  rw [floor_num {} 4 {} _ (.flt (dec "10.3")) rfl]
  have h : Num.ofF64 (Num.flt (dec "10.3")).toF64.floor = .pos 10 := by decide +kernel
  simp only [jnum, h]
example : eval {} 5 (.call "floor" [d "-10.3"]) {} = .ok (some (.num (.neg (-11)))) := by
  rw [floor_num {} 4 {} _ (.flt (dec "-10.3")) rfl]
  have h : Num.ofF64 (Num.flt (dec "-10.3")).toF64.floor = .neg (-11) := by decide +kernel
  simp only [jnum, h]
example : eval {} 5 (.call "ceil" [d "10.3"]) {} = .ok (some (.num (.pos 11))) := by
  rw [ceil_num {} 4 {} _ (.flt (dec "10.3")) rfl]
  have h : Num.ofF64 (Num.flt (dec "10.3")).toF64.ceil = .pos 11 := by decide +kernel
  simp only [jnum, h]
example : eval {} 5 (.call "ceil" [d "-10.5"]) {} = .ok (some (.num (.neg (-10)))) := by
  rw [ceil_num {} 4 {} _ (.flt (dec "-10.5")) rfl]
  have h : Num.ofF64 (Num.flt (dec "-10.5")).toF64.ceil = .neg (-10) := by decide +kernel
  simp only [jnum, h]
example : eval {} 5 (.call "round" [d "10.5"]) {} = .ok (some (.num (.pos 11))) := by
  rw [round_num {} 4 {} _ (.flt (dec "10.5")) rfl]
  have h : Num.ofF64 (Num.flt (dec "10.5")).toF64.round = .pos 11 := by decide +kernel
  simp only [jnum, h]
example : eval {} 5 (.call "round" [d "-10.5"]) {} = .ok (some (.num (.neg (-11)))) := by
  rw [round_num {} 4 {} _ (.flt (dec "-10.5")) rfl]
  have h : Num.ofF64 (Num.flt (dec "-10.5")).toF64.round = .neg (-11) := by decide +kernel
  simp only [jnum, h]
example : eval {} 5 (.call "round" [.const (.arr [.num (.pos 0)])]) {} = .ok none :=
  round_non_number {} 4 {} _ (some (.arr [.num (.pos 0)])) rfl rfl

/-! the bound `2^53` of the exact laws is needed: an integer above it is not "that integer" after `abs`
(the real program prints `9007199254740992` for `(abs 9007199254740993)` as well) -/
example : eval {} 5 (.call "abs" [n 9007199254740993]) {} = .ok (some (.num (.pos 9007199254740992))) := by
  rw [abs_num {} 4 {} _ (.pos 9007199254740993) rfl]
  have h : Num.ofF64 (Num.pos 9007199254740993).toF64.abs = .pos 9007199254740992 := by decide +kernel
  simp only [jnum, h]

/-! overflow is nothing: `(* 2^1023 2)`; a non-number after numbers, the rest not evaluated -/
example : eval {} 5 (.call "*" [.const (.num (.flt (.fin false (2 ^ 52) 971))), n 2]) {} = .ok none :=
  mul_overflow {} 4 {} _ _ (.flt (.fin false (2 ^ 52) 971)) (.pos 2) (by decide +kernel) rfl rfl
example : eval {} 5 (.call "+" [n 1, n 2, s "x", .call "no-such-function" []]) {} = .ok none :=
  add_non_number_any {} 4 {} [n 1, n 2] [.call "no-such-function" []] (s "x") (some (.str "x".toList)) rfl
    (by intro e he; simp at he; rcases he with rfl | rfl <;> exact ⟨_, rfl⟩) rfl
example : eval {} 5 (.call "+" [n 1, .var "unset".toList]) {} = .ok none :=
  add_non_number_right {} 4 {} _ _ (.pos 1) none rfl rfl rfl

/-! strings -/
example : eval {} 5 (.call "concat" [s "one", s " ", s "two"]) {} = .ok (some (.str "one two".toList)) :=
  concat_strs {} 4 {} _ ["one".toList, " ".toList, "two".toList] rfl
example : eval {} 5 (.call "concat" [s "one", s " ", n 2]) {} = .ok none :=
  concat_non_string {} 4 {} [s "one", s " "] [] (n 2) (some (.num (.pos 2))) rfl
    (by intro e he; simp at he; rcases he with rfl | rfl <;> exact ⟨_, rfl⟩) rfl
example : eval {} 5 (.call "split" [s "one, two, three", s ", "]) {}
    = .ok (some (.arr [.str "one".toList, .str "two".toList, .str "three".toList])) := by
  rw [split_str {} 4 {} _ _ "one, two, three".toList ", ".toList rfl rfl]; rfl
example : eval {} 5 (.call "split" [s "a|b|c", s "|"]) {}
    = .ok (some (.arr [.str "a".toList, .str "b".toList, .str "c".toList])) := by
  rw [split_str {} 4 {} _ _ "a|b|c".toList "|".toList rfl rfl]; rfl
/-- the empty separator (as `str::split("")`, and as the real program): every character, with an empty string at both ends -/
example : eval {} 5 (.call "split" [s "abc", s ""]) {}
    = .ok (some (.arr [.str [], .str "a".toList, .str "b".toList, .str "c".toList, .str []])) := by
  rw [split_str {} 4 {} _ _ "abc".toList "".toList rfl rfl]; rfl
example : eval {} 5 (.call "split" [n 1, s "|"]) {} = .ok none :=
  split_wrong_type {} 4 {} _ _ (some (.num (.pos 1))) _ (.inl rfl) rfl rfl
example : eval {} 5 (.call "join" [.call "split" [s "a,b,,c", s ","], s ","]) {} = .ok (some (.str "a,b,,c".toList)) :=
  join_split {} 3 {} _ _ _ "a,b,,c".toList ",".toList rfl rfl rfl
example : eval {} 5 (.call "split" [s "abc", s "-"]) {} = .ok (some (.arr [.str "abc".toList])) :=
  split_no_sep {} 4 {} _ _ "abc".toList "-".toList (by decide) (by decide) rfl rfl
example : eval {} 5 (.call "parse" [.call "stringify" [.const RT.sample]]) {} = .ok (some RT.sample) := by
  rw [parse_stringify {} 3 {} _ RT.sample (RT.sample_printable {}) rfl, RT.sample_norm]
example : eval {} 5 (.call "parse" [n 1]) {} = .ok none :=
  parse_wrong_type {} 4 {} _ (some (.num (.pos 1))) rfl rfl
example : eval {} 5 (.call "env" [n 1]) {} = .ok none := env_wrong_type {} 4 {} _ (some (.num (.pos 1))) rfl rfl
example : eval {} 5 (.call "match" [s "a", n 1]) {} = .ok none :=
  match_wrong_type {} 4 {} _ _ _ (some (.num (.pos 1))) (.inr rfl) rfl rfl
example : eval {} 5 (.call "extract_regex_group" [s "a", s "b", .const (.num (.neg (-1)))]) {} = .ok none :=
  extract_regex_group_wrong_type {} 4 {} _ _ _ _ _ (some (.num (.neg (-1)))) (.inr (.inr rfl)) rfl rfl rfl
example : eval {} 5 (.call "format_time" [s "a", s "%Y"]) {} = .ok none :=
  format_time_wrong_type {} 4 {} _ _ (some (.str "a".toList)) _ (.inl rfl) rfl rfl
example : eval {} 5 (.call "parse_time" [s "a", .var "unset".toList]) {} = .ok none :=
  parse_time_wrong_type {} 4 {} _ _ _ none (.inr rfl) rfl rfl
/-- with the right types the answer is the library's: an oracle table with one entry -/
example : eval { table := [("env", ["\"HOME\"".toList], some (.str "/root".toList))] } 5 (.call "env" [s "HOME"]) {}
    = .ok (some (.str "/root".toList)) := by
  rw [env_str _ 4 {} _ "HOME".toList rfl]; rfl
/-- every finite double: the result of `floor` is integral -/
example : ∃ g, eval {} 5 (.call "floor" [.const (.num (.flt (.fin false (3 * 2 ^ 51) (-52))))]) {} = .ok (jnum g) ∧
    g.fractIsZero = true :=
  (floor_ceil_round_integral_result {} 4 {} _ false (3 * 2 ^ 51) (-52) (by decide) rfl).1
end Examples

/-! the laws that DESIGN.md names, also under the helpers' namespace -/

variable (orc : Oracles) (fuel : Nat) (ctx : Ctx)

theorem add_many (args : List Expr) (xs : List Num)
    (h : args.map (fun e => eval orc fuel e ctx) = xs.map (fun x => .ok (some (.num x)))) :
    eval orc (fuel + 1) (.call "+" args) ctx =
      .ok (jnumFinite (xs.foldl (fun s x => F64.add s x.toF64) F64.zero)) :=
  C04.add_many orc fuel ctx args xs h

theorem mul_pos_many (args : List Expr) (ns : List Nat) (hpos : ∀ n ∈ ns, 0 < n) (hp : ns.prod < 2 ^ 53)
    (h : args.map (fun e => eval orc fuel e ctx) = ns.map (fun n => .ok (some (.num (.pos n))))) :
    eval orc (fuel + 1) (.call "*" args) ctx = .ok (some (.num (.pos ns.prod))) :=
  C04.mul_pos_many orc fuel ctx args ns hpos hp h

theorem mul_pos_pos (a b : Expr) (m n : Nat) (hm : m < 2 ^ 53) (hn : n < 2 ^ 53) (h : m * n < 2 ^ 53)
    (ha : eval orc fuel a ctx = .ok (some (.num (.pos m)))) (hb : eval orc fuel b ctx = .ok (some (.num (.pos n)))) :
    eval orc (fuel + 1) (.call "*" [a, b]) ctx = .ok (some (.num (.pos (m * n)))) :=
  C04.mul_pos_pos orc fuel ctx a b m n hm hn h ha hb

theorem neg_neg (a : Expr) (n : Nat) (hn : n < 2 ^ 53)
    (ha : eval orc fuel a ctx = .ok (some (.num (.pos n)))) :
    eval orc (fuel + 2) (.call "-" [.call "-" [a]]) ctx = .ok (some (.num (.pos n))) :=
  C04.neg_neg orc fuel ctx a n hn ha

theorem rem_pos_pos (a b : Expr) (m n : Nat) (hm : m < 2 ^ 53) (hn : n < 2 ^ 53) (hn0 : 0 < n)
    (ha : eval orc fuel a ctx = .ok (some (.num (.pos m)))) (hb : eval orc fuel b ctx = .ok (some (.num (.pos n)))) :
    eval orc (fuel + 1) (.call "%" [a, b]) ctx = .ok (some (.num (.pos (m % n)))) :=
  C04.rem_pos_pos orc fuel ctx a b m n hm hn hn0 ha hb

theorem div_by_zero (a b : Expr) (x y : Num) (hy : y.toF64.isZero = true)
    (ha : eval orc fuel a ctx = .ok (some (.num x))) (hb : eval orc fuel b ctx = .ok (some (.num y))) :
    eval orc (fuel + 1) (.call "/" [a, b]) ctx = .ok none :=
  C04.div_by_zero orc fuel ctx a b x y hy ha hb

theorem rem_by_zero (a b : Expr) (x y : Num) (hy : y.toF64.isZero = true)
    (ha : eval orc fuel a ctx = .ok (some (.num x))) (hb : eval orc fuel b ctx = .ok (some (.num y))) :
    eval orc (fuel + 1) (.call "%" [a, b]) ctx = .ok none :=
  C04.rem_by_zero orc fuel ctx a b x y hy ha hb

theorem arith_result_finite (op : String) (hop : op ∈ ["+", "*", "-", "/"]) (a b : Expr) (x y : Num)
    (ha : eval orc fuel a ctx = .ok (some (.num x))) (hb : eval orc fuel b ctx = .ok (some (.num y))) :
    eval orc (fuel + 1) (.call op [a, b]) ctx = .ok none ∨
    ∃ n, eval orc (fuel + 1) (.call op [a, b]) ctx = .ok (some (.num n)) ∧ ∀ g, n = .flt g → g.isFinite = true :=
  C04.arith_result_finite orc fuel ctx op hop a b x y ha hb

theorem concat_strs (args : List Expr) (ss : List Str)
    (h : args.map (fun e => eval orc fuel e ctx) = ss.map (fun s => .ok (some (.str s)))) :
    eval orc (fuel + 1) (.call "concat" args) ctx = .ok (some (.str ss.flatten)) :=
  C04.concat_strs orc fuel ctx args ss h

theorem split_str_spec (a b : Expr) (s sep : Str)
    (ha : eval orc fuel a ctx = .ok (some (.str s))) (hb : eval orc fuel b ctx = .ok (some (.str sep))) :
    ∃ parts : List Str, eval orc (fuel + 1) (.call "split" [a, b]) ctx = .ok (some (.arr (parts.map JV.str))) ∧
      parts ≠ [] ∧ sep.intercalate parts = s :=
  C04.split_str_spec orc fuel ctx a b s sep ha hb

theorem join_split (a b c : Expr) (s sep : Str)
    (ha : eval orc fuel a ctx = .ok (some (.str s))) (hb : eval orc fuel b ctx = .ok (some (.str sep)))
    (hc : eval orc (fuel + 1) c ctx = .ok (some (.str sep))) :
    eval orc (fuel + 2) (.call "join" [.call "split" [a, b], c]) ctx = .ok (some (.str s)) :=
  C04.join_split orc fuel ctx a b c s sep ha hb hc

theorem parse_stringify (a : Expr) (v : JV) (hv : RT.Printable {} v) (ha : eval orc fuel a ctx = .ok (some v)) :
    eval orc (fuel + 2) (.call "parse" [.call "stringify" [a]]) ctx = .ok (some (RT.norm v)) :=
  C04.parse_stringify orc fuel ctx a v hv ha

end Jawk.EvalLaws

