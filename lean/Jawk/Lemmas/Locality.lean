/-
  C14 / C16 / C17: the reader looks at most one byte ahead.

  * prefix locality of every reader action (two readers that agree on the stream positions an action
     examines give the same result), fuel independence, `pulled_counts`, `lookahead_bound`;
  * along the trace of the read loop (`ReadLoop.lean`): read faults are fatal under every policy, the output
     logs only grow, the run up to a fault is the fault-free run;
  * `--take` stops reading (`take_stops`): the loop is local too;
  * line / column bookkeeping is exact, ranges tile.
-/
import Jawk.Lemmas.Fuel
import Jawk.Model.Run
import Jawk.Spec.Run
import Jawk.Props.C14Steps
import Jawk.Props.C16Steps
import Jawk.Props.C17Steps
namespace Jawk.Loc
open Jawk Reader Fuel

/-! ### Stream positions and agreement

The underlying stream of a reader is its list of items followed by "end of input".  A reader has examined
`pulled` items, plus the end-of-input position once `eof` is set.  `pos` counts the positions examined. -/

def eofBit (r : Reader) : Nat := if r.eof then 1 else 0

/-- number of stream positions examined so far: items pulled, plus one once the end of input was seen -/
def pos (r : Reader) : Nat := r.pulled + eofBit r

/-- two readers are in the same state and their streams agree on every position below the absolute
position `N` (the end-of-input marker counts as a position: `take` of a list shorter than the bound is
the whole list, so agreement beyond the end of one stream means the other ends there too) -/
structure AgreeTo (N : Nat) (r₁ r₂ : Reader) : Prop where
  cur : r₁.cur = r₂.cur
  eof : r₁.eof = r₂.eof
  loc : r₁.loc = r₂.loc
  pulled : r₁.pulled = r₂.pulled
  rest : r₁.rest.take (N - pos r₁) = r₂.rest.take (N - pos r₁)

/-- relative form: same state, and the next `k` stream positions agree -/
def Agree (k : Nat) (r₁ r₂ : Reader) : Prop := AgreeTo (pos r₁ + k) r₁ r₂

theorem AgreeTo.pos_eq {N : Nat} {r₁ r₂ : Reader} (h : AgreeTo N r₁ r₂) : pos r₂ = pos r₁ := by
  simp only [pos, eofBit, h.eof, h.pulled]

theorem AgreeTo.refl (N : Nat) (r : Reader) : AgreeTo N r r := ⟨rfl, rfl, rfl, rfl, rfl⟩

theorem AgreeTo.symm {N : Nat} {r₁ r₂ : Reader} (h : AgreeTo N r₁ r₂) : AgreeTo N r₂ r₁ :=
  ⟨h.cur.symm, h.eof.symm, h.loc.symm, h.pulled.symm, by rw [h.pos_eq]; exact h.rest.symm⟩

theorem AgreeTo.trans {N : Nat} {a b c : Reader} (h1 : AgreeTo N a b) (h2 : AgreeTo N b c) : AgreeTo N a c :=
  ⟨h1.cur.trans h2.cur, h1.eof.trans h2.eof, h1.loc.trans h2.loc, h1.pulled.trans h2.pulled, by
    have := h2.rest; rw [h1.pos_eq] at this; exact h1.rest.trans this⟩

theorem take_eq_of_le {α} {l₁ l₂ : List α} {n m : Nat} (h : l₁.take n = l₂.take n) (hm : m ≤ n) :
    l₁.take m = l₂.take m := by
  have h1 : (l₁.take n).take m = (l₂.take n).take m := by rw [h]
  simpa [List.take_take, Nat.min_eq_left hm] using h1

theorem AgreeTo.weaken {N N' : Nat} {r₁ r₂ : Reader} (h : AgreeTo N r₁ r₂) (hn : N' ≤ N) : AgreeTo N' r₁ r₂ :=
  ⟨h.cur, h.eof, h.loc, h.pulled, take_eq_of_le h.rest (by omega)⟩

theorem AgreeTo.wf {N : Nat} {r₁ r₂ : Reader} (h : AgreeTo N r₁ r₂) (hw : WF r₁) : WF r₂ := by
  intro he; rw [← h.cur]; exact hw (by rw [h.eof]; exact he)

/-- the canonical instance: the same reader state over `p ++ t₁` and over `p ++ t₂` -/
theorem agree_of_common_prefix (r : Reader) (p t₁ t₂ : List RItem) :
    Agree p.length { r with rest := p ++ t₁ } { r with rest := p ++ t₂ } := by
  refine ⟨rfl, rfl, rfl, rfl, ?_⟩
  show List.take (pos { r with rest := p ++ t₁ } + p.length - pos { r with rest := p ++ t₁ }) (p ++ t₁) = _
  rw [Nat.add_sub_cancel_left]
  simp

/-! ### Simulation of one action by another

`Sim m m'`: on readers that agree up to position `N`, if `m` stays below `N` and does not run out of fuel,
`m'` does exactly the same.  With `m' = m` this is prefix locality; with `m = f F`, `m' = f F'`, `F ≤ F'` it
also gives independence of the fuel. -/

structure Sim {α} (m m' : PM α) : Prop where
  mono : ∀ r, pos r ≤ pos (m r).2
  loc : ∀ N r₁ r₂, AgreeTo N r₁ r₂ → pos (m r₁).2 ≤ N → (m r₁).1 ≠ .error .outOfFuel →
    (m' r₂).1 = (m r₁).1 ∧ AgreeTo N (m r₁).2 (m' r₂).2

theorem sim_pure {α} (a : α) : Sim (pure a : PM α) (pure a) :=
  ⟨fun _ => Nat.le_refl _, fun _ _ _ h _ _ => ⟨rfl, h⟩⟩

theorem sim_fail {α} (e : PErr) : Sim (PM.fail e : PM α) (PM.fail e) :=
  ⟨fun _ => Nat.le_refl _, fun _ _ _ h _ _ => ⟨rfl, h⟩⟩

/-- an action that is out of fuel is simulated by anything -/
theorem sim_oof {α} (m' : PM α) : Sim (PM.fail .outOfFuel : PM α) m' :=
  ⟨fun _ => Nat.le_refl _, fun _ _ _ _ _ h => absurd rfl h⟩

theorem sim_locErr {α} (mk : Loc → PErr) : Sim (locErr mk : PM α) (locErr mk) :=
  ⟨fun _ => Nat.le_refl _, fun _ _ _ h _ _ => ⟨by simp only [locErr_apply, h.loc], h⟩⟩

theorem Sim.bind {α β} {m m' : PM α} {f f' : α → PM β} (hm : Sim m m') (hf : ∀ a, Sim (f a) (f' a)) :
    Sim (m >>= f) (m' >>= f') := by
  constructor
  · intro r
    have h1 := hm.mono r
    simp only [PM.bind_apply]
    cases h : m r with
    | mk res r1 =>
      rw [h] at h1
      cases res with
      | error e => exact h1
      | ok a => exact Nat.le_trans h1 ((hf a).mono r1)
  · intro N r₁ r₂ hag hpos hoof
    simp only [PM.bind_apply] at hpos hoof ⊢
    have h1 := hm.loc N r₁ r₂ hag
    cases h : m r₁ with
    | mk res r1 =>
      rw [h] at h1 hpos hoof
      cases res with
      | error e =>
        dsimp only at hpos hoof h1 ⊢
        obtain ⟨e1, a1⟩ := h1 hpos (fun h => hoof (by cases h; rfl))
        cases h' : m' r₂ with
        | mk res' r1' =>
          rw [h'] at e1 a1
          dsimp only at e1 a1
          subst e1
          exact ⟨rfl, a1⟩
      | ok a =>
        dsimp only at hpos hoof h1 ⊢
        have hle := (hf a).mono r1
        obtain ⟨e1, a1⟩ := h1 (Nat.le_trans hle hpos) (by intro h; cases h)
        cases h' : m' r₂ with
        | mk res' r1' =>
          rw [h'] at e1 a1
          dsimp only at e1 a1
          subst e1
          exact (hf a).loc N r1 r1' a1 hpos hoof

theorem next_pos (r : Reader) : pos r ≤ pos (Reader.next r).2 := by
  rcases r.next_cases with ⟨_, e⟩ | ⟨he, hr, e⟩ | ⟨rest, he, hr, e⟩ | ⟨b, rest, he, hr, e⟩ <;> rw [e] <;>
    simp [pos, eofBit, *]

/-- lists that agree on a non-empty prefix are both empty, or have the same head and tails that agree on one less -/
theorem take_succ_eq {α} {l₁ l₂ : List α} {n : Nat} (h : l₁.take (n + 1) = l₂.take (n + 1)) :
    (l₁ = [] ∧ l₂ = []) ∨ ∃ x t₁ t₂, l₁ = x :: t₁ ∧ l₂ = x :: t₂ ∧ t₁.take n = t₂.take n := by
  cases l₁ with
  | nil => cases l₂ with
    | nil => exact .inl ⟨rfl, rfl⟩
    | cons y t => simp at h
  | cons x t₁ => cases l₂ with
    | nil => simp at h
    | cons y t₂ =>
      simp only [List.take_succ_cons, List.cons.injEq] at h
      exact .inr ⟨x, t₁, t₂, rfl, by rw [h.1], h.2⟩

theorem next_sim : Sim Reader.next Reader.next := by
  refine ⟨next_pos, ?_⟩
  intro N r₁ r₂ hag hpos _
  obtain ⟨rest₁, cur₁, eof₁, loc₁, pulled₁⟩ := r₁
  obtain ⟨rest₂, cur₂, eof₂, loc₂, pulled₂⟩ := r₂
  obtain ⟨hc, he, hl, hp, hr⟩ := hag
  dsimp only at hc he hl hp hr
  subst hc he hl hp
  cases eof₁ with
  | true => exact ⟨rfl, ⟨rfl, rfl, rfl, rfl, hr⟩⟩
  | false =>
    -- `next` examines the position `pulled₁`, which is below `N`: the streams agree there
    have hN : pulled₁ < N := by
      cases rest₁ with
      | nil => simp [Reader.next, pos, eofBit] at hpos; omega
      | cons it _ => cases it <;> simp [Reader.next, pos, eofBit] at hpos <;> omega
    obtain ⟨n, hn⟩ : ∃ n, N - pulled₁ = n + 1 := ⟨N - pulled₁ - 1, by omega⟩
    have hn' : N - (pulled₁ + 1) = n := by omega
    simp only [pos, eofBit, Bool.false_eq_true, if_false, Nat.add_zero, hn] at hr
    rcases take_succ_eq hr with ⟨rfl, rfl⟩ | ⟨x, t₁, t₂, rfl, rfl, ht⟩
    · exact ⟨rfl, ⟨rfl, rfl, rfl, rfl, rfl⟩⟩
    · cases x <;>
      · refine ⟨rfl, ⟨rfl, rfl, rfl, rfl, ?_⟩⟩
        simp only [Reader.next, Bool.false_eq_true, if_false, pos, eofBit, Nat.add_zero, hn']
        exact ht

theorem peek_sim : Sim Reader.peek Reader.peek := by
  constructor
  · intro r
    unfold Reader.peek
    split
    · exact Nat.le_refl _
    · exact next_pos r
  · intro N r₁ r₂ hag hpos hoof
    unfold Reader.peek at hpos hoof ⊢
    rw [← hag.cur]
    split
    · exact ⟨rfl, hag⟩
    · rename_i hc
      rw [hc] at hpos hoof
      exact next_sim.loc N r₁ r₂ hag hpos hoof

theorem sim_closed : PM.Closed₂ Sim :=
  ⟨sim_pure, sim_oof, fun mk _ => sim_locErr mk, next_sim, peek_sim, Sim.bind⟩

/-- all five mutually recursive value readers at one pair of fuel levels -/
structure ValueSim (F F' : Nat) : Prop where
  value : Sim (nextValue F) (nextValue F')
  array : Sim (readArray F) (readArray F')
  arrayLoop : ∀ acc, Sim (readArrayLoop F acc) (readArrayLoop F' acc)
  object : Sim (readObject F) (readObject F')
  objectLoop : ∀ acc, Sim (readObjectLoop F acc) (readObjectLoop F' acc)

theorem valueSim {F F' : Nat} (h : F ≤ F') : ValueSim F F' :=
  have v := sim_closed.values h
  ⟨v.1, v.2.1, v.2.2.1, v.2.2.2.1, v.2.2.2.2⟩

theorem nextValue_sim {F F' : Nat} (h : F ≤ F') : Sim (nextValue F) (nextValue F') := sim_closed.nextValue h

/-! Prefix locality of each action, by name (`Sim m m`) -/
theorem next_local : Sim Reader.next Reader.next := next_sim
theorem peek_local : Sim Reader.peek Reader.peek := peek_sim
theorem eatWhitespace_local (F : Nat) : Sim (eatWhitespace F) (eatWhitespace F) :=
  sim_closed.eatWhitespace (Nat.le_refl _)
theorem readDigits_local (F : Nat) (acc : List Byte) : Sim (readDigits F acc) (readDigits F acc) :=
  sim_closed.readDigits (Nat.le_refl _) _
theorem readWordTail_local (word : String) (es : List Byte) : Sim (readWordTail word es) (readWordTail word es) :=
  sim_closed.readWordTail _ _
theorem readHex4_local (k acc : Nat) : Sim (readHex4 k acc) (readHex4 k acc) := sim_closed.readHex4 _ _
theorem readStringLoop_local (F : Nat) (acc : List Byte) : Sim (readStringLoop F acc) (readStringLoop F acc) :=
  sim_closed.readStringLoop (Nat.le_refl _) _
theorem readNumber_local (F : Nat) : Sim (readNumber F) (readNumber F) := sim_closed.readNumber (Nat.le_refl _)
theorem nextValue_local (F : Nat) : Sim (nextValue F) (nextValue F) := nextValue_sim (Nat.le_refl _)
theorem readArray_local (F : Nat) : Sim (readArray F) (readArray F) := (valueSim (Nat.le_refl F)).array
theorem readArrayLoop_local (F : Nat) (acc : List JV) : Sim (readArrayLoop F acc) (readArrayLoop F acc) :=
  (valueSim (Nat.le_refl F)).arrayLoop acc
theorem readObject_local (F : Nat) : Sim (readObject F) (readObject F) := (valueSim (Nat.le_refl F)).object
theorem readObjectLoop_local (F : Nat) (acc : List (Str × JV)) :
    Sim (readObjectLoop F acc) (readObjectLoop F acc) := (valueSim (Nat.le_refl F)).objectLoop acc

/-! ### Consequences of a simulation: fuel independence, relative forms -/

theorem eq_of_take_eq {α} {l₁ l₂ : List α} {k : Nat} (h : l₁.take k = l₂.take k) (hk : l₁.length < k) :
    l₁ = l₂ := by
  have h1 : l₁.take k = l₁ := List.take_of_length_le (by omega)
  have h2 : (l₂.take k).length = l₁.length := by rw [← h, h1]
  have h3 : l₂.length < k := by
    rw [List.length_take] at h2
    omega
  rw [h1, List.take_of_length_le (by omega)] at h
  exact h

/-- agreement beyond the end of the stream is equality -/
theorem AgreeTo.eq_of_large {N : Nat} {r₁ r₂ : Reader} (h : AgreeTo N r₁ r₂)
    (hN : pos r₁ + r₁.rest.length < N) : r₁ = r₂ := by
  obtain ⟨rest₁, cur₁, eof₁, loc₁, pulled₁⟩ := r₁
  obtain ⟨rest₂, cur₂, eof₂, loc₂, pulled₂⟩ := r₂
  obtain ⟨hc, he, hl, hp, hr⟩ := h
  dsimp only at hc he hl hp hr hN
  subst hc he hl hp
  have := eq_of_take_eq hr (by omega)
  subst this
  rfl

/-- more fuel does not change a result that was not "out of fuel" -/
theorem Sim.fuel_indep {α} {m m' : PM α} (hs : Sim m m') (r : Reader)
    (hoof : (m r).1 ≠ .error .outOfFuel) : m' r = m r := by
  have hm := hs.mono r
  obtain ⟨h1, h2⟩ := hs.loc (pos (m r).2 + (m r).2.rest.length + 1) r r (AgreeTo.refl _ _) (by omega) hoof
  have h3 := h2.eq_of_large (by omega)
  cases hm' : m' r with
  | mk res' r' =>
    cases hm0 : m r with
    | mk res r0 =>
      rw [hm', hm0] at h1
      rw [hm', hm0] at h3
      dsimp only at h1 h3
      rw [h1, h3]

theorem nextValue_fuel_indep {F F' : Nat} (h : F ≤ F') (r : Reader)
    (hoof : (nextValue F r).1 ≠ .error .outOfFuel) : nextValue F' r = nextValue F r :=
  (nextValue_sim h).fuel_indep r hoof

/-- on a well-formed reader `nextJson` is `nextValue` at ANY fuel that is at least the fuel it uses -/
theorem nextJson_eq_nextValue (r : Reader) (hw : WF r) {F : Nat} (hF : 4 * r.rest.length + 10 ≤ F) :
    nextValue F r = r.nextJson :=
  nextValue_fuel_indep hF r (nextJson_fuel r hw)

/-- PREFIX LOCALITY of `nextJson` (absolute form): two well-formed readers in the same state whose streams
agree on every position `nextJson` examines on the first give the same result and end in the same state,
still agreeing — although the two calls run with different amounts of fuel. -/
theorem nextJson_local {N : Nat} {r₁ r₂ : Reader} (hag : AgreeTo N r₁ r₂) (hw : WF r₁)
    (hpos : pos r₁.nextJson.2 ≤ N) :
    r₂.nextJson.1 = r₁.nextJson.1 ∧ AgreeTo N r₁.nextJson.2 r₂.nextJson.2 := by
  have hoof := nextJson_fuel r₁ hw
  have hw₂ := hag.wf hw
  have h1 := (nextValue_sim (Nat.le_refl (4 * r₁.rest.length + 10))).loc N r₁ r₂ hag hpos hoof
  have h2 : r₂.nextJson = nextValue (4 * r₁.rest.length + 10) r₂ := by
    rcases Nat.le_total (4 * r₁.rest.length + 10) (4 * r₂.rest.length + 10) with hle | hle
    · exact nextValue_fuel_indep hle r₂ (by rw [h1.1]; exact hoof)
    · exact (nextValue_fuel_indep hle r₂ (nextJson_fuel r₂ hw₂)).symm
  rw [h2]
  exact h1

/-! ### `pulled_counts`: every pull removes exactly one item -/

/-- `pulled + rest.length` is invariant under the action (in the `.ok` and in the `.error` outcome) -/
structure PCount {α} (m : PM α) : Prop where
  count : ∀ r, (m r).2.pulled + (m r).2.rest.length = r.pulled + r.rest.length

theorem next_count (r : Reader) :
    (Reader.next r).2.pulled + (Reader.next r).2.rest.length = r.pulled + r.rest.length := by
  rcases r.next_cases with ⟨_, e⟩ | ⟨he, hr, e⟩ | ⟨rest, he, hr, e⟩ | ⟨b, rest, he, hr, e⟩ <;> rw [e]
  all_goals simp only [hr, List.length_cons]; omega

theorem pcount_closed : PM.Closed PCount :=
  .of_rel (fun r r' => r'.pulled + r'.rest.length = r.pulled + r.rest.length) (fun _ => ⟨PCount.count, PCount.mk⟩)
    (fun _ => rfl) (fun h1 h2 => h2.trans h1) next_count

structure ValueCount (fuel : Nat) : Prop where
  value : PCount (nextValue fuel)
  array : PCount (readArray fuel)
  arrayLoop : ∀ acc, PCount (readArrayLoop fuel acc)
  object : PCount (readObject fuel)
  objectLoop : ∀ acc, PCount (readObjectLoop fuel acc)

theorem valueCount (fuel : Nat) : ValueCount fuel :=
  ⟨pcount_closed.nextValue _, pcount_closed.readArray _, pcount_closed.readArrayLoop _,
    pcount_closed.readObject _, pcount_closed.readObjectLoop _⟩

theorem nextValue_pcount (fuel : Nat) : PCount (nextValue fuel) := pcount_closed.nextValue fuel
theorem readArray_pcount (fuel : Nat) : PCount (readArray fuel) := pcount_closed.readArray fuel
theorem readArrayLoop_pcount (fuel : Nat) (acc : List JV) : PCount (readArrayLoop fuel acc) :=
  pcount_closed.readArrayLoop fuel acc
theorem readObject_pcount (fuel : Nat) : PCount (readObject fuel) := pcount_closed.readObject fuel
theorem readObjectLoop_pcount (fuel : Nat) (acc : List (Str × JV)) : PCount (readObjectLoop fuel acc) :=
  pcount_closed.readObjectLoop fuel acc

theorem nextJson_count (r : Reader) :
    r.nextJson.2.pulled + r.nextJson.2.rest.length = r.pulled + r.rest.length := by
  rw [r.nextJson_def]
  exact (nextValue_pcount _).count r

/-- `pulled_counts`, generic: for every action that is monotone and counts -/
theorem pulled_counts {α} {m : PM α} (hm : PMono m) (hc : PCount m) (r : Reader) :
    (m r).2.pulled = r.pulled + (r.rest.length - (m r).2.rest.length) := by
  have h1 := (hm.mono r).length_le
  have h2 := hc.count r
  omega

theorem drop_of_suffix {α} {l l' : List α} (h : l' <:+ l) : l' = l.drop (l.length - l'.length) := by
  obtain ⟨t, rfl⟩ := h
  simp

/-- what is left is the input minus exactly the items pulled -/
theorem rest_eq_drop {α} {m : PM α} (hm : PMono m) (hc : PCount m) (r : Reader) :
    (m r).2.rest = r.rest.drop ((m r).2.pulled - r.pulled) := by
  have h := drop_of_suffix (hm.mono r).suffix
  have h2 := pulled_counts hm hc r
  rw [show (m r).2.pulled - r.pulled = r.rest.length - (m r).2.rest.length by omega]
  exact h

/-- `pulled_counts` for `nextJson` -/
theorem nextJson_pulled_counts (r : Reader) :
    r.nextJson.2.pulled = r.pulled + (r.rest.length - r.nextJson.2.rest.length) :=
  pulled_counts (nextValue_pmono _) (nextValue_pcount _) r

theorem nextJson_rest_eq_drop (r : Reader) :
    r.nextJson.2.rest = r.rest.drop (r.nextJson.2.pulled - r.pulled) :=
  rest_eq_drop (nextValue_pmono _) (nextValue_pcount _) r

theorem nextJson_pos_mono (r : Reader) : pos r ≤ pos r.nextJson.2 := (nextValue_sim (Nat.le_refl _)).mono r

theorem pulled_le_pos (r : Reader) : r.pulled ≤ pos r := Nat.le_add_right _ _
theorem pos_le_pulled (r : Reader) : pos r ≤ r.pulled + 1 := by
  simp only [pos, eofBit]; split <;> omega
theorem pos_of_not_eof {r : Reader} (h : r.eof = false) : pos r = r.pulled := by
  simp [pos, eofBit, h]

/-! ### Relative forms -/

theorem Agree.weaken {k k' : Nat} {r₁ r₂ : Reader} (h : Agree k r₁ r₂) (hk : k' ≤ k) : Agree k' r₁ r₂ :=
  AgreeTo.weaken h (by omega)

/-- from agreement below an absolute bound to the relative form: the first call pulled `d` items and ended in
`r₁'`; if the readers agree on `k` positions with `d < k` — or `d ≤ k` and `r₁'` has not seen the end of input —
then the second call (ending in `r₂'`) pulled `d` too and they still agree on the remaining `k - d - 1` (resp.
`k - d`) positions.  `X` is whatever else locality gives (the results are equal). -/
theorem Agree.pulled_of_local {X : Prop} {k d : Nat} {r₁ r₂ r₁' r₂' : Reader} (hag : Agree k r₁ r₂)
    (hd : r₁'.pulled = r₁.pulled + d) (hk : d < k ∨ (d ≤ k ∧ r₁'.eof = false))
    (hloc : pos r₁' ≤ pos r₁ + k → X ∧ AgreeTo (pos r₁ + k) r₁' r₂') :
    X ∧ r₂'.pulled = r₂.pulled + d ∧ Agree (k - d - 1) r₁' r₂' ∧ (r₁'.eof = false → Agree (k - d) r₁' r₂') := by
  have hp1 := pulled_le_pos r₁
  have hp2 := pos_le_pulled r₁'
  have hpos : pos r₁' ≤ pos r₁ + k := by
    rcases hk with hk | ⟨hk, he⟩
    · omega
    · rw [pos_of_not_eof he]; omega
  obtain ⟨h1, h2⟩ := hloc hpos
  refine ⟨h1, ?_, h2.weaken (by omega), fun he => h2.weaken ?_⟩
  · rw [← h2.pulled, hd, hag.pulled]
  · rw [pos_of_not_eof he]; omega

theorem Sim.agree_pulled {α} {m m' : PM α} (hs : Sim m m') {k d : Nat} {r₁ r₂ : Reader} (hag : Agree k r₁ r₂)
    (hoof : (m r₁).1 ≠ .error .outOfFuel) (hd : (m r₁).2.pulled = r₁.pulled + d)
    (hk : d < k ∨ (d ≤ k ∧ (m r₁).2.eof = false)) :
    (m' r₂).1 = (m r₁).1 ∧ (m' r₂).2.pulled = r₂.pulled + d ∧
      Agree (k - d - 1) (m r₁).2 (m' r₂).2 ∧ ((m r₁).2.eof = false → Agree (k - d) (m r₁).2 (m' r₂).2) :=
  hag.pulled_of_local hd hk fun hpos => hs.loc _ r₁ r₂ hag hpos hoof

/-- PREFIX LOCALITY of `nextJson`, relative form: `nextJson` pulls `d` items and its result is unchanged by
changing anything after the first `d + 1` items — after the first `d` items if it did not see the end of input -/
theorem nextJson_agree_pulled {k d : Nat} {r₁ r₂ : Reader} (hag : Agree k r₁ r₂) (hw : WF r₁)
    (hd : r₁.nextJson.2.pulled = r₁.pulled + d) (hk : d < k ∨ (d ≤ k ∧ r₁.nextJson.2.eof = false)) :
    r₂.nextJson.1 = r₁.nextJson.1 ∧ r₂.nextJson.2.pulled = r₂.pulled + d ∧
      Agree (k - d - 1) r₁.nextJson.2 r₂.nextJson.2 ∧
      (r₁.nextJson.2.eof = false → Agree (k - d) r₁.nextJson.2 r₂.nextJson.2) :=
  hag.pulled_of_local hd hk (nextJson_local hag hw)

/-- PREFIX LOCALITY over a common prefix: the same reader state over `p ++ t₁` and over `p ++ t₂`; if
`nextJson` on the first stops with `q ++ t₁` unread, `q` non-empty (it never reached the end of the common
prefix `p`), then on the second it gives the same result and stops with `q ++ t₂` unread, in the same state. -/
theorem nextJson_prefix_locality (r : Reader) (hw : WF r) (p t₁ t₂ q : List RItem)
    (res : Except PErr (Option JV)) (r₁' : Reader)
    (h : Reader.nextJson { r with rest := p ++ t₁ } = (res, r₁')) (hq : r₁'.rest = q ++ t₁) (hne : q ≠ []) :
    ∃ r₂', Reader.nextJson { r with rest := p ++ t₂ } = (res, r₂') ∧ r₂'.rest = q ++ t₂ ∧
      r₂'.cur = r₁'.cur ∧ r₂'.eof = r₁'.eof ∧ r₂'.loc = r₁'.loc ∧ r₂'.pulled = r₁'.pulled := by
  have hag := agree_of_common_prefix r p t₁ t₂
  have hcnt := nextJson_pulled_counts { r with rest := p ++ t₁ }
  have hdrop := nextJson_rest_eq_drop { r with rest := p ++ t₁ }
  have hlen := nextJson_rest_le { r with rest := p ++ t₁ }
  rw [h] at hcnt hdrop hlen
  dsimp only at hcnt hdrop hlen
  have hq0 : 0 < q.length := List.length_pos_iff.mpr hne
  rw [hq] at hlen hcnt
  simp only [List.length_append] at hlen hcnt
  have hd : r₁'.pulled = r.pulled + (p.length - q.length) := by omega
  have hp1 := pos_le_pulled r₁'
  have hp2 := pulled_le_pos { r with rest := p ++ t₁ }
  dsimp only at hp2
  obtain ⟨e1, e2⟩ := nextJson_local (N := pos { r with rest := p ++ t₁ } + p.length) hag (fun he => hw he)
    (by rw [h]; dsimp only; omega)
  rw [h] at e1 e2
  dsimp only at e1 e2
  have hdrop2 := nextJson_rest_eq_drop { r with rest := p ++ t₂ }
  rw [← e2.pulled] at hdrop2
  dsimp only at hdrop2
  have hle : p.length - q.length ≤ p.length := Nat.sub_le _ _
  rw [hd, Nat.add_sub_cancel_left, List.drop_append_of_le_length hle] at hdrop2
  rw [hq, hd, Nat.add_sub_cancel_left, List.drop_append_of_le_length hle] at hdrop
  have hqq : q = p.drop (p.length - q.length) := List.append_cancel_right hdrop
  refine ⟨(Reader.nextJson { r with rest := p ++ t₂ }).2, ?_, ?_, e2.cur.symm, e2.eof.symm, e2.loc.symm,
    e2.pulled.symm⟩
  · rw [← e1]
  · rw [hdrop2, ← hqq]

/-! ### Non-vacuity and the counter-example that fixes the formulation

`1` and `12` agree on the first item and `nextJson` pulls exactly one item on `1` — but it also saw the end of
input there, which is a second stream position: the results differ.  So "agree on the `d` items pulled" is not
enough in general; `d + 1` positions (or `d` and no end-of-input seen) are. -/

example : Agree 1 (Reader.ofBytes [49]) (Reader.ofBytes [49, 50]) := by
  refine ⟨rfl, rfl, rfl, rfl, ?_⟩; decide
example : (Reader.nextJson (Reader.ofBytes [49])).2.pulled = 1 := by decide +kernel
example : (Reader.nextJson (Reader.ofBytes [49])).1 = .ok (some (.num (.pos 1))) := by rfl
example : (Reader.nextJson (Reader.ofBytes [49, 50])).1 = .ok (some (.num (.pos 12))) := by rfl

/-- the readers over `[1] [2]` and `[1] [3,4]` agree on the first 4 items; `nextJson` pulls 4 of them -/
example : Agree 4 (Reader.ofBytes [91, 49, 93, 32, 91, 50, 93]) (Reader.ofBytes [91, 49, 93, 32, 91, 51, 44, 52, 93]) := by
  refine ⟨rfl, rfl, rfl, rfl, ?_⟩; decide
example : (Reader.nextJson (Reader.ofBytes [91, 49, 93, 32, 91, 50, 93])).2.pulled = 4
    ∧ (Reader.nextJson (Reader.ofBytes [91, 49, 93, 32, 91, 50, 93])).2.eof = false := by decide +kernel

example : (Reader.nextJson (Reader.ofBytes [91, 49, 93, 32, 91, 51, 44, 52, 93])).1
    = (Reader.nextJson (Reader.ofBytes [91, 49, 93, 32, 91, 50, 93])).1 :=
  (nextJson_agree_pulled (k := 4) (d := 4)
    (r₁ := Reader.ofBytes [91, 49, 93, 32, 91, 50, 93]) (r₂ := Reader.ofBytes [91, 49, 93, 32, 91, 51, 44, 52, 93])
    (by refine ⟨rfl, rfl, rfl, rfl, ?_⟩; decide) (wf_ofBytes _ _) (by decide +kernel) (.inr ⟨by decide, by decide +kernel⟩)).1

/-! ### `lookahead_bound`: one byte of look-ahead, held in `cur` -/

/-- the look-ahead byte as an item list -/
def curItems (r : Reader) : List RItem := match r.cur with | some b => [RItem.byte b] | none => []

theorem pending_eq (r : Reader) : r.pending = curItems r ++ r.rest := rfl

def curBit (r : Reader) : Nat := if r.cur.isSome then 1 else 0

/-- Items pulled = items consumed (no longer pending) + the look-ahead byte now held − the look-ahead byte held
before.  `pending` counts the look-ahead byte as unread, so this is exact bookkeeping for EVERY outcome. -/
theorem lookahead_count (r : Reader) :
    r.nextJson.2.pulled + r.nextJson.2.pending.length + curBit r
      = r.pulled + r.pending.length + curBit r.nextJson.2 := by
  have h := nextJson_count r
  have h1 := pending_length r
  have h2 := pending_length r.nextJson.2
  simp only [curBit]
  omega

/-- `lookahead_bound`: `nextJson` pulls at most ONE item beyond what it consumed (removed from `pending`) -/
theorem lookahead_bound (r : Reader) :
    r.nextJson.2.pulled ≤ r.pulled + (r.pending.length - r.nextJson.2.pending.length) + 1 := by
  have h := lookahead_count r
  have h1 : curBit r.nextJson.2 ≤ 1 := by simp only [curBit]; split <;> omega
  omega

/-- what a successful action did to the look-ahead byte: either nothing was pulled (the stream is untouched
and `cur` is unchanged or was cleared at the end of input), or something was pulled and the byte held in `cur`,
if any, is the LAST item pulled -/
def LookStep (r r' : Reader) : Prop :=
  r'.rest <:+ r.rest ∧
  ((r'.pulled = r.pulled ∧ r'.rest = r.rest ∧ (r'.cur = r.cur ∨ r'.cur = none)) ∨
   (r.pulled < r'.pulled ∧ ∀ b, r'.cur = some b → ∃ pre, r.rest = pre ++ RItem.byte b :: r'.rest))

theorem LookStep.refl (r : Reader) : LookStep r r := ⟨List.suffix_refl _, .inl ⟨rfl, rfl, .inl rfl⟩⟩

theorem LookStep.trans {a b c : Reader} (h1 : LookStep a b) (h2 : LookStep b c) : LookStep a c := by
  obtain ⟨s1, h1⟩ := h1
  obtain ⟨s2, h2⟩ := h2
  refine ⟨s2.trans s1, ?_⟩
  rcases h1 with ⟨p1, r1, c1⟩ | ⟨p1, l1⟩
  · rcases h2 with ⟨p2, r2, c2⟩ | ⟨p2, l2⟩
    · refine .inl ⟨p2.trans p1, r2.trans r1, ?_⟩
      rcases c2 with c2 | c2
      · rcases c1 with c1 | c1
        · exact .inl (c2.trans c1)
        · exact .inr (c2.trans c1)
      · exact .inr c2
    · refine .inr ⟨by omega, fun x hx => ?_⟩
      rw [← r1]; exact l2 x hx
  · rcases h2 with ⟨p2, r2, c2⟩ | ⟨p2, l2⟩
    · refine .inr ⟨by omega, fun x hx => ?_⟩
      rcases c2 with c2 | c2
      · rw [r2]; exact l1 x (c2 ▸ hx)
      · rw [c2] at hx; cases hx
    · refine .inr ⟨by omega, fun x hx => ?_⟩
      obtain ⟨pre, hpre⟩ := l2 x hx
      obtain ⟨t, ht⟩ := s1
      exact ⟨t ++ pre, by rw [← ht, hpre, List.append_assoc]⟩

structure PLook {α} (m : PM α) : Prop where
  look : ∀ r a r', m r = (.ok a, r') → LookStep r r'

theorem plook_pure {α} (a : α) : PLook (pure a : PM α) :=
  ⟨fun r a' r' h => by cases h; exact LookStep.refl _⟩
theorem plook_fail {α} (e : PErr) : PLook (PM.fail e : PM α) := ⟨fun r a' r' h => by cases h⟩
theorem plook_locErr {α} (mk : Loc → PErr) : PLook (locErr mk : PM α) := ⟨fun r a' r' h => by cases h⟩

theorem plook_bind {α β} {m : PM α} {f : α → PM β} (hm : PLook m) (hf : ∀ a, PLook (f a)) :
    PLook (m >>= f) := by
  constructor
  intro r b r' h
  simp only [PM.bind_apply] at h
  cases h1 : m r with
  | mk res r1 =>
    rw [h1] at h
    cases res with
    | error e => cases h
    | ok a => exact (hm.look r a r1 h1).trans ((hf a).look r1 b r' h)

theorem next_plook : PLook Reader.next := by
  constructor
  intro r a r' h
  rcases r.next_cases with ⟨_, e⟩ | ⟨he, hr, e⟩ | ⟨rest, he, hr, e⟩ | ⟨b, rest, he, hr, e⟩ <;> rw [e] at h <;> cases h
  · exact LookStep.refl _
  · exact ⟨List.suffix_refl _, .inl ⟨rfl, rfl, .inr rfl⟩⟩
  · refine ⟨hr ▸ List.suffix_cons _ _, .inr ⟨Nat.lt_succ_self _, fun x hx => ?_⟩⟩
    cases hx
    exact ⟨[], hr⟩

theorem peek_plook : PLook Reader.peek := by
  constructor
  intro r a r' h
  unfold Reader.peek at h
  split at h
  · cases h; exact LookStep.refl _
  · exact next_plook.look r a r' h

theorem plook_closed : PM.Closed PLook :=
  ⟨plook_pure, plook_fail _, fun mk _ => plook_locErr mk, next_plook, peek_plook, plook_bind⟩

structure ValueLook (fuel : Nat) : Prop where
  value : PLook (nextValue fuel)
  array : PLook (readArray fuel)
  arrayLoop : ∀ acc, PLook (readArrayLoop fuel acc)
  object : PLook (readObject fuel)
  objectLoop : ∀ acc, PLook (readObjectLoop fuel acc)

theorem valueLook (fuel : Nat) : ValueLook fuel :=
  ⟨plook_closed.nextValue _, plook_closed.readArray _, plook_closed.readArrayLoop _,
    plook_closed.readObject _, plook_closed.readObjectLoop _⟩

/-- after a successful `nextJson` that pulled something, the look-ahead byte (if one is held) is the last item
pulled: every earlier item is consumed, and this one is still `pending` — it is what the next call starts from -/
theorem nextJson_lookahead (r : Reader) {x : Option JV} {r' : Reader} (h : r.nextJson = (.ok x, r')) :
    LookStep r r' := (valueLook _).value.look r x r' h

theorem nextJson_lookahead_last (r : Reader) {x : Option JV} {r' : Reader} {b : Byte}
    (h : r.nextJson = (.ok x, r')) (hp : r.pulled < r'.pulled) (hc : r'.cur = some b) :
    ∃ pre, r.rest = pre ++ RItem.byte b :: r'.rest ∧ r'.pending = RItem.byte b :: r'.rest := by
  obtain ⟨_, h1 | h1⟩ := nextJson_lookahead r h
  · omega
  · obtain ⟨pre, hpre⟩ := h1.2 b hc
    exact ⟨pre, hpre, by simp [Reader.pending, hc]⟩

/-- `[1] [2]`: the first call pulls `[1]` and the blank (4 items), the blank is held as look-ahead -/
example : (Reader.nextJson (Reader.ofBytes [91, 49, 93, 32, 91, 50, 93])).2.cur = some 32
    ∧ (Reader.nextJson (Reader.ofBytes [91, 49, 93, 32, 91, 50, 93])).2.pulled = 4
    ∧ (Reader.nextJson (Reader.ofBytes [91, 49, 93, 32, 91, 50, 93])).2.pending.length = 4 := by decide +kernel

/-! ### (C16) read faults are fatal; the logs only grow -/

/-- `.err :: post` is a suffix of the unread stream: the reader has not yet pulled this fault.  After ANY action
either it still has not, or the action failed with the I/O error exactly at it (nothing after it was pulled). -/
structure PErrStop {α} (m : PM α) : Prop where
  stop : ∀ r post, (RItem.err :: post) <:+ r.rest →
    (RItem.err :: post) <:+ (m r).2.rest ∨ ((m r).1 = .error .io ∧ (m r).2.rest = post)

theorem perrstop_pure {α} (a : α) : PErrStop (pure a : PM α) := ⟨fun _ _ h => .inl h⟩
theorem perrstop_fail {α} (e : PErr) : PErrStop (PM.fail e : PM α) := ⟨fun _ _ h => .inl h⟩
theorem perrstop_locErr {α} (mk : Loc → PErr) : PErrStop (locErr mk : PM α) := ⟨fun _ _ h => .inl h⟩

theorem perrstop_bind {α β} {m : PM α} {f : α → PM β} (hm : PErrStop m) (hf : ∀ a, PErrStop (f a)) :
    PErrStop (m >>= f) := by
  constructor
  intro r post hs
  have h1 := hm.stop r post hs
  simp only [PM.bind_apply]
  cases h : m r with
  | mk res r1 =>
    rw [h] at h1
    cases res with
    | error e =>
      rcases h1 with h1 | ⟨h1, h2⟩
      · exact .inl h1
      · exact .inr ⟨by dsimp only at h1 ⊢; cases h1; rfl, h2⟩
    | ok a =>
      rcases h1 with h1 | ⟨h1, _⟩
      · exact (hf a).stop r1 post h1
      · cases h1

theorem next_perrstop : PErrStop Reader.next := by
  constructor
  intro r post hs
  rcases r.next_cases with ⟨_, e⟩ | ⟨he, hr, e⟩ | ⟨rest, he, hr, e⟩ | ⟨b, rest, he, hr, e⟩ <;> rw [e]
  · exact .inl hs
  · exact .inl hs
  · rw [hr] at hs
    rcases List.suffix_cons_iff.mp hs with h | h
    · cases h; exact .inr ⟨rfl, rfl⟩
    · exact .inl h
  · rw [hr] at hs
    rcases List.suffix_cons_iff.mp hs with h | h
    · cases h
    · exact .inl h

theorem peek_perrstop : PErrStop Reader.peek := by
  constructor
  intro r post hs
  unfold Reader.peek
  split
  · exact .inl hs
  · exact next_perrstop.stop r post hs

theorem perrstop_closed : PM.Closed PErrStop :=
  ⟨perrstop_pure, perrstop_fail _, fun mk _ => perrstop_locErr mk, next_perrstop, peek_perrstop,
    perrstop_bind⟩

structure ValueErrStop (fuel : Nat) : Prop where
  value : PErrStop (nextValue fuel)
  array : PErrStop (readArray fuel)
  arrayLoop : ∀ acc, PErrStop (readArrayLoop fuel acc)
  object : PErrStop (readObject fuel)
  objectLoop : ∀ acc, PErrStop (readObjectLoop fuel acc)

theorem valueErrStop (fuel : Nat) : ValueErrStop fuel :=
  ⟨perrstop_closed.nextValue _, perrstop_closed.readArray _, perrstop_closed.readArrayLoop _,
    perrstop_closed.readObject _, perrstop_closed.readObjectLoop _⟩

/-- a pending read fault: after `nextJson` either it is still pending, or `nextJson` failed with the
unrecoverable I/O error, having pulled the fault and nothing after it -/
theorem nextJson_fault (r : Reader) (post : List RItem) (hs : (RItem.err :: post) <:+ r.rest) :
    (RItem.err :: post) <:+ r.nextJson.2.rest ∨ (r.nextJson.1 = .error .io ∧ r.nextJson.2.rest = post) :=
  (valueErrStop _).value.stop r post hs

/-- the fault is pulled exactly when fewer items are left than `.err :: post` has -/
theorem fault_pulled_iff {r' : Reader} {rest post : List RItem} (hs : (RItem.err :: post) <:+ rest)
    (hm : r'.rest <:+ rest) : ¬ (RItem.err :: post) <:+ r'.rest ↔ r'.rest.length ≤ post.length := by
  constructor
  · intro h
    apply Nat.le_of_not_lt
    intro hlt
    exact h ((List.suffix_of_suffix_length_le hs hm (by simp; omega)))
  · intro h hs'
    have := hs'.length_le
    simp at this
    omega

/-! #### The writers' logs only grow -/

/-- the writer carried by the outcome (the value's writer, or the failure's) extends `w` -/
def ResExt {α} (get : α → Writer) (w : Writer) : Res α → Prop
  | .ok a => w.out <+: (get a).out
  | .error f => w.out <+: f.w.out

theorem resExt_bind {α β} {get : α → Writer} {get' : β → Writer} {w : Writer} {x : Res α} {g : α → Res β}
    (hx : ResExt get w x) (hg : ∀ a, ResExt get' (get a) (g a)) : ResExt get' w (x >>= g) := by
  cases x with
  | error f => exact hx
  | ok a =>
    have h1 : w.out <+: (get a).out := hx
    have h2 := hg a
    show ResExt get' w (g a)
    cases hga : g a with
    | error f => rw [hga] at h2; exact h1.trans h2
    | ok b => rw [hga] at h2; exact h1.trans h2

theorem resExt_ok {α} {get : α → Writer} {w : Writer} (a : α) (h : w.out <+: (get a).out) :
    ResExt get w (.ok a) := h

theorem evalE_ext (orc : Oracles) (w : Writer) (e : Expr) (ctx : Ctx) :
    ResExt (fun _ => w) w (evalE orc w e ctx) := by
  unfold evalE liftR
  split
  · exact List.prefix_refl _
  · exact List.prefix_refl _

abbrev PW : PState × Decision → Writer := fun x => x.1.w

theorem wres_ext (w0 w : Writer) (h : w0.out <+: w.out) : ResExt id w0 (wres w) := by
  unfold wres; split <;> exact h

theorem sinkProcess_ext (s : SinkCfg) (n : Nat) (w : Writer) (ctx : Ctx) :
    ResExt id w (sinkProcess s n w ctx) := by
  unfold sinkProcess
  cases s with
  | json o sep => exact wres_ext _ _ (C16.putAll_prefix _ w)
  | text o sep =>
    dsimp only
    split <;> exact wres_ext _ _ (C16.putAll_prefix _ w)

theorem sinkStart_ext (s : SinkCfg) (titles : List Str) (w : Writer) : ResExt id w (sinkStart s titles w) := by
  unfold sinkStart
  cases s with
  | json o sep => exact List.prefix_refl _
  | text o sep =>
    dsimp only
    split
    · split
      · exact wres_ext _ _ (C16.putAll_prefix _ w)
      · exact List.prefix_refl _
    · exact List.prefix_refl _

macro "rext_step" : tactic => `(tactic| first
  | with_reducible apply resExt_bind
  | intro _
  | with_reducible exact evalE_ext _ _ _ _
  | with_reducible exact sinkProcess_ext _ _ _ _
  | (with_reducible refine resExt_ok _ ?_; exact List.prefix_refl _)
  | exact List.prefix_refl _
  | with_reducible assumption
  | split)

syntax "rext" ("[" term,* "]")? : tactic
macro_rules
  | `(tactic| rext) => `(tactic| repeat' rext_step)
  | `(tactic| rext [$ts,*]) => `(tactic| repeat' (first | rext_step $[| with_reducible exact $ts]*))

theorem feedUntilBreak_ext (next : List StageSt → Writer → Ctx → Res (PState × Decision))
    (hn : ∀ sts w c, ResExt PW w (next sts w c)) (sts : List StageSt) (w : Writer) (l : List Ctx) :
    ResExt PW w (feedUntilBreak next sts w l) := by
  induction l generalizing sts w with
  | nil => unfold feedUntilBreak; rext
  | cons c cs ih => unfold feedUntilBreak; rext [hn _ _ _, ih _ _]

theorem feedAllIgnoring_ext (next : List StageSt → Writer → Ctx → Res (PState × Decision))
    (hn : ∀ sts w c, ResExt PW w (next sts w c)) (sts : List StageSt) (w : Writer) (l : List Ctx) :
    ResExt PState.w w (feedAllIgnoring next sts w l) := by
  induction l generalizing sts w with
  | nil => unfold feedAllIgnoring; rext
  | cons c cs ih => unfold feedAllIgnoring; rext [hn _ _ _, ih _ _]

/-- `process` only appends to the output log — whether it succeeds or fails -/
theorem process_ext (orc : Oracles) (sink : SinkCfg) (sinkLen : Nat) (cfgs : List StageCfg)
    (sts : List StageSt) (w : Writer) (ctx : Ctx) : ResExt PW w (process orc sink sinkLen cfgs sts w ctx) := by
  induction cfgs generalizing sts w ctx with
  | nil => unfold process; rext
  | cons c cs ih =>
    cases sts with
    | nil => unfold process; rext
    | cons st sts =>
      unfold process
      dsimp only
      rext [ih _ _ _, feedUntilBreak_ext _ (fun _ _ _ => ih _ _ _) _ _ _]

theorem process_ext_ok {orc : Oracles} {sink : SinkCfg} {sinkLen : Nat} {cfgs : List StageCfg}
    {sts : List StageSt} {w : Writer} {ctx : Ctx} {ps : PState} {d : Decision}
    (h : process orc sink sinkLen cfgs sts w ctx = .ok (ps, d)) : w.out <+: ps.w.out := by
  have := process_ext orc sink sinkLen cfgs sts w ctx
  rw [h] at this; exact this

theorem process_ext_error {orc : Oracles} {sink : SinkCfg} {sinkLen : Nat} {cfgs : List StageCfg}
    {sts : List StageSt} {w : Writer} {ctx : Ctx} {f : Failure}
    (h : process orc sink sinkLen cfgs sts w ctx = .error f) : w.out <+: f.w.out := by
  have := process_ext orc sink sinkLen cfgs sts w ctx
  rw [h] at this; exact this

/-- `complete` only appends to the output log -/
theorem complete_ext (orc : Oracles) (sink : SinkCfg) (sinkLen : Nat) (cfgs : List StageCfg)
    (sts : List StageSt) (w : Writer) : ResExt id w (complete orc sink sinkLen cfgs sts w) := by
  induction cfgs generalizing sts w with
  | nil => unfold complete; rext
  | cons c cs ih =>
    cases sts with
    | nil => unfold complete; rext
    | cons st sts =>
      unfold complete
      rext [ih _ _, process_ext _ _ _ _ _ _ _, feedAllIgnoring_ext _ (fun _ _ _ => process_ext _ _ _ _ _ _ _) _ _ _]

section Fatal
variable (orc : Oracles) (c : Cfg) (p : Pipeline)

/-- an iteration that is not the last one leaves the `pulled` record alone, and both logs only grow -/
theorem Iter.logs {a b : Conf} (h : Iter orc c p a b) :
    b.s.pulled = a.s.pulled ∧ a.s.out.out <+: b.s.out.out ∧ a.s.err.out <+: b.s.err.out := by
  cases h with
  | skip _ _ => exact ⟨rfl, List.prefix_refl _, List.prefix_refl _⟩
  | row _ _ hp => exact ⟨rfl, process_ext_ok hp, List.prefix_refl _⟩
  | ignore _ _ _ => exact ⟨rfl, List.prefix_refl _, List.prefix_refl _⟩
  | stdout _ _ _ _ => exact ⟨rfl, C16.put_prefix _ _, List.prefix_refl _⟩
  | stderr _ _ _ _ => exact ⟨rfl, List.prefix_refl _, C16.put_prefix _ _⟩

/-- along iterations the reader only moves on, every pull still removes exactly one item, the `pulled` record is
untouched and both logs only grow -/
theorem reachN_props {n : Nat} {a b : Conf} (h : ReachN orc c p n a b) :
    Mono a.r b.r ∧ b.r.pulled + b.r.rest.length = a.r.pulled + a.r.rest.length ∧ b.s.pulled = a.s.pulled ∧
      a.s.out.out <+: b.s.out.out ∧ a.s.err.out <+: b.s.err.out := by
  refine ⟨reachN_rel orc c p Mono Mono.refl (fun _ _ _ => Mono.trans) nextJson_mono h,
    reachN_rel orc c p (fun a b => b.pulled + b.rest.length = a.pulled + a.rest.length) (fun _ => rfl)
      (fun _ _ _ h1 h2 => h2.trans h1) nextJson_count h, ?_⟩
  induction h with
  | refl k => exact ⟨rfl, List.prefix_refl _, List.prefix_refl _⟩
  | step hi _ ih =>
    obtain ⟨h1, h2, h3⟩ := hi.logs
    exact ⟨ih.1.trans h1, h2.trans ih.2.1, h3.trans ih.2.2⟩

/-- (C16) `out_monotone`, between reachable configurations: what was written stays written, on both logs -/
theorem reach_out_monotone {a b : Conf} (h : Reach orc c p a b) :
    a.s.out.out <+: b.s.out.out ∧ a.s.err.out <+: b.s.err.out := by
  obtain ⟨n, h⟩ := h
  exact (reachN_props orc c p h).2.2.2

/-- a pending read fault stays pending along iterations that are not the last one -/
theorem reachN_fault {n : Nat} {a b : Conf} (h : ReachN orc c p n a b) (post : List RItem)
    (hs : (RItem.err :: post) <:+ a.r.rest) : (RItem.err :: post) <:+ b.r.rest := by
  induction h with
  | refl k => exact hs
  | step hi _ ih =>
    obtain ⟨e, _, hne⟩ := hi.reader
    rcases nextJson_fault _ post hs with h | ⟨h, _⟩
    · exact ih (by rw [e]; exact h)
    · exact absurd h hne

/-- the state in which a loop ends -/
def endSt : Except RunEnd (RunState × Reader × Decision) → RunState
  | .ok (s', _, _) => s'
  | .error e => e.st

theorem final_out_monotone {k : Conf} {res : Except RunEnd (RunState × Reader × Decision)}
    (h : Final orc c p k res) : k.s.out.out <+: (endSt res).out.out ∧ k.s.err.out <+: (endSt res).err.out := by
  cases h with
  | eof hn => exact ⟨List.prefix_refl _, List.prefix_refl _⟩
  | brk hn hk hp => exact ⟨process_ext_ok hp, List.prefix_refl _⟩
  | stage hn hk hp => exact ⟨process_ext_error hp, List.prefix_refl _⟩
  | fault hn hr => exact ⟨List.prefix_refl _, List.prefix_refl _⟩
  | panic hn hr hpol => exact ⟨List.prefix_refl _, List.prefix_refl _⟩
  | stdoutFail hn hr hpol hf => exact ⟨C16.put_prefix _ _, List.prefix_refl _⟩
  | stderrFail hn hr hpol hf => exact ⟨List.prefix_refl _, C16.put_prefix _ _⟩

/-- (C16) `out_monotone`: however the loop ends — normally, with an error return, with an abort — stdout and stderr
at the end extend stdout and stderr at the start (bounded or unbounded writers alike) -/
theorem out_monotone (fuel : Nat) (r : Reader) (inFile : Nat) (s : RunState) :
    s.out.out <+: (endSt (readLoop orc c p fuel r inFile s)).out.out ∧
    s.err.out <+: (endSt (readLoop orc c p fuel r inFile s)).err.out := by
  obtain ⟨n, k', hr, h⟩ := readLoop_trace orc c p fuel ⟨r, inFile, s⟩
  obtain ⟨_, _, _, h1, h2⟩ := reachN_props orc c p hr
  rcases h with ⟨_, h⟩ | ⟨_, h⟩
  · obtain ⟨f1, f2⟩ := final_out_monotone orc c p h
    exact ⟨h1.trans f1, h2.trans f2⟩
  · dsimp only at h
    rw [h]
    exact ⟨h1, h2⟩

/-- the trace of a loop over a source with a pending read fault (`read_error_is_fatal_run` below, with the
number of iterations exposed) -/
theorem fault_trace (fuel : Nat) (k : Conf) (post : List RItem)
    (hs : (RItem.err :: post) <:+ k.r.rest) :
    ∃ n k', ReachN orc c p n k k' ∧ (RItem.err :: post) <:+ k'.r.rest ∧
      k.s.out.out <+: k'.s.out.out ∧ k.s.err.out <+: k'.s.err.out ∧
      ((n < fuel ∧ k'.r.nextJson.1 = .error .io ∧ k'.r.nextJson.2.rest = post ∧
          readLoop orc c p fuel k.r k.inFile k.s = .error ⟨.error .io,
            { k'.s with pulled := k.s.pulled ++ [k.r.pulled + (k.r.rest.length - post.length)] }⟩) ∨
       (∃ s' r' d, readLoop orc c p fuel k.r k.inFile k.s = .ok (s', r', d) ∧ (RItem.err :: post) <:+ r'.rest) ∨
       (∃ e, readLoop orc c p fuel k.r k.inFile k.s = .error e ∧
          (e.st.pulled = k.s.pulled ∨
           ∃ n, e.st.pulled = k.s.pulled ++ [n] ∧ n < k.r.pulled + (k.r.rest.length - post.length)))) := by
  obtain ⟨n, k', hr, h⟩ := readLoop_trace orc c p fuel k
  obtain ⟨hm, hcnt, hpl, h1, h2⟩ := reachN_props orc c p hr
  have hs' := reachN_fault orc c p hr post hs
  refine ⟨n, k', hr, hs', h1, h2, ?_⟩
  have hlen := hs.length_le
  simp only [List.length_cons] at hlen
  -- the `pulled` count of a reader `r'` reached from `k'.r` in which the fault is still pending
  have hpend : ∀ r' : Reader, r'.pulled + r'.rest.length = k'.r.pulled + k'.r.rest.length →
      (RItem.err :: post) <:+ r'.rest → r'.pulled < k.r.pulled + (k.r.rest.length - post.length) := by
    intro r' hc hsuf
    have := hsuf.length_le
    simp only [List.length_cons] at this
    omega
  have hcj := nextJson_count k'.r
  rcases h with ⟨hnf, h⟩ | ⟨_, h⟩
  · rcases nextJson_fault k'.r post hs' with hf | ⟨hf1, hf2⟩
    · -- the fault is still pending after the last `nextJson`
      right
      generalize readLoop orc c p fuel k.r k.inFile k.s = res at h
      cases res with
      | ok x => exact .inl ⟨_, _, _, rfl, h.reader ▸ hf⟩
      | error e => exact .inr ⟨e, rfl, .inr ⟨_, by rw [h.pulled, hpl], hpend _ hcj hf⟩⟩
    · -- the last `nextJson` pulled the fault
      left
      refine ⟨hnf, hf1, hf2, ?_⟩
      rcases hn : k'.r.nextJson with ⟨res, r'⟩
      rw [hn] at hf1 hf2
      dsimp only at hf1 hf2
      subst hf1
      have hfin : Final orc c p k' _ := Final.fault hn rfl
      have e1 := final_readLoop orc c p hfin 0
      have e2 := final_readLoop orc c p h 0
      rw [e1] at e2
      rw [← e2]
      rw [hn] at hcj
      dsimp only at hcj
      rw [hf2] at hcj
      have : r'.pulled = k.r.pulled + (k.r.rest.length - post.length) := by omega
      rw [this, hpl]
  · right; right
    exact ⟨_, h, .inl (by rw [hpl])⟩

/-- (C16) `read_error_is_fatal_run`.  A read fault (`RItem.err`) is pending in the source, `post` being what follows
it.  The loop runs through reachable configurations to some `k'` — the fault still pending there, the logs only
grown — and then exactly one of three things happens:

* (fatal) the `nextJson` call at `k'` pulls the fault: the loop returns the I/O error UNDER EVERY `--on-error`
  POLICY (nothing here mentions the policy), the state returned is `k'.s` itself — no report line is written for
  the fault, rows already written stay written — and the `pulled` record says the fault was the last item pulled;
* the loop ended normally before pulling the fault (it is still pending in the final reader);
* the loop ended with an error before pulling the fault (its `pulled` record, if any, is smaller). -/
theorem read_error_is_fatal_run (fuel : Nat) (k : Conf) (post : List RItem)
    (hs : (RItem.err :: post) <:+ k.r.rest) :
    ∃ k', Reach orc c p k k' ∧ (RItem.err :: post) <:+ k'.r.rest ∧
      k.s.out.out <+: k'.s.out.out ∧ k.s.err.out <+: k'.s.err.out ∧
      ((k'.r.nextJson.1 = .error .io ∧ k'.r.nextJson.2.rest = post ∧
          readLoop orc c p fuel k.r k.inFile k.s = .error ⟨.error .io,
            { k'.s with pulled := k.s.pulled ++ [k.r.pulled + (k.r.rest.length - post.length)] }⟩) ∨
       (∃ s' r' d, readLoop orc c p fuel k.r k.inFile k.s = .ok (s', r', d) ∧ (RItem.err :: post) <:+ r'.rest) ∨
       (∃ e, readLoop orc c p fuel k.r k.inFile k.s = .error e ∧
          (e.st.pulled = k.s.pulled ∨
           ∃ n, e.st.pulled = k.s.pulled ++ [n] ∧ n < k.r.pulled + (k.r.rest.length - post.length)))) := by
  obtain ⟨n, k', hr, h1, h2, h3, h4⟩ := fault_trace orc c p fuel k post hs
  refine ⟨k', ⟨n, hr⟩, h1, h2, h3, ?_⟩
  rcases h4 with ⟨_, h4⟩ | h4 | h4
  · exact .inl h4
  · exact .inr (.inl h4)
  · exact .inr (.inr h4)

/-- when the `pulled` record of the loop's error says that the fault was pulled, the loop took the fatal branch of
`fault_trace`: the other two leave a shorter record -/
theorem fault_reached (fuel : Nat) (k : Conf) (post : List RItem)
    (hs : (RItem.err :: post) <:+ k.r.rest) (e : RunEnd)
    (h : readLoop orc c p fuel k.r k.inFile k.s = .error e)
    (hp : e.st.pulled = k.s.pulled ++ [k.r.pulled + (k.r.rest.length - post.length)]) :
    ∃ n k', ReachN orc c p n k k' ∧ (RItem.err :: post) <:+ k'.r.rest ∧
      k.s.out.out <+: k'.s.out.out ∧ k.s.err.out <+: k'.s.err.out ∧
      e = ⟨.error .io, { k'.s with pulled := k.s.pulled ++ [k.r.pulled + (k.r.rest.length - post.length)] }⟩ := by
  obtain ⟨n, k', hr, hs', h1, h2, h4⟩ := fault_trace orc c p fuel k post hs
  refine ⟨n, k', hr, hs', h1, h2, ?_⟩
  rcases h4 with ⟨_, _, _, h4⟩ | ⟨_, _, _, h4, _⟩ | ⟨e', h4, h5⟩
  · rw [h4] at h
    cases h
    rfl
  · rw [h4] at h; cases h
  · rw [h4] at h
    cases h
    rcases h5 with h5 | ⟨m, h5, hm⟩
    · rw [h5] at hp
      have := congrArg List.length hp
      simp at this
    · rw [h5] at hp
      have := List.append_cancel_left hp
      simp only [List.cons.injEq, and_true] at this
      omega

/-- "if the loop reaches it": when the `pulled` record of the run's end shows that the fault was pulled, the end is
the I/O error and the state is a reachable state of the loop (so its logs extend the initial ones and contain no
report for the fault) -/
theorem read_error_reached_is_fatal (fuel : Nat) (k : Conf) (post : List RItem)
    (hs : (RItem.err :: post) <:+ k.r.rest) (e : RunEnd)
    (h : readLoop orc c p fuel k.r k.inFile k.s = .error e)
    (hp : e.st.pulled = k.s.pulled ++ [k.r.pulled + (k.r.rest.length - post.length)]) :
    e.result = .error .io ∧ ∃ k', Reach orc c p k k' ∧ e.st.out = k'.s.out ∧ e.st.err = k'.s.err ∧
      e.st.sts = k'.s.sts ∧ k.s.out.out <+: e.st.out.out ∧ k.s.err.out <+: e.st.err.out := by
  obtain ⟨n, k', hr, _, h1, h2, rfl⟩ := fault_reached orc c p fuel k post hs e h hp
  exact ⟨rfl, k', ⟨n, hr⟩, rfl, rfl, rfl, h1, h2⟩

end Fatal

/-! #### Run level: the logs of a whole run extend the writers it was given -/

section RunLevel
variable (orc : Oracles) (c : Cfg) (p : Pipeline)

def endStS : Except RunEnd RunState → RunState
  | .ok s' => s'
  | .error e => e.st

theorem readSources_out_monotone (srcs : List Source) (s : RunState) :
    s.out.out <+: (endStS (readSources orc c p srcs s)).out.out ∧
    s.err.out <+: (endStS (readSources orc c p srcs s)).err.out := by
  induction srcs generalizing s with
  | nil => exact ⟨List.prefix_refl _, List.prefix_refl _⟩
  | cons src rest ih =>
    have hm := out_monotone orc c p (src.items.length + 2) (Reader.ofItems src.items src.name) 0 s
    unfold readSources
    dsimp only
    split
    · rename_i e heq
      rw [heq] at hm; exact hm
    · rename_i s' r' d heq
      rw [heq] at hm
      split
      · exact hm
      · have := ih { s' with pulled := s'.pulled ++ [r'.pulled] }
        exact ⟨hm.1.trans this.1, hm.2.trans this.2⟩

/-- the end of `run`, once the pipeline is built and started and the sources are read -/
def finishRun (x : Except RunEnd RunState) : RunResult :=
  match x with
  | .error e => e.toResult
  | .ok s =>
    match complete orc p.sink p.sinkLen p.cfgs s.sts s.out with
    | .error f => { result := .error f.kind, stdout := f.w.out, stderr := s.err.out, pulled := s.pulled }
    | .ok w => { result := .ok (), stdout := w.out, stderr := s.err.out, pulled := s.pulled }

theorem run_eq_finishRun (sources : List Source) (wOut wErr w0 : Writer)
    (hb : build orc c = .ok p) (hs : sinkStart p.sink p.titles wOut = .ok w0) :
    run orc c sources wOut wErr
      = finishRun orc p (readSources orc c p sources { sts := p.sts, out := w0, err := wErr }) := by
  simp only [run, hb, hs]; rfl

theorem finishRun_ext (x : Except RunEnd RunState) :
    (endStS x).out.out <+: (finishRun orc p x).stdout ∧ (endStS x).err.out <+: (finishRun orc p x).stderr := by
  cases x with
  | error e => exact ⟨List.prefix_refl _, List.prefix_refl _⟩
  | ok s =>
    have h2 := complete_ext orc p.sink p.sinkLen p.cfgs s.sts s.out
    simp only [finishRun, endStS]
    cases hc : complete orc p.sink p.sinkLen p.cfgs s.sts s.out with
    | error f => rw [hc] at h2; exact ⟨h2, List.prefix_refl _⟩
    | ok w => rw [hc] at h2; exact ⟨h2, List.prefix_refl _⟩

/-- (C16) whatever happens, what a run leaves on stdout / stderr extends what was there: nothing written is ever
lost or rewritten -/
theorem run_out_monotone (sources : List Source) (wOut wErr : Writer) :
    wOut.out <+: (run orc c sources wOut wErr).stdout ∧ wErr.out <+: (run orc c sources wOut wErr).stderr := by
  cases hb : build orc c with
  | error f => simp only [run, hb]; exact ⟨List.prefix_refl _, List.prefix_refl _⟩
  | ok p =>
    have h0 := sinkStart_ext p.sink p.titles wOut
    cases hs : sinkStart p.sink p.titles wOut with
    | error f => rw [hs] at h0; simp only [run, hb, hs]; exact ⟨h0, List.prefix_refl _⟩
    | ok w0 =>
      rw [hs] at h0
      rw [run_eq_finishRun orc c p sources wOut wErr w0 hb hs]
      have h1 := readSources_out_monotone orc c p sources { sts := p.sts, out := w0, err := wErr }
      have h2 := finishRun_ext orc p (readSources orc c p sources { sts := p.sts, out := w0, err := wErr })
      exact ⟨(h0.trans h1.1).trans h2.1, h1.2.trans h2.2⟩

end RunLevel

/-! Non-vacuity: `[1] [2` then a read fault, under every policy -/

def plain : Pipeline := { cfgs := [], sts := [], sink := .json {} ['\n'], sinkLen := 0, titles := [] }

theorem build_plain (orc : Oracles) (pol : OnError) : build orc { onError := pol } = .ok plain :=
  (RunSpec.build_onError orc {} pol).trans (RunSpec.build_default orc)

def faulty : List RItem := cleanInput [91, 49, 93, 32, 91, 50] ++ [RItem.err, RItem.byte 93]

example : (RItem.err :: [RItem.byte 93]) <:+ (Reader.ofItems faulty none).rest := ⟨cleanInput [91, 49, 93, 32, 91, 50], rfl⟩

/-- without stages the oracles are never consulted -/
theorem readLoop_no_stages (orc orc' : Oracles) (c : Cfg) (p : Pipeline) (hp : p.cfgs = []) (fuel : Nat)
    (r : Reader) (inFile : Nat) (s : RunState) :
    readLoop orc c p fuel r inFile s = readLoop orc' c p fuel r inFile s := by
  induction fuel generalizing r inFile s with
  | zero => rfl
  | succ fuel ih =>
    have hpr : ∀ sts w ctx, process orc p.sink p.sinkLen p.cfgs sts w ctx
        = process orc' p.sink p.sinkLen p.cfgs sts w ctx := by
      intro sts w ctx; rw [hp]; rfl
    simp only [readLoop, hpr, ih]

/-- the loop ended with the I/O error, leaving these logs and this `pulled` record: as a test, so that the
kernel can run a concrete loop -/
def endsIo {α} (out err : List Byte) (pulled : List Nat) : Except RunEnd α → Bool
  | .error ⟨.error .io, st⟩ => st.out.out == out && st.err.out == err && st.pulled == pulled
  | _ => false

theorem of_endsIo {α} {out err : List Byte} {pulled : List Nat} {x : Except RunEnd α}
    (h : endsIo out err pulled x = true) :
    ∃ st, x = .error ⟨.error .io, st⟩ ∧ st.out.out = out ∧ st.err.out = err ∧ st.pulled = pulled := by
  unfold endsIo at h
  split at h
  · simp only [Bool.and_eq_true, beq_iff_eq] at h
    exact ⟨_, rfl, h.1.1, h.1.2, h.2⟩
  · cases h

/-- the row `[1]` is written, then the fault ends the run with the I/O error — no report, whatever the policy; the
fault (item 7) is the last item pulled, the byte after it is never requested -/
theorem faulty_loop (orc : Oracles) (pol : OnError) :
    ∃ st, readLoop orc { onError := pol } plain 10 (Reader.ofItems faulty none) 0 { sts := [], out := {}, err := {} }
        = .error ⟨.error .io, st⟩ ∧ st.out.out = [91, 49, 93, 10] ∧ st.err.out = [] ∧ st.pulled = [7] := by
  rw [readLoop_no_stages orc {} _ plain rfl]
  cases pol <;> exact of_endsIo (by decide +kernel)

example (orc : Oracles) (pol : OnError) :
    ∃ st, readLoop orc { onError := pol } plain 10 (Reader.ofItems faulty none) 0 { sts := [], out := {}, err := {} }
        = .error ⟨.error .io, st⟩ ∧ st.out.out = [91, 49, 93, 10] ∧ st.err.out = [] ∧ st.pulled = [7] :=
  faulty_loop orc pol

/-! ### `streaming_prefix`: up to a read fault the run is the fault-free run -/

/-- the end of input is only ever seen on an empty stream (true of every reader made by `ofItems`) -/
def EofEmpty (r : Reader) : Prop := r.eof = true → r.rest = []

theorem eofEmpty_ofItems (items : List RItem) (name : Option Str) : EofEmpty (Reader.ofItems items name) := by
  intro h; cases h

theorem EofEmpty.eof_false {r : Reader} (h : EofEmpty r) {x : RItem} {post : List RItem}
    (hs : (x :: post) <:+ r.rest) : r.eof = false := by
  cases he : r.eof with
  | false => rfl
  | true =>
    have := hs.length_le
    rw [h he] at this
    simp at this

structure PEofE {α} (m : PM α) : Prop where
  inv : ∀ r, EofEmpty r → EofEmpty (m r).2

theorem next_eofEmpty (r : Reader) (h : EofEmpty r) : EofEmpty (Reader.next r).2 := by
  rcases r.next_cases with ⟨_, e⟩ | ⟨he, hr, e⟩ | ⟨rest, he, hr, e⟩ | ⟨b, rest, he, hr, e⟩ <;> rw [e]
  · exact h
  · exact fun _ => hr
  all_goals exact fun h' => Bool.noConfusion (he.symm.trans h')

theorem peofe_closed : PM.Closed PEofE :=
  .of_rel (fun r r' => EofEmpty r → EofEmpty r') (fun _ => ⟨PEofE.inv, PEofE.mk⟩) (fun _ => id)
    (fun h1 h2 => h2 ∘ h1) next_eofEmpty

structure ValueEofE (fuel : Nat) : Prop where
  value : PEofE (nextValue fuel)
  array : PEofE (readArray fuel)
  arrayLoop : ∀ acc, PEofE (readArrayLoop fuel acc)
  object : PEofE (readObject fuel)
  objectLoop : ∀ acc, PEofE (readObjectLoop fuel acc)

theorem valueEofE (fuel : Nat) : ValueEofE fuel :=
  ⟨peofe_closed.nextValue _, peofe_closed.readArray _, peofe_closed.readArrayLoop _,
    peofe_closed.readObject _, peofe_closed.readObjectLoop _⟩

theorem nextJson_eofEmpty {r : Reader} (h : EofEmpty r) : EofEmpty r.nextJson.2 := (valueEofE _).value.inv r h

section Streaming
variable (orc : Oracles) (c : Cfg) (p : Pipeline)

/-- an iteration over `a.r` is the same iteration over any reader that agrees with it on the positions examined -/
theorem iter_sim {N : Nat} {a b : Conf} (h : Iter orc c p a b) (r₂ : Reader) (hag : AgreeTo N a.r r₂)
    (hw : WF a.r) (hpos : pos b.r ≤ N) :
    Iter orc c p ⟨r₂, a.inFile, a.s⟩ ⟨r₂.nextJson.2, b.inFile, b.s⟩ ∧ AgreeTo N b.r r₂.nextJson.2 := by
  have hb := h.reader.1
  rw [hb] at hpos ⊢
  obtain ⟨e1, a1⟩ := nextJson_local hag hw hpos
  refine ⟨?_, a1⟩
  cases h with
  | skip hn hk => exact .skip (k := ⟨r₂, a.inFile, a.s⟩) (nextJson_eq_of hn e1) hk
  | row hn hk hp =>
    rw [hn] at a1
    exact .row (k := ⟨r₂, a.inFile, a.s⟩) (nextJson_eq_of hn e1) hk (rowCtx_congr hag.loc a1.loc _ _ _ ▸ hp)
  | ignore hn hr hpol => exact .ignore (k := ⟨r₂, a.inFile, a.s⟩) (nextJson_eq_of hn e1) hr hpol
  | stdout hn hr hpol hf => exact .stdout (k := ⟨r₂, a.inFile, a.s⟩) (nextJson_eq_of hn e1) hr hpol hf
  | stderr hn hr hpol hf => exact .stderr (k := ⟨r₂, a.inFile, a.s⟩) (nextJson_eq_of hn e1) hr hpol hf

/-- along iterations positions only grow and `EofEmpty` is kept -/
theorem reachN_reader {n : Nat} {a b : Conf} (h : ReachN orc c p n a b) :
    pos a.r ≤ pos b.r ∧ (EofEmpty a.r → EofEmpty b.r) :=
  ⟨reachN_rel orc c p (fun a b => pos a ≤ pos b) (fun _ => Nat.le_refl _) (fun _ _ _ => Nat.le_trans)
      nextJson_pos_mono h,
    reachN_rel orc c p (fun a b => EofEmpty a → EofEmpty b) (fun _ => id) (fun _ _ _ h1 h2 => h2 ∘ h1)
      (fun _ => nextJson_eofEmpty) h⟩

theorem reachN_sim {N n : Nat} {a b : Conf} (h : ReachN orc c p n a b) (r₂ : Reader) (hag : AgreeTo N a.r r₂)
    (hw : WF a.r) (hpos : pos b.r ≤ N) :
    ∃ r₂', ReachN orc c p n ⟨r₂, a.inFile, a.s⟩ ⟨r₂', b.inFile, b.s⟩ ∧ AgreeTo N b.r r₂' := by
  induction h generalizing r₂ with
  | refl k => exact ⟨r₂, .refl _, hag⟩
  | @step n a b d hi hr ih =>
    have hw' : WF b.r := by rw [hi.reader.1]; exact nextJson_wf _ hw
    have hpb := (reachN_reader orc c p hr).1
    obtain ⟨hi₂, ag₂⟩ := iter_sim orc c p hi r₂ hag hw (Nat.le_trans hpb hpos)
    obtain ⟨r₂', hr₂, ag'⟩ := ih _ ag₂ hw' hpos
    exact ⟨r₂', .step hi₂ hr₂, ag'⟩

/-- `streaming_prefix`, at the level of the loop.  The source has a read fault after the items `pre`, and the run
pulled it (its `pulled` record says so).  Replace the fault and everything after it by ANY continuation `cont`:
the loop over the repaired source goes through the same states up to that point, hence (the logs only grow)
stdout and stderr of the faulty run are prefixes of stdout and stderr of the repaired run.  No hypothesis on the
chain is needed: with a whole-input stage the faulty run just has written less. -/
theorem streaming_prefix (fuel fuel₂ : Nat) (k : Conf) (pre post cont : List RItem)
    (hrest : k.r.rest = pre ++ RItem.err :: post) (hw : WF k.r) (hee : EofEmpty k.r) (e : RunEnd)
    (h : readLoop orc c p fuel k.r k.inFile k.s = .error e)
    (hp : e.st.pulled = k.s.pulled ++ [k.r.pulled + pre.length + 1]) (hf : pre.length ≤ fuel₂) :
    e.result = .error .io ∧
    e.st.out.out <+: (endSt (readLoop orc c p fuel₂ { k.r with rest := pre ++ cont } k.inFile k.s)).out.out ∧
    e.st.err.out <+: (endSt (readLoop orc c p fuel₂ { k.r with rest := pre ++ cont } k.inFile k.s)).err.out := by
  have hs : (RItem.err :: post) <:+ k.r.rest := ⟨pre, hrest.symm⟩
  have hlen : k.r.rest.length - post.length = pre.length + 1 := by rw [hrest]; simp; omega
  obtain ⟨n, k', hr, hs', _, _, rfl⟩ := fault_reached orc c p fuel k post hs e h (by rw [hlen, hp, Nat.add_assoc])
  refine ⟨rfl, ?_⟩
  obtain ⟨_, hee'⟩ := reachN_reader orc c p hr
  obtain ⟨hw', hμ⟩ := reachN_wf_μ orc c p hr hw
  obtain ⟨_, hcnt, _, _, _⟩ := reachN_props orc c p hr
  have hne := (hee' hee).eof_false hs'
  have hke := hee.eof_false hs
  have hl' := hs'.length_le
  simp only [List.length_cons] at hl'
  rw [hrest] at hcnt
  simp only [List.length_append, List.length_cons] at hcnt
  have hag : AgreeTo (pos k.r + pre.length) k.r { k.r with rest := pre ++ cont } := by
    refine ⟨rfl, rfl, rfl, rfl, ?_⟩
    rw [Nat.add_sub_cancel_left, hrest]
    simp
  obtain ⟨r₂', hr₂, _⟩ := reachN_sim orc c p hr _ hag hw
    (by rw [pos_of_not_eof hne, pos_of_not_eof hke]; omega)
  -- every iteration consumes, and the fault and what follows it are still unread: at most `pre.length` iterations
  have hn : n ≤ pre.length := by
    have h1 : μ k.r = pre.length + 1 + post.length + 1 := by
      simp [μ, hke, hrest]; omega
    have h2 : post.length + 1 + 1 ≤ μ k'.r := by
      simp only [μ, hne, Bool.false_eq_true, if_false]; omega
    omega
  obtain ⟨f, rfl⟩ : ∃ f, fuel₂ = f + n := ⟨fuel₂ - n, by omega⟩
  rw [show readLoop orc c p (f + n) { k.r with rest := pre ++ cont } k.inFile k.s = _ from
    reachN_readLoop orc c p hr₂ f]
  exact out_monotone orc c p f r₂' k'.inFile k'.s

theorem readSources_extends_first_loop (src : Source) (rest : List Source) (s : RunState) :
    (endSt (readLoop orc c p (src.items.length + 2) (Reader.ofItems src.items src.name) 0 s)).out.out
        <+: (endStS (readSources orc c p (src :: rest) s)).out.out ∧
    (endSt (readLoop orc c p (src.items.length + 2) (Reader.ofItems src.items src.name) 0 s)).err.out
        <+: (endStS (readSources orc c p (src :: rest) s)).err.out := by
  unfold readSources
  dsimp only
  split
  · rename_i e heq
    rw [heq]; exact ⟨List.prefix_refl _, List.prefix_refl _⟩
  · rename_i s' r' d heq
    rw [heq]
    split
    · exact ⟨List.prefix_refl _, List.prefix_refl _⟩
    · exact readSources_out_monotone orc c p rest { s' with pulled := s'.pulled ++ [r'.pulled] }

/-- what the first source's loop leaves on the logs is a prefix of what the run leaves -/
theorem run_extends_first_loop (src : Source) (rest : List Source) (wOut wErr w0 : Writer)
    (hb : build orc c = .ok p) (hs : sinkStart p.sink p.titles wOut = .ok w0) :
    (endSt (readLoop orc c p (src.items.length + 2) (Reader.ofItems src.items src.name) 0
        { sts := p.sts, out := w0, err := wErr })).out.out <+: (run orc c (src :: rest) wOut wErr).stdout ∧
    (endSt (readLoop orc c p (src.items.length + 2) (Reader.ofItems src.items src.name) 0
        { sts := p.sts, out := w0, err := wErr })).err.out <+: (run orc c (src :: rest) wOut wErr).stderr := by
  rw [run_eq_finishRun orc c p _ wOut wErr w0 hb hs]
  have h1 := readSources_extends_first_loop orc c p src rest { sts := p.sts, out := w0, err := wErr }
  have h2 := finishRun_ext orc p (readSources orc c p (src :: rest) { sts := p.sts, out := w0, err := wErr })
  exact ⟨h1.1.trans h2.1, h1.2.trans h2.2⟩

/-- `streaming_prefix`, at the level of a run: a read fault in the first source, reached by the run.  The run ends
with the I/O error, and its stdout / stderr are prefixes of those of the run on the repaired source (the fault
and what follows replaced by any `cont`), whatever sources follow. -/
theorem streaming_prefix_run (name : Option Str) (pre post cont : List RItem) (rest rest₂ : List Source)
    (wOut wErr w0 : Writer) (e : RunEnd)
    (hb : build orc c = .ok p) (hs : sinkStart p.sink p.titles wOut = .ok w0)
    (h : readLoop orc c p ((pre ++ RItem.err :: post).length + 2) (Reader.ofItems (pre ++ RItem.err :: post) name) 0
          { sts := p.sts, out := w0, err := wErr } = .error e)
    (hp : e.st.pulled = [pre.length + 1]) :
    (run orc c (⟨name, pre ++ RItem.err :: post⟩ :: rest) wOut wErr).result = .error .io ∧
    (run orc c (⟨name, pre ++ RItem.err :: post⟩ :: rest) wOut wErr).stdout
      <+: (run orc c (⟨name, pre ++ cont⟩ :: rest₂) wOut wErr).stdout ∧
    (run orc c (⟨name, pre ++ RItem.err :: post⟩ :: rest) wOut wErr).stderr
      <+: (run orc c (⟨name, pre ++ cont⟩ :: rest₂) wOut wErr).stderr := by
  have hsp := streaming_prefix orc c p _ ((pre ++ cont).length + 2)
    ⟨Reader.ofItems (pre ++ RItem.err :: post) name, 0, { sts := p.sts, out := w0, err := wErr }⟩ pre post cont rfl
    (wf_ofItems _ _) (eofEmpty_ofItems _ _) e h
    (by rw [hp]; show [pre.length + 1] = [] ++ [0 + pre.length + 1]; simp) (by simp; omega)
  have hrun : run orc c (⟨name, pre ++ RItem.err :: post⟩ :: rest) wOut wErr = e.toResult := by
    simp only [run, hb, hs, readSources, h]
  have hext := run_extends_first_loop orc c p ⟨name, pre ++ cont⟩ rest₂ wOut wErr w0 hb hs
  rw [hrun]
  exact ⟨hsp.1, hsp.2.1.trans hext.1, hsp.2.2.trans hext.2⟩

end Streaming

/-- non-vacuity of `streaming_prefix_run`: `[1] [2`, a fault, `]` against the repaired `[1] [2]` — stdout `[1]⏎` of
the faulty run is a prefix of stdout `[1]⏎[2]⏎` of the repaired one -/
example (orc : Oracles) :
    (run orc {} [⟨none, faulty⟩] {} {}).result = .error .io ∧
    (run orc {} [⟨none, faulty⟩] {} {}).stdout
      <+: (run orc {} [⟨none, cleanInput [91, 49, 93, 32, 91, 50] ++ cleanInput [93]⟩] {} {}).stdout := by
  obtain ⟨st, hl, _, _, hp⟩ := faulty_loop orc .ignore
  have h := streaming_prefix_run orc {} plain none (cleanInput [91, 49, 93, 32, 91, 50]) [RItem.byte 93]
    (cleanInput [93]) [] [] {} {} {} ⟨.error .io, st⟩ (build_plain orc .ignore) rfl hl hp
  exact ⟨h.1, h.2.1⟩

/-- (with the empty oracle table) -/
example : (run {} {} [⟨none, faulty⟩] {} {}).stdout = [91, 49, 93, 10]
    ∧ (run {} {} [⟨none, cleanInput [91, 49, 93, 32, 91, 50] ++ cleanInput [93]⟩] {} {}).stdout
        = [91, 49, 93, 10, 91, 50, 93, 10] := by decide +kernel

/-! ### (C14) `--take` stops reading -/

section Loop
variable (orc : Oracles) (c : Cfg) (p : Pipeline)

theorem readLoop_pos_mono (fuel : Nat) (r : Reader) (inFile : Nat) (s : RunState)
    {s' : RunState} {r' : Reader} {d : Decision}
    (h : readLoop orc c p fuel r inFile s = .ok (s', r', d)) : pos r ≤ pos r' :=
  readLoop_rel orc c p (fun a b => pos a ≤ pos b) (fun _ => Nat.le_refl _)
    (fun _ _ _ => Nat.le_trans) nextJson_pos_mono fuel r inFile s h

/-- `pulled_counts` for the whole loop -/
theorem readLoop_count (fuel : Nat) (r : Reader) (inFile : Nat) (s : RunState)
    {s' : RunState} {r' : Reader} {d : Decision}
    (h : readLoop orc c p fuel r inFile s = .ok (s', r', d)) :
    r'.pulled + r'.rest.length = r.pulled + r.rest.length :=
  readLoop_rel orc c p (fun a b => b.pulled + b.rest.length = a.pulled + a.rest.length) (fun _ => rfl)
    (fun _ _ _ h1 h2 => h2.trans h1) nextJson_count fuel r inFile s h

theorem readLoop_mono (fuel : Nat) (r : Reader) (inFile : Nat) (s : RunState)
    {s' : RunState} {r' : Reader} {d : Decision}
    (h : readLoop orc c p fuel r inFile s = .ok (s', r', d)) : Mono r r' :=
  readLoop_rel orc c p Mono Mono.refl (fun _ _ _ => Mono.trans) nextJson_mono fuel r inFile s h

/-- the last iteration of a loop that ends normally is the same over a reader on which `nextJson` does the same -/
theorem Final.sim {k : Conf} {s' : RunState} {r' : Reader} {d : Decision}
    (h : Final orc c p k (.ok (s', r', d))) (r₂ : Reader) (e1 : r₂.nextJson.1 = k.r.nextJson.1)
    (hl : k.r.loc = r₂.loc) (hl' : k.r.nextJson.2.loc = r₂.nextJson.2.loc) :
    Final orc c p ⟨r₂, k.inFile, k.s⟩ (.ok (s', r₂.nextJson.2, d)) := by
  cases h with
  | eof hn => exact .eof (k := ⟨r₂, k.inFile, k.s⟩) (nextJson_eq_of hn e1)
  | brk hn hk hp =>
    rw [hn] at hl'
    exact .brk (k := ⟨r₂, k.inFile, k.s⟩) (nextJson_eq_of hn e1) hk (rowCtx_congr hl hl' _ _ _ ▸ hp)

/-- LOCALITY OF THE READ LOOP: if the loop over `r` ends normally (end of input, or `Break`) having examined
only stream positions below `N`, then over any reader `r₂` that agrees with `r` below `N` — and with any fuel that
is at least as large — it ends in the same state, with the same decision, having pulled the same number of items. -/
theorem readLoop_local {N : Nat} (fuel fuel₂ : Nat) (r r₂ : Reader) (inFile : Nat) (s : RunState)
    {s' : RunState} {r' : Reader} {d : Decision} (hw : WF r) (hag : AgreeTo N r r₂)
    (h : readLoop orc c p fuel r inFile s = .ok (s', r', d)) (hN : pos r' ≤ N) (hf : fuel ≤ fuel₂) :
    ∃ r₂', readLoop orc c p fuel₂ r₂ inFile s = .ok (s', r₂', d) ∧ AgreeTo N r' r₂' := by
  obtain ⟨n, k', hr, ⟨hn, hfin⟩ | ⟨_, he⟩⟩ := readLoop_trace orc c p fuel ⟨r, inFile, s⟩
  · dsimp only at hfin
    rw [h] at hfin
    have hr' := hfin.reader
    rw [hr'] at hN ⊢
    have hw' := (reachN_wf_μ orc c p hr hw).1
    -- the iterations, then the last `nextJson`, over `r₂`
    obtain ⟨rk, hr₂, ag⟩ := reachN_sim orc c p hr r₂ hag hw (Nat.le_trans (nextJson_pos_mono _) hN)
    obtain ⟨e1, a1⟩ := nextJson_local ag hw' hN
    obtain ⟨f, rfl⟩ : ∃ f, fuel₂ = f + 1 + n := ⟨fuel₂ - 1 - n, by omega⟩
    refine ⟨rk.nextJson.2, ?_, a1⟩
    rw [reachN_readLoop orc c p hr₂ (f + 1)]
    exact final_readLoop orc c p (hfin.sim orc c p rk e1 ag.loc a1.loc) f
  · dsimp only at he
    rw [h] at he
    cases he

/-- (C14) `take_stops`: the loop over `r` answered `Break` after pulling `d = r'.pulled - r.pulled` items.  Then over
ANY reader `r₂` in the same state whose stream agrees on the first `d + 1` positions — whatever follows, finite
or not — and with any larger fuel, the loop ends with the same state (same rows written, same stage states) and
has pulled exactly as many items. -/
theorem take_stops (fuel fuel₂ : Nat) (r r₂ : Reader) (inFile : Nat) (s : RunState)
    {s' : RunState} {r' : Reader} (hw : WF r)
    (h : readLoop orc c p fuel r inFile s = .ok (s', r', .brk))
    (hag : Agree (r'.pulled - r.pulled + 1) r r₂) (hf : fuel ≤ fuel₂) :
    ∃ r₂', readLoop orc c p fuel₂ r₂ inFile s = .ok (s', r₂', .brk) ∧ r₂'.pulled = r'.pulled := by
  have h1 := pos_le_pulled r'
  have h2 := pulled_le_pos r
  obtain ⟨r₂', e, a⟩ := readLoop_local orc c p fuel fuel₂ r r₂ inFile s hw hag h (by omega) hf
  exact ⟨r₂', e, a.pulled.symm⟩

/-- the same when the loop stopped without having seen the end of input: agreement on the `d` items pulled is
enough -/
theorem take_stops_no_eof (fuel fuel₂ : Nat) (r r₂ : Reader) (inFile : Nat) (s : RunState)
    {s' : RunState} {r' : Reader} (hw : WF r)
    (h : readLoop orc c p fuel r inFile s = .ok (s', r', .brk)) (he : r'.eof = false)
    (hag : Agree (r'.pulled - r.pulled) r r₂) (hf : fuel ≤ fuel₂) :
    ∃ r₂', readLoop orc c p fuel₂ r₂ inFile s = .ok (s', r₂', .brk) ∧ r₂'.pulled = r'.pulled := by
  have h1 := pos_of_not_eof he
  have h2 := pulled_le_pos r
  obtain ⟨r₂', e, a⟩ := readLoop_local orc c p fuel fuel₂ r r₂ inFile s hw hag h (by omega) hf
  exact ⟨r₂', e, a.pulled.symm⟩

theorem agree_ofItems_append (items cont : List RItem) (name : Option Str) :
    AgreeTo items.length (Reader.ofItems items name) (Reader.ofItems (items ++ cont) name) := by
  refine ⟨rfl, rfl, rfl, rfl, ?_⟩
  show List.take (items.length - 0) items = List.take (items.length - 0) (items ++ cont)
  simp

/-- the run on `items ++ cont` equals the run on `items`, for every continuation `cont`, when the loop over
`items` answered `Break` before it saw the end of `items` -/
theorem take_stops_append (items cont : List RItem) (name : Option Str) (fuel fuel₂ : Nat) (inFile : Nat)
    (s : RunState) {s' : RunState} {r' : Reader}
    (h : readLoop orc c p fuel (Reader.ofItems items name) inFile s = .ok (s', r', .brk)) (he : r'.eof = false)
    (hf : fuel ≤ fuel₂) :
    ∃ r₂', readLoop orc c p fuel₂ (Reader.ofItems (items ++ cont) name) inFile s = .ok (s', r₂', .brk)
      ∧ r₂'.pulled = r'.pulled := by
  have hcnt := readLoop_count orc c p _ _ _ _ h
  have hpos := pos_of_not_eof he
  have h0 : (Reader.ofItems items name).pulled = 0 := rfl
  have h1 : (Reader.ofItems items name).rest = items := rfl
  rw [h0, h1] at hcnt
  obtain ⟨r₂', e, a⟩ := readLoop_local orc c p fuel fuel₂ _ _ inFile s (wf_ofItems _ _)
    (agree_ofItems_append items cont name) h (by omega) hf
  exact ⟨r₂', e, a.pulled.symm⟩

/-- at the level of the file loop: later bytes of the file, and later files, are irrelevant -/
theorem take_stops_sources (items cont : List RItem) (name : Option Str) (rest rest₂ : List Source)
    (s : RunState) {s' : RunState} {r' : Reader}
    (h : readLoop orc c p (items.length + 2) (Reader.ofItems items name) 0 s = .ok (s', r', .brk))
    (he : r'.eof = false) :
    readSources orc c p (⟨name, items ++ cont⟩ :: rest₂) s = readSources orc c p (⟨name, items⟩ :: rest) s := by
  obtain ⟨r₂', e, a⟩ := take_stops_append orc c p items cont name _ ((items ++ cont).length + 2) 0 s h he
    (by simp)
  have e' : readLoop orc c p ((⟨name, items ++ cont⟩ : Source).items.length + 2)
      (Reader.ofItems (⟨name, items ++ cont⟩ : Source).items (⟨name, items ++ cont⟩ : Source).name) 0 s
      = .ok (s', r₂', .brk) := e
  have h' : readLoop orc c p ((⟨name, items⟩ : Source).items.length + 2)
      (Reader.ofItems (⟨name, items⟩ : Source).items (⟨name, items⟩ : Source).name) 0 s
      = .ok (s', r', .brk) := h
  rw [C14.files_after_break_not_opened orc c p _ rest₂ s s' r₂' e',
    C14.files_after_break_not_opened orc c p _ rest s s' r' h', a]

/-- (C14) at the level of a whole run: if the read loop over the first source answers `Break` before it saw the end
of `items`, the run (result, stdout, stderr, items pulled) does not depend on what follows `items` in that source
nor on the later sources -/
theorem take_stops_run (sources sources₂ : List Source) (items cont : List RItem) (name : Option Str)
    (wOut wErr w0 : Writer) {s' : RunState} {r' : Reader}
    (hb : build orc c = .ok p) (hs : sinkStart p.sink p.titles wOut = .ok w0)
    (h : readLoop orc c p (items.length + 2) (Reader.ofItems items name) 0
          { sts := p.sts, out := w0, err := wErr } = .ok (s', r', .brk))
    (he : r'.eof = false) :
    run orc c (⟨name, items ++ cont⟩ :: sources₂) wOut wErr = run orc c (⟨name, items⟩ :: sources) wOut wErr := by
  have := take_stops_sources orc c p items cont name sources sources₂ _ h he
  simp only [run, hb, hs, this]

end Loop

/-! Non-vacuity: `--take 1` over `[1] [2]` -/

def takeOne : Pipeline :=
  { cfgs := [.limit 0 (some 1)], sts := [.limit 0 0], sink := .json {} ['\n'], sinkLen := 0, titles := [] }

theorem build_takeOne (orc : Oracles) : build orc { take := some 1 } = .ok takeOne := rfl

/-- the loop over `[1] [2]` breaks after the first value, having pulled 4 items, the end of input not seen -/
theorem takeOne_breaks (orc : Oracles) :
    ∃ s' r', readLoop orc { take := some 1 } takeOne 9 (Reader.ofItems (cleanInput [91, 49, 93, 32, 91, 50, 93]) none) 0
      { sts := takeOne.sts, out := {}, err := {} } = .ok (s', r', .brk) ∧ r'.eof = false ∧ r'.pulled = 4 :=
  ⟨_, _, rfl, rfl, rfl⟩

/-- so whatever follows `[1] [2]` on stdin — including read faults — and whatever files follow, the run is the
same -/
example (orc : Oracles) (cont : List RItem) (more : List Source) :
    run orc { take := some 1 } (⟨none, cleanInput [91, 49, 93, 32, 91, 50, 93] ++ cont⟩ :: more) {} {}
      = run orc { take := some 1 } [⟨none, cleanInput [91, 49, 93, 32, 91, 50, 93]⟩] {} {} := by
  obtain ⟨s', r', h, he, _⟩ := takeOne_breaks orc
  exact take_stops_run orc _ takeOne [] more _ cont none {} {} {} (build_takeOne orc) rfl h he

/-! ### (C17) positions are exact -/

/-- the bytes among a list of items (a read fault carries no byte and does not move the position) -/
def itemBytes (l : List RItem) : List Byte :=
  l.filterMap (fun it => match it with | .byte b => some b | .err => none)

theorem itemBytes_append (a b : List RItem) : itemBytes (a ++ b) = itemBytes a ++ itemBytes b := by
  simp [itemBytes, List.filterMap_append]

theorem itemBytes_cleanInput (bs : List Byte) : itemBytes (cleanInput bs) = bs := by
  induction bs with
  | nil => rfl
  | cons b bs ih =>
    simp only [cleanInput, List.map_cons] at ih ⊢
    simp only [itemBytes, List.filterMap_cons] at ih ⊢
    rw [ih]

/-- the reader `r` works on the stream `items` of a source called `name`: `done` has been pulled, the rest is
unread, and the location is the line / column computed from the bytes pulled -/
def LocInv (items : List RItem) (name : Option Str) (r : Reader) : Prop :=
  ∃ done, items = done ++ r.rest ∧ done.length = r.pulled ∧ r.loc.name = name ∧
    C17.Tracks r (itemBytes done)

theorem locInv_ofItems (items : List RItem) (name : Option Str) : LocInv items name (Reader.ofItems items name) :=
  ⟨[], rfl, rfl, rfl, rfl⟩

structure PLocInv {α} (m : PM α) : Prop where
  inv : ∀ items name r, LocInv items name r → LocInv items name (m r).2

theorem next_locInv (r : Reader) (items : List RItem) (name : Option Str) (h : LocInv items name r) :
    LocInv items name (Reader.next r).2 := by
  obtain ⟨done, h1, h2, h3, h4⟩ := h
  rcases r.next_cases with ⟨_, e⟩ | ⟨he, hr, e⟩ | ⟨rest, he, hr, e⟩ | ⟨b, rest, he, hr, e⟩
  · rw [e]; exact ⟨done, h1, h2, h3, h4⟩
  · rw [e]; exact ⟨done, h1, h2, h3, h4⟩
  · -- a fault: one item pulled, no byte, the location does not move
    rw [e]
    refine ⟨done ++ [RItem.err], by simp [h1, hr], by simp [h2], h3, ?_⟩
    rw [itemBytes_append]
    have : itemBytes [RItem.err] = [] := rfl
    rw [this, List.append_nil]
    exact h4
  · have hname := C17.next_keeps_name r _ _ e
    have htr := C17.next_tracks r _ b _ h4 e
    rw [e]
    refine ⟨done ++ [RItem.byte b], by simp [h1, hr], by simp [h2], hname.trans h3, ?_⟩
    rw [itemBytes_append]
    exact htr

theorem plocinv_closed : PM.Closed PLocInv :=
  .of_rel (fun r r' => ∀ items name, LocInv items name r → LocInv items name r')
    (fun _ => ⟨fun h r items name => h.inv items name r, fun h => ⟨fun items name r => h r items name⟩⟩)
    (fun _ _ _ => id) (fun h1 h2 items name h => h2 items name (h1 items name h)) next_locInv

structure ValueLocInv (fuel : Nat) : Prop where
  value : PLocInv (nextValue fuel)
  array : PLocInv (readArray fuel)
  arrayLoop : ∀ acc, PLocInv (readArrayLoop fuel acc)
  object : PLocInv (readObject fuel)
  objectLoop : ∀ acc, PLocInv (readObjectLoop fuel acc)

theorem valueLocInv (fuel : Nat) : ValueLocInv fuel :=
  ⟨plocinv_closed.nextValue _, plocinv_closed.readArray _, plocinv_closed.readArrayLoop _,
    plocinv_closed.readObject _, plocinv_closed.readObjectLoop _⟩

theorem nextJson_locInv {items : List RItem} {name : Option Str} {r : Reader} (h : LocInv items name r) :
    LocInv items name r.nextJson.2 := (valueLocInv _).value.inv items name r h

/-- line = 1 + number of LF; column = 1 + number of bytes after the last LF -/
theorem lineCol_reverse (l : List Byte) :
    C17.lineCol l.reverse = (1 + l.count 10, 1 + (l.takeWhile (· ≠ 10)).length) := by
  induction l with
  | nil => rfl
  | cons x l ih =>
    rw [List.reverse_cons]
    unfold C17.lineCol at ih ⊢
    rw [List.foldl_append, ih]
    simp only [List.foldl_cons, List.foldl_nil, C17.lineColStep]
    by_cases hx : x = 10
    · subst hx
      simp
      omega
    · have hx' : (x == 10) = false := by simpa using hx
      simp [hx]
      omega

theorem lineCol_closed (bs : List Byte) :
    C17.lineCol bs = (1 + bs.count 10, 1 + (bs.reverse.takeWhile (· ≠ 10)).length) := by
  have := lineCol_reverse bs.reverse
  rw [List.reverse_reverse] at this
  rw [this, List.count_reverse]

/-- (C17) `location_is_lineCol`: a reader on the stream `items` that has pulled `n` items stands at line
`1 + (number of LF among the bytes pulled)`, column `1 + (number of bytes pulled after the last LF)`; its name is
the source's name; what is unread is `items` minus the first `n` items. -/
theorem location_is_lineCol {items : List RItem} {name : Option Str} {r : Reader} (h : LocInv items name r) :
    r.rest = items.drop r.pulled ∧ r.pulled ≤ items.length ∧ r.loc.name = name ∧
    r.loc.line = 1 + (itemBytes (items.take r.pulled)).count 10 ∧
    r.loc.col = 1 + ((itemBytes (items.take r.pulled)).reverse.takeWhile (· ≠ 10)).length := by
  obtain ⟨done, h1, h2, h3, h4⟩ := h
  have ht : items.take r.pulled = done := by rw [h1, ← h2]; simp
  have hd : items.drop r.pulled = r.rest := by rw [h1, ← h2]; simp
  rw [ht, hd]
  unfold C17.Tracks at h4
  rw [lineCol_closed] at h4
  simp only [Prod.mk.injEq] at h4
  refine ⟨rfl, ?_, h3, h4.1, h4.2⟩
  rw [h1, ← h2]; simp

/-- after pulling exactly the bytes `bs` of a clean input -/
theorem location_after_bytes {bs tail : List Byte} {name : Option Str} {r : Reader}
    (h : LocInv (cleanInput (bs ++ tail)) name r) (hp : r.pulled = bs.length) :
    r.loc.line = 1 + bs.count 10 ∧ r.loc.col = 1 + (bs.reverse.takeWhile (· ≠ 10)).length ∧
    r.rest = cleanInput tail := by
  obtain ⟨h1, _, _, h4, h5⟩ := location_is_lineCol h
  have ht : (cleanInput (bs ++ tail)).take r.pulled = cleanInput bs := by
    rw [hp]; simp [cleanInput, List.map_append]
  have hd : (cleanInput (bs ++ tail)).drop r.pulled = cleanInput tail := by
    rw [hp]; simp [cleanInput, List.map_append]
  rw [ht, itemBytes_cleanInput] at h4 h5
  exact ⟨h4, h5, by rw [h1, hd]⟩

/-! #### Ranges tile -/

/-- every call of `nextJson` made by `ctxsOf` yields a row (no malformed region skipped, no scalar dropped by
`--only-objects-and-arrays`), until the input ends or a read fault stops the loop — as a computable test -/
def allRowsB (c : Cfg) : Nat → Reader → Bool
  | 0, _ => true
  | fuel + 1, r =>
    match r.nextJson with
    | (.ok (some v), r') => !(c.onlyObjectsAndArrays && !v.isObjOrArr) && allRowsB c fuel r'
    | (.ok none, _) => true
    | (.error e, _) => !e.canRecover

def AllRows (c : Cfg) (fuel : Nat) (r : Reader) : Prop := allRowsB c fuel r = true

instance (c : Cfg) (fuel : Nat) (r : Reader) : Decidable (AllRows c fuel r) := by
  unfold AllRows; infer_instance

/-- the rows' ranges tile, starting at `l`: each row starts where the previous one ended -/
def TilesFrom : Loc → List Ctx → Prop
  | _, [] => True
  | l, ctx :: rest => ∃ ic, ctx.ictx = some ic ∧ ic.startLoc = l ∧ TilesFrom ic.endLoc rest

/-- (C17) `ranges_tile`: when no recoverable error and no dropped scalar lies between them, consecutive rows have
`ended k = started (k + 1)`, and the first row starts at the reader's location (`1:1` for a fresh reader) -/
theorem ranges_tile (c : Cfg) (fuel : Nat) (r : Reader) (inFile idx : Nat) (h : AllRows c fuel r) :
    TilesFrom r.loc (RunSpec.ctxsOf c fuel r inFile idx) := by
  induction fuel generalizing r inFile idx with
  | zero => exact True.intro
  | succ fuel ih =>
    unfold AllRows allRowsB at h
    unfold RunSpec.ctxsOf
    rcases hn : r.nextJson with ⟨res, r'⟩
    rw [hn] at h
    cases res with
    | error e =>
      dsimp only at h ⊢
      have : e.canRecover = false := by simpa using h
      rw [this]
      exact True.intro
    | ok o =>
      cases o with
      | none => exact True.intro
      | some v =>
        dsimp only at h ⊢
        rw [Bool.and_eq_true, Bool.not_eq_true'] at h
        rw [h.1]
        exact ⟨_, rfl, rfl, ih r' _ _ h.2⟩

theorem tilesFrom_get {l : Loc} {cs : List Ctx} (h : TilesFrom l cs) (k : Nat) (hk : k + 1 < cs.length) :
    ∃ a b, cs[k].ictx = some a ∧ cs[k + 1].ictx = some b ∧ a.endLoc = b.startLoc := by
  induction cs generalizing l k with
  | nil => simp at hk
  | cons x xs ih =>
    obtain ⟨ic, h1, h2, h3⟩ := h
    cases k with
    | zero =>
      cases xs with
      | nil => simp at hk
      | cons y ys =>
        obtain ⟨ic', h1', h2', _⟩ := h3
        exact ⟨ic, ic', h1, h1', h2'.symm⟩
    | succ k => exact ih h3 k (by simpa using hk)

theorem tilesFrom_head {l : Loc} {cs : List Ctx} (h : TilesFrom l cs) (hk : 0 < cs.length) :
    ∃ a, cs[0].ictx = some a ∧ a.startLoc = l := by
  cases cs with
  | nil => simp at hk
  | cons x xs =>
    obtain ⟨ic, h1, h2, _⟩ := h
    exact ⟨ic, h1, h2⟩

/-- in index form, over a whole source: `ended k = started (k+1)` and `started 0 = name:1:1` -/
theorem ranges_tile_source (c : Cfg) (src : Source) (idx : Nat)
    (h : AllRows c (src.items.length + 2) (Reader.ofItems src.items src.name)) :
    let cs := RunSpec.ctxsOf c (src.items.length + 2) (Reader.ofItems src.items src.name) 0 idx
    (∀ k (hk : k + 1 < cs.length), ∃ a b, cs[k].ictx = some a ∧ cs[k + 1].ictx = some b ∧ a.endLoc = b.startLoc) ∧
    (∀ hk : 0 < cs.length, ∃ a, cs[0].ictx = some a ∧ a.startLoc = { name := src.name, line := 1, col := 1 }) := by
  intro cs
  have ht := ranges_tile c _ _ 0 idx h
  exact ⟨fun k hk => tilesFrom_get ht k hk, fun hk => tilesFrom_head ht hk⟩

/-! #### What lies between `started` and `ended` (finding F11) -/

/-- `range_contains_text`, the precise general statement.  A successful `nextJson` consumes a prefix `consumed` of
the pending stream (leading white space and the value's text).  The items it PULLS — the bytes that lie between
`started` and `ended`, by `location_is_lineCol` — are not `consumed` in general:
`(look-ahead held at entry) ++ pulled = consumed ++ (look-ahead held at exit)`.
So when a look-ahead byte is held at entry (it was pulled, and counted, by the PREVIOUS call) the range of this
value misses the first byte of `consumed`; and it always includes the one byte after the value. -/
theorem range_contains_text_general (r : Reader) {x : Option JV} {r' : Reader} (h : r.nextJson = (.ok x, r')) :
    ∃ consumed, r.pending = consumed ++ r'.pending ∧
      curItems r ++ r.rest.take (r'.pulled - r.pulled) = consumed ++ curItems r' := by
  have hdrop := nextJson_rest_eq_drop r
  have hcnt := nextJson_count r
  rw [h] at hdrop hcnt
  dsimp only at hdrop hcnt
  obtain ⟨hsuf, hl | hl⟩ := nextJson_lookahead r h
  · obtain ⟨hp, hr, hc | hc⟩ := hl
    · refine ⟨[], ?_, ?_⟩
      · simp [Reader.pending, hr, hc]
      · have e : curItems r' = curItems r := by simp [curItems, hc]
        rw [e, hp, Nat.sub_self, List.take_zero, List.append_nil, List.nil_append]
    · refine ⟨curItems r, ?_, ?_⟩
      · have e : curItems r' = [] := by simp [curItems, hc]
        rw [pending_eq, pending_eq r', e, hr, List.nil_append]
      · have e : curItems r' = [] := by simp [curItems, hc]
        rw [e, hp, Nat.sub_self, List.take_zero]
  · obtain ⟨hp, hl⟩ := hl
    cases hc : r'.cur with
    | none =>
      refine ⟨curItems r ++ r.rest.take (r'.pulled - r.pulled), ?_, by simp [curItems, hc]⟩
      rw [pending_eq, pending_eq r', List.append_assoc]
      simp only [curItems, hc, List.nil_append]
      rw [hdrop, List.take_append_drop]
    | some b =>
      obtain ⟨pre, hpre⟩ := hl b hc
      have hlen : r'.pulled - r.pulled = pre.length + 1 := by
        have := congrArg List.length hpre
        simp at this
        omega
      refine ⟨curItems r ++ pre, ?_, ?_⟩
      · rw [pending_eq, pending_eq r', List.append_assoc]
        simp only [curItems, hc]
        rw [hpre]; simp
      · have e : curItems r' = [RItem.byte b] := by simp [curItems, hc]
        have e2 : pre ++ RItem.byte b :: r'.rest = (pre ++ [RItem.byte b]) ++ r'.rest := by simp
        rw [e, hlen, hpre, e2, List.take_left' (by simp), List.append_assoc]

/-- (C17) `range_contains_text`, the clean case: no look-ahead byte is held at entry (the first value of a source,
or a value after one that ended at the end of input).  Then the items pulled between `started` and `ended` are
exactly what the call consumed — leading white space and the whole text of the value — followed by the single
look-ahead byte, if one is held at exit. -/
theorem range_contains_text (r : Reader) (hc : r.cur = none) {x : Option JV} {r' : Reader}
    (h : r.nextJson = (.ok x, r')) :
    ∃ consumed, r.rest = consumed ++ r'.pending ∧
      r.rest.take (r'.pulled - r.pulled) = consumed ++ curItems r' := by
  obtain ⟨consumed, h1, h2⟩ := range_contains_text_general r h
  have : curItems r = [] := by simp [curItems, hc]
  rw [pending_eq, this, List.nil_append] at h1
  rw [this, List.nil_append] at h2
  exact ⟨consumed, h1, h2⟩

/-- F11, concretely: in `[1][2]` the second value starts at column 4, but its range starts at `1:5`, because `[`
was pulled as the look-ahead of the first call; in `[1] [2]` the blank is the look-ahead and both ranges are
exact up to that blank. -/
example : (RunSpec.ctxsOf {} 8 (Reader.ofBytes [91, 49, 93, 91, 50, 93]) 0 0).map (fun c => c.ictx.map (fun i =>
    ((i.startLoc.line, i.startLoc.col), (i.endLoc.line, i.endLoc.col))))
    = [some ((1, 1), (1, 5)), some ((1, 5), (1, 7))] := by decide +kernel

example : (RunSpec.ctxsOf {} 9 (Reader.ofBytes [91, 49, 93, 32, 91, 50, 93]) 0 0).map (fun c => c.ictx.map (fun i =>
    ((i.startLoc.line, i.startLoc.col), (i.endLoc.line, i.endLoc.col))))
    = [some ((1, 1), (1, 5)), some ((1, 5), (1, 8))] := by decide +kernel

example : AllRows {} 9 (Reader.ofBytes [91, 49, 93, 32, 91, 50, 93]) := by decide +kernel

/-- `location_is_lineCol` on `[1]\n[2]`: after the first call 4 bytes are pulled, one of them LF: line 2, column 1 -/
example : (Reader.nextJson (Reader.ofBytes [91, 49, 93, 10, 91, 50, 93])).2.loc.line = 2
    ∧ (Reader.nextJson (Reader.ofBytes [91, 49, 93, 10, 91, 50, 93])).2.loc.col = 1 := by
  have h := location_after_bytes (bs := [91, 49, 93, 10]) (tail := [91, 50, 93])
    (r := (Reader.nextJson (Reader.ofBytes [91, 49, 93, 10, 91, 50, 93])).2)
    (nextJson_locInv (locInv_ofItems _ _)) (by decide +kernel)
  exact ⟨h.1, h.2.1⟩

end Jawk.Loc
