/-
  What the round trip printer → parser is claimed for: the printable values and the normal form the parser
  yields for them, what may follow a value, the dispatch of `next_json_value` on the first byte, the
  punctuation of the three styles as bytes, printed element and member lists without their first indentation,
  `IndexMap` insertion of a member list, successive reads (`Reads`), and `next_json_value` at the end of the input.
-/
import Jawk.Lemmas.RoundTripLex
import Jawk.Lemmas.Obj
namespace Jawk.RT
open Jawk Reader

/-! ### Printable values, the normal form the parser yields, delimiters -/

mutual
/-- The values for which the round trip is claimed:
* numbers: `pos n` with `n < 2^64`; `neg i` with `-2^63 ≤ i < 2^64` (a `neg i` with `i ≥ 0` is printed without
  sign and read back as `pos i`, hence `norm`); floats satisfying `FloatRT` (an integral float such as
  `4503599627370496.0` or `±0.0` is printed as an integer and read back as one: excluded by `FloatRT.stays`,
  `From<f64>` never builds these);
* strings (and member names): every character is in the BMP unless `utf8Strings` is set (otherwise U+1F603 is
  printed `\u1f603`, five hex digits, and read back as the two characters U+1F60 and `'3'`:
  `PrintSer.astral_ascii_differs`);
* objects: member names pairwise distinct (guaranteed by the real `IndexMap`; `{"a": null, "a": true}` would
  be read back as `{"a": true}`). -/
def Printable (o : JsonOpts) : JV → Prop
  | .null => True
  | .bool _ => True
  | .num n => NumPrintable n
  | .str s => StrOK o s
  | .arr vs => PrintableList o vs
  | .obj kvs => PrintableMembers o kvs ∧ (kvs.map (·.1)).Nodup
def PrintableList (o : JsonOpts) : List JV → Prop
  | [] => True
  | v :: vs => Printable o v ∧ PrintableList o vs
def PrintableMembers (o : JsonOpts) : List (Str × JV) → Prop
  | [] => True
  | (k, v) :: kvs => StrOK o k ∧ Printable o v ∧ PrintableMembers o kvs
end

mutual
/-- What the parser yields for the printed text of `v`: `v` itself, except that a number
`neg i` with `i ≥ 0` (printed without sign) comes back as `pos i`. -/
def norm : JV → JV
  | .null => .null
  | .bool b => .bool b
  | .num n => .num (normNum n)
  | .str s => .str s
  | .arr vs => .arr (normList vs)
  | .obj kvs => .obj (normMembers kvs)
def normList : List JV → List JV
  | [] => []
  | v :: vs => norm v :: normList vs
def normMembers : List (Str × JV) → List (Str × JV)
  | [] => []
  | (k, v) :: kvs => (k, norm v) :: normMembers kvs
end

/-- What may follow the printed value: after a number, no byte that would extend it. -/
def Delim : JV → List Byte → Prop
  | .num _, rest => NumDelim rest
  | _, _ => True

theorem Delim.of_numDelim {v : JV} {rest : List Byte} (h : NumDelim rest) : Delim v rest := by
  cases v <;> first | exact h | exact True.intro

theorem numDelim_nil : NumDelim [] := by
  intro b hb; simp at hb

theorem numDelim_cons (b : Byte) (l : List Byte)
    (h : isDigit b = false ∧ b ≠ 46 ∧ b ≠ 101 ∧ b ≠ 69) : NumDelim (b :: l) := by
  intro c hc
  simp only [List.head?_cons, Option.mem_def, Option.some.injEq] at hc
  subst hc; exact h

theorem isWs_numDelim {b : Byte} (h : isWs b = true) :
    isDigit b = false ∧ b ≠ 46 ∧ b ≠ 101 ∧ b ≠ 69 := by
  simp only [isWs, Bool.or_eq_true, decide_eq_true_eq] at h
  rcases h with ((rfl | rfl) | rfl) | rfl <;> decide

/-- white space followed by a punctuation byte delimits a number -/
theorem numDelim_ws_punct (ws : List Byte) (hws : ∀ b ∈ ws, isWs b = true) (c : Byte) (rest : List Byte)
    (hc : isDigit c = false ∧ c ≠ 46 ∧ c ≠ 101 ∧ c ≠ 69) : NumDelim (ws ++ c :: rest) := by
  cases ws with
  | nil => exact numDelim_cons c rest hc
  | cons w ws => exact numDelim_cons w _ (isWs_numDelim (hws w (by simp)))

/-! ### Dispatch of `next_json_value` -/

/-- the body of `next_json_value` after white space has been skipped and the first byte `c` peeked -/
def dispatch (fuel : Nat) (c : Byte) : PM (Option JV) :=
  if c = 116 then do
    readWordTail "true" [114, 117, 101]
    pure (some (.bool true))
  else if c = 102 then do
    readWordTail "false" [97, 108, 115, 101]
    pure (some (.bool false))
  else if c = 110 then do
    readWordTail "null" [117, 108, 108]
    pure (some .null)
  else if c = 34 then do
    let s ← readStringLoop (fuel + 1) []
    pure (some (.str s))
  else if c = 45 || isDigit c then do
    let v ← readNumber (fuel + 1)
    pure (some v)
  else if c = 91 then do
    let v ← readArray fuel
    pure (some v)
  else if c = 123 then do
    let v ← readObject fuel
    pure (some v)
  else do
    let _ ← next
    locErr (fun l => .unexpectedChar l c valueExpected)

theorem nextValue_dispatch (ws : List Byte) (hws : ∀ b ∈ ws, isWs b = true) (c : Byte) (bs : List Byte)
    (hc : isWs c = false) (r : Reader) (hr : Ready r (ws ++ c :: bs)) (fuel : Nat)
    (hf : ws.length < fuel + 1) :
    ∃ r1, At r1 c bs ∧ nextValue (fuel + 1) r = dispatch fuel c r1 := by
  obtain ⟨r1, he, hr1⟩ := eatWhitespace_before ws hws c hc bs r hr (fuel + 1) hf
  refine ⟨r1, hr1, ?_⟩
  rw [nextValue, PM.bind_ok he, PM.bind_ok (peek_at hr1)]
  rfl

theorem dispatch_num (fuel : Nat) (c : Byte) (hc : c = 45 ∨ isDigit c = true) :
    dispatch fuel c = (do let v ← readNumber (fuel + 1); pure (some v)) := by
  have h : c ≠ 116 ∧ c ≠ 102 ∧ c ≠ 110 ∧ c ≠ 34 ∧ (decide (c = 45) || isDigit c) = true := by
    rcases hc with rfl | hc
    · decide
    · have hc0 := hc
      simp only [isDigit, Bool.and_eq_true, decide_eq_true_eq, UInt8.le_iff_toNat_le] at hc
      refine ⟨?_, ?_, ?_, ?_, ?_⟩
      · intro h; subst h; simp at hc
      · intro h; subst h; simp at hc
      · intro h; subst h; simp at hc
      · intro h; subst h; simp at hc
      · simp [hc0]
  simp only [dispatch, h.1, h.2.1, h.2.2.1, h.2.2.2.1, h.2.2.2.2, if_false, if_true]

theorem isWs_false_of_num (c : Byte) (hc : c = 45 ∨ isDigit c = true) : isWs c = false := by
  rcases hc with rfl | hc
  · decide
  · simp only [isDigit, Bool.and_eq_true, decide_eq_true_eq, UInt8.le_iff_toNat_le] at hc
    simp only [isWs, Bool.or_eq_false_iff, decide_eq_false_iff_not]
    refine ⟨⟨⟨?_, ?_⟩, ?_⟩, ?_⟩ <;> (intro h; subst h; simp at hc)

theorem dispatch_arr (fuel : Nat) : dispatch fuel 91 = (do let v ← readArray fuel; pure (some v)) := rfl

theorem dispatch_obj (fuel : Nat) : dispatch fuel 123 = (do let v ← readObject fuel; pure (some v)) := rfl

/-- a byte that can start a value: not white space, not a closing bracket -/
def HeadOK (c : Byte) : Prop := isWs c = false ∧ c ≠ 93 ∧ c ≠ 125

instance (c : Byte) : Decidable (HeadOK c) := by unfold HeadOK; infer_instance

/-! ### White space and punctuation of the three styles -/

theorem utf8_spaces (n : Nat) : ∀ b ∈ utf8 (List.replicate n [' ', ' ']).flatten, isWs b = true := by
  induction n with
  | zero => intro b hb; simp [utf8_nil] at hb
  | succ n ih =>
    intro b hb
    rw [List.replicate_succ, List.flatten_cons, utf8_append] at hb
    rcases List.mem_append.1 hb with h | h
    · have : utf8 [' ', ' '] = [32, 32] := rfl
      rw [this] at h
      simp only [List.mem_cons, List.not_mem_nil, or_false, or_self] at h
      subst h; rfl
    · exact ih b h

theorem indent_ws (o : JsonOpts) (ind : Nat) : ∀ b ∈ utf8 (indentText o ind), isWs b = true := by
  unfold indentText
  cases o.style with
  | pretty =>
    intro b hb
    simp only [utf8_cons] at hb
    rcases List.mem_append.1 hb with h | h
    · have : String.utf8EncodeChar '\n' = [10] := rfl
      rw [this] at h
      simp only [List.mem_cons, List.not_mem_nil, or_false] at h
      subst h; rfl
    · exact utf8_spaces ind b h
  | oneLine => intro b hb; simp [utf8_nil] at hb
  | consise => intro b hb; simp [utf8_nil] at hb

/-- the blank after the comma in the one-line style -/
def commaWs (o : JsonOpts) : List Byte :=
  match o.style with
  | .oneLine => [32]
  | _ => []

/-- the blank after the colon (all styles but `consise`) -/
def colonWs (o : JsonOpts) : List Byte :=
  match o.style with
  | .consise => []
  | _ => [32]

theorem utf8_commaText (o : JsonOpts) : utf8 (commaText o) = 44 :: commaWs o := by
  unfold commaText commaWs; cases o.style <;> rfl

theorem utf8_colonText (o : JsonOpts) : utf8 (colonText o) = 58 :: colonWs o := by
  unfold colonText colonWs; cases o.style <;> rfl

theorem commaWs_ws (o : JsonOpts) : ∀ b ∈ commaWs o, isWs b = true := by
  unfold commaWs; cases o.style <;> simp <;> rfl

theorem colonWs_ws (o : JsonOpts) : ∀ b ∈ colonWs o, isWs b = true := by
  unfold colonWs; cases o.style <;> simp <;> rfl

theorem ws_append {a b : List Byte} (ha : ∀ x ∈ a, isWs x = true) (hb : ∀ x ∈ b, isWs x = true) :
    ∀ x ∈ a ++ b, isWs x = true := by
  intro x hx
  rcases List.mem_append.1 hx with h | h
  · exact ha x h
  · exact hb x h

/-! ### Printed element lists -/

/-- `printElems` without the indentation of the first element -/
def elemsTail (o : JsonOpts) (ind : Nat) : List JV → Str
  | [] => []
  | [v] => printJsonAt o ind v
  | v :: w :: vs => printJsonAt o ind v ++ commaText o ++ indentText o ind ++ elemsTail o ind (w :: vs)

theorem printElems_eq (o : JsonOpts) (ind : Nat) :
    ∀ vs, vs ≠ [] → printElems o ind vs = indentText o ind ++ elemsTail o ind vs
  | [], h => absurd rfl h
  | [v], _ => by rw [printElems, elemsTail]
  | v :: w :: vs, _ => by
    rw [printElems, printElems_eq o ind (w :: vs) (by simp), elemsTail]
    simp only [List.append_assoc]

/-! ### Printed member lists, `IndexMap` insertion -/

/-- `printMembers` without the indentation of the first member -/
def membersTail (o : JsonOpts) (ind : Nat) : List (Str × JV) → Str
  | [] => []
  | [(k, v)] => printString o k ++ colonText o ++ printJsonAt o ind v
  | (k, v) :: kv :: kvs =>
    printString o k ++ colonText o ++ printJsonAt o ind v ++ commaText o ++ indentText o ind
      ++ membersTail o ind (kv :: kvs)

theorem printMembers_eq (o : JsonOpts) (ind : Nat) :
    ∀ kvs, kvs ≠ [] → printMembers o ind kvs = indentText o ind ++ membersTail o ind kvs
  | [], h => absurd rfl h
  | [(k, v)], _ => by rw [printMembers, membersTail]; simp only [List.append_assoc]
  | (k, v) :: kv :: kvs, _ => by
    rw [printMembers, printMembers_eq o ind (kv :: kvs) (by simp), membersTail]
    simp only [List.append_assoc]

/-- `IndexMap::insert` of a list of members, in order -/
def insertAll (acc l : List (Str × JV)) : List (Str × JV) :=
  l.foldl (fun a kv => objInsert a kv.1 kv.2) acc

/-- inserting members with pairwise distinct fresh names appends them -/
theorem insertAll_nodup (acc l : List (Str × JV)) (h : ((acc ++ l).map (·.1)).Nodup) :
    insertAll acc l = acc ++ l :=
  foldl_objInsert_distinct l acc h

theorem normMembers_keys (kvs : List (Str × JV)) : (normMembers kvs).map (·.1) = kvs.map (·.1) := by
  induction kvs with
  | nil => simp [normMembers]
  | cons kv kvs ih =>
    obtain ⟨k, v⟩ := kv
    simp [normMembers, ih]

/-! ### Successive `next_json_value` calls -/

/-- successive `next_json_value` calls yield the values `vs`, ending in reader `r'` -/
inductive Reads : Reader → List JV → Reader → Prop
  | nil (r : Reader) : Reads r [] r
  | cons {r r1 r' : Reader} {v : JV} {vs : List JV} :
      r.nextJson = (.ok (some v), r1) → Reads r1 vs r' → Reads r (v :: vs) r'

theorem ready_length {r : Reader} {bs : List Byte} (h : Ready r bs) : bs.length ≤ r.rest.length + 1 := by
  have := congrArg List.length h.1
  simp only [Reader.pending, cleanInput, List.length_append, List.length_map] at this
  cases hc : r.cur <;> simp [hc] at this <;> omega

/-- at the end of the input (only white space left) `next_json_value` returns `None` -/
theorem nextJson_end (ws : List Byte) (hws : ∀ b ∈ ws, isWs b = true) (r : Reader) (hr : Ready r ws) :
    ∃ r', r.nextJson = (.ok none, r') ∧ Ready r' [] := by
  have hl := ready_length hr
  obtain ⟨r1, h1, hr1⟩ := eatWhitespace_ready ws hws [] (by simp) r (by simpa using hr)
    (4 * r.rest.length + 9 + 1) (by omega)
  refine ⟨r1, ?_, Peeked.ready hr1⟩
  rw [Reader.nextJson, show 4 * r.rest.length + 10 = 4 * r.rest.length + 9 + 1 from rfl, nextValue,
    PM.bind_ok h1, PM.bind_ok (peek_peeked hr1)]
  rfl

end Jawk.RT
