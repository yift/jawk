/-
  C06 for streams of values PRINTED BY jawk, separated by gaps that start with white space (`stream o g0 items`):
  the special case of `Noise2` in which the text of a value is its printed text — a conforming text of its
  normal form (`PrintSer.printJson_ser_printable`) — and a gap delimits the value before it because it starts
  with white space or ends the stream.  The clean twin is the stream with the garbage deleted.
  (Namespace `Jawk.Noise`, shared with Noise.lean and Erase.lean.)
-/
import Jawk.Lemmas.Noise2
import Jawk.Lemmas.PrintSer
namespace Jawk.Noise
open Jawk Jawk.Pipe Jawk.Fuel Jawk.RunSpec Jawk.RT Jawk.C06 Reader Jawk.Noise2

/-! ### printed values as items of the general development -/

def toItems (o : JsonOpts) (items : List (JV × Gap)) : List Item :=
  items.map fun x => ⟨norm x.1, utf8 (printJson o x.1), x.2⟩

theorem stream_eq (o : JsonOpts) (g0 : Gap) (items : List (JV × Gap)) :
    stream o g0 items = stream2 g0 (toItems o items) := by
  simp [stream, stream2, toItems, List.flatMap_map]

theorem toItems_values (o : JsonOpts) (items : List (JV × Gap)) :
    (toItems o items).map (·.v) = (items.map (·.1)).map norm := by
  simp [toItems]

theorem garbageCount_eq (o : JsonOpts) (g0 : Gap) (items : List (JV × Gap)) :
    garbageCount2 g0 (toItems o items) = garbageCount g0 items := by
  simp [garbageCount2, garbageCount, toItems, Function.comp_def]

theorem noisyGaps_eq (o : JsonOpts) (g0 : Gap) (items : List (JV × Gap)) :
    noisyGaps2 g0 (toItems o items) = noisyGaps g0 items := by
  simp [noisyGaps2, noisyGaps, toItems, Function.comp_def]

theorem cleanPrefix_eq (o : JsonOpts) (g0 : Gap) (items : List (JV × Gap)) :
    cleanPrefix2 g0 (toItems o items) = (cleanPrefix g0 items).map norm := by
  induction items generalizing g0 with
  | nil => rfl
  | cons x rest ih =>
    simp only [toItems, List.map_cons, cleanPrefix2, cleanPrefix]
    split
    · rw [List.map_cons, ← ih]; rfl
    · rfl

theorem firstGarbage_eq (o : JsonOpts) (g0 : Gap) (items : List (JV × Gap)) :
    firstGarbage2 g0 (toItems o items) = firstGarbage g0 items := by
  induction items generalizing g0 with
  | nil => rfl
  | cons x rest ih =>
    obtain ⟨v, g⟩ := x
    simp only [toItems, List.map_cons, firstGarbage2, firstGarbage]
    cases g0.toks with
    | nil => exact ih g
    | cons t ts => rfl

/-- a gap that starts with white space, or is empty and ends the stream, delimits whatever stands before it -/
theorem delimited_of_sep (v : JV) {g : Gap} (hg : g.OK) {rest : List Item}
    (hsep : g.ws ≠ [] ∨ (g.toks = [] ∧ rest = [])) : Ser.Delimited v (stream2 g rest) := by
  cases v with
  | num n =>
    intro b hb
    obtain ⟨ws, toks⟩ := g
    cases ws with
    | cons a ws =>
      have hb' : b = a := by simpa [stream2, Gap.bytes, eq_comm] using hb
      rcases Ser.IsWs_of_isWs (hg.1 a (by simp)) with h | h | h | h <;> (subst hb'; subst h; decide)
    | nil =>
      rcases hsep with h | ⟨h1, h2⟩
      · exact absurd rfl h
      · subst h2; dsimp only at h1; subst h1
        simp [stream2, Gap.bytes, toksBytes] at hb
  | _ => exact True.intro

theorem itemsOK2_of {o : JsonOpts} : ∀ {items : List (JV × Gap)}, ItemsOK o items → ItemsOK2 (toItems o items)
  | [], _ => trivial
  | (v, g) :: rest, ⟨hv, hg, hsep, hrest⟩ => by
    refine ⟨PrintSer.printJson_ser_printable o v hv, hg, delimited_of_sep _ hg ?_, itemsOK2_of hrest⟩
    rcases hsep with h | ⟨h1, h2⟩
    · exact .inl h
    · exact .inr ⟨h1, by rw [h2]; rfl⟩

/-- what the read loop sees in a noisy stream of printed values -/
theorem readsAs_stream (o : JsonOpts) (g0 : Gap) (items : List (JV × Gap)) (h0 : g0.OK) (hit : ItemsOK o items) :
    ReadsAs (stream o g0 items) ((items.map (·.1)).map norm) (garbageCount g0 items) := by
  rw [stream_eq, ← toItems_values o, ← garbageCount_eq o]
  exact readsAs_stream2 g0 _ h0 (itemsOK2_of hit)

/-- … and in its clean twin -/
theorem readsAs_strip (o : JsonOpts) (g0 : Gap) (items : List (JV × Gap)) (h0 : g0.OK) (hit : ItemsOK o items) :
    ReadsAs (stream o g0.strip (stripItems items)) ((items.map (·.1)).map norm) 0 := by
  have h := readsAs_stream o g0.strip (stripItems items) (Gap.strip_OK h0) (stripItems_OK o items hit)
  rwa [stripItems_values, garbageCount_strip] at h

theorem stopsAt_stream (o : JsonOpts) (g0 : Gap) (items : List (JV × Gap)) (h0 : g0.OK) (hit : ItemsOK o items) :
    StopsAt (stream o g0 items) ((cleanPrefix g0 items).map norm) (firstGarbage g0 items) := by
  rw [stream_eq, ← cleanPrefix_eq o, ← firstGarbage_eq o]
  exact stopsAt_stream2 g0 _ h0 (itemsOK2_of hit)

/-- every malformed region holds at least one garbage byte -/
theorem noisyGaps_le (o : JsonOpts) (g0 : Gap) (items : List (JV × Gap)) (h0 : g0.OK) (h : ItemsOK o items) :
    noisyGaps g0 items ≤ garbageCount g0 items := by
  rw [← noisyGaps_eq o, ← garbageCount_eq o]
  exact noisyGaps2_le g0 _ h0 (itemsOK2_of h)

/-! ### noise is transparent -/

/-- Whatever the gaps hold, the values handed to the pipeline are the (normal forms
of the) values of the stream, in order, scalars dropped under `--only-objects-and-arrays`; their ordinals
count values only. -/
theorem noisy_rows (c : Cfg) (o : JsonOpts) (g0 : Gap) (items : List (JV × Gap)) (h0 : g0.OK)
    (hit : ItemsOK o items) (name : Option Str) (fuel : Nat) (hf : (stream o g0 items).length + 2 ≤ fuel)
    (i k : Nat) :
    (ctxsOf c fuel (Reader.ofBytes (stream o g0 items) name) i k).map (·.input)
        = applyOnlyObj c ((items.map (·.1)).map norm) ∧
    (ctxsOf c fuel (Reader.ofBytes (stream o g0 items) name) i k).map posFree
        = number i k (applyOnlyObj c ((items.map (·.1)).map norm)) :=
  (readsAs_stream o g0 items h0 hit).rows_of c name fuel hf i k

/-- The recoverable errors in the stream are as many as its garbage bytes (one
`unexpectedChar` per byte), at least one per malformed region. -/
theorem noisy_errors (o : JsonOpts) (g0 : Gap) (items : List (JV × Gap)) (h0 : g0.OK)
    (hit : ItemsOK o items) (name : Option Str) (fuel : Nat) (hf : (stream o g0 items).length + 2 ≤ fuel) :
    (perrsOf fuel (Reader.ofBytes (stream o g0 items) name)).length = garbageCount g0 items ∧
    noisyGaps g0 items ≤ garbageCount g0 items :=
  ⟨(readsAs_stream o g0 items h0 hit).perrs_len name fuel hf, noisyGaps_le o g0 items h0 hit⟩

/-- the errors the run reports (`errsOf`, which stops when the chain answers `Break`) are at most the garbage
bytes, and exactly as many when the chain does not answer `Break` -/
theorem noisy_errsOf (ev : Expr → Ctx → Option JV) (c : Cfg) (cfgs : List StageCfg) (sts : List StageSt)
    (o : JsonOpts) (g0 : Gap) (items : List (JV × Gap)) (h0 : g0.OK)
    (hit : ItemsOK o items) (name : Option Str) (fuel : Nat) (hf : (stream o g0 items).length + 2 ≤ fuel)
    (i k : Nat) :
    (errsOf ev c cfgs fuel (Reader.ofBytes (stream o g0 items) name) i k sts).length ≤ garbageCount g0 items ∧
    ((feedBrk (processP ev cfgs) sts (ctxsOf c fuel (Reader.ofBytes (stream o g0 items) name) i k)).2.2 = .cont →
      (errsOf ev c cfgs fuel (Reader.ofBytes (stream o g0 items) name) i k sts).length = garbageCount g0 items) :=
  (readsAs_stream o g0 items h0 hit).errs_len ev c cfgs sts name fuel hf i k

/-- A noisy stream and its clean twin (the same bytes with the garbage deleted):
both hand the pipeline the same values with the same ordinals — `norm` of the values of the stream, scalars
dropped under `--only-objects-and-arrays`; the rows differ in their locations only.  The noisy stream holds
exactly one recoverable error per garbage byte, hence at least one per malformed region; the clean one none. -/
theorem noise_transparent (ev : Expr → Ctx → Option JV) (c : Cfg) (cfgs : List StageCfg) (sts : List StageSt)
    (o : JsonOpts) (g0 : Gap) (items : List (JV × Gap)) (h0 : g0.OK) (hit : ItemsOK o items)
    (name : Option Str) (fuel fuel' : Nat)
    (hf : (stream o g0 items).length + 2 ≤ fuel)
    (hf' : (stream o g0.strip (stripItems items)).length + 2 ≤ fuel') (i k : Nat) :
    let noisy := Reader.ofBytes (stream o g0 items) name
    let clean := Reader.ofBytes (stream o g0.strip (stripItems items)) name
    (ctxsOf c fuel noisy i k).map (·.input) = applyOnlyObj c ((items.map (·.1)).map norm)
    ∧ (ctxsOf c fuel' clean i k).map (·.input) = applyOnlyObj c ((items.map (·.1)).map norm)
    ∧ (ctxsOf c fuel noisy i k).map posFree = (ctxsOf c fuel' clean i k).map posFree
    ∧ (perrsOf fuel noisy).length = garbageCount g0 items
    ∧ noisyGaps g0 items ≤ garbageCount g0 items
    ∧ (errsOf ev c cfgs fuel noisy i k sts).length ≤ garbageCount g0 items
    ∧ ((feedBrk (processP ev cfgs) sts (ctxsOf c fuel noisy i k)).2.2 = .cont →
        (errsOf ev c cfgs fuel noisy i k sts).length = garbageCount g0 items)
    ∧ perrsOf fuel' clean = []
    ∧ errsOf ev c cfgs fuel' clean i k sts = [] := by
  intro noisy clean
  obtain ⟨a1, a2, a3, a4, a5, a6, a7, a8⟩ := readsAs_transparent ev c cfgs sts (readsAs_stream o g0 items h0 hit)
    (readsAs_strip o g0 items h0 hit) name fuel fuel' hf hf' i k
  exact ⟨a1, a2, a3, a4, noisyGaps_le o g0 items h0 hit, a5, a6, a7, a8⟩

/-- `1 x 2\n` and `1  2\n` both yield the values `1`, `2`; the first holds exactly one error -/
example (c : Cfg) (hc : c.onlyObjectsAndArrays = false) :
    (ctxsOf c 8 (Reader.ofBytes [49, 32, 120, 32, 50, 10] none) 0 0).map (·.input)
        = [.num (.pos 1), .num (.pos 2)] ∧
    (ctxsOf c 7 (Reader.ofBytes [49, 32, 32, 50, 10] none) 0 0).map (·.input)
        = [.num (.pos 1), .num (.pos 2)] ∧
    (perrsOf 8 (Reader.ofBytes [49, 32, 120, 32, 50, 10] none)).length = 1 ∧
    perrsOf 7 (Reader.ofBytes [49, 32, 32, 50, 10] none) = [] := by
  have h := noise_transparent (fun _ _ => none) c [] [] {} {} exItems emptyGap_ok exItems_ok none 8 7
    (by decide) (by decide) 0 0
  have e1 : stream {} {} exItems = [49, 32, 120, 32, 50, 10] := by decide
  have e2 : stream {} ({} : Gap).strip (stripItems exItems) = [49, 32, 32, 50, 10] := by decide
  simp only [e1, e2, applyOnlyObj_off c hc] at h
  exact ⟨h.1, h.2.1, h.2.2.2.1, h.2.2.2.2.2.2.2.1⟩

/-! ### run level: the default configuration prints the same bytes for a noisy stream and its clean twin -/

/-- Without options, a noisy stream (on stdin or in a named file) and its clean
twin make `jawk` print exactly the same bytes: one one-line JSON row per value of the stream, in order. -/
theorem noise_default_same_output (orc : Oracles) (o : JsonOpts) (g0 : Gap) (items : List (JV × Gap))
    (h0 : g0.OK) (hit : ItemsOK o items) (name : Option Str) (wOut wErr : Writer) (hw : Unbounded wOut) :
    let noisy := streamSource name o g0 items
    let clean := streamSource name o g0.strip (stripItems items)
    (run orc {} [noisy] wOut wErr).result = .ok ()
    ∧ (run orc {} [clean] wOut wErr).result = .ok ()
    ∧ (run orc {} [noisy] wOut wErr).stdout
        = wOut.out ++ ((items.map (·.1)).map norm).flatMap (fun v => utf8 (printJson {} v) ++ [10])
    ∧ (run orc {} [clean] wOut wErr).stdout = (run orc {} [noisy] wOut wErr).stdout
    ∧ (run orc {} [noisy] wOut wErr).stderr = wErr.out
    ∧ (run orc {} [clean] wOut wErr).stderr = wErr.out := by
  intro noisy clean
  obtain ⟨n1, n2, n3⟩ := readsAs_default_output orc (readsAs_stream o g0 items h0 hit) name wOut wErr hw
  obtain ⟨c1, c2, c3⟩ := readsAs_default_output orc (readsAs_strip o g0 items h0 hit) name wOut wErr hw
  exact ⟨n1, c1, n2, c2.trans n2.symm, n3, c3⟩

/-- `1 x 2\n` on stdin: the default run prints `1\n2\n` -/
example (orc : Oracles) :
    (run orc {} [⟨none, cleanInput [49, 32, 120, 32, 50, 10]⟩] {} {}).stdout = [49, 10, 50, 10] := by
  have h := (noise_default_same_output orc {} {} exItems emptyGap_ok exItems_ok none {} {} ⟨rfl, rfl⟩).2.2.1
  have e1 : stream {} {} exItems = [49, 32, 120, 32, 50, 10] := by decide
  simp only [streamSource, e1] at h
  rw [h]
  decide

/-! ### `--on-error=panic` -/

/-- `panic` on a noisy stream.  The rows `pre` fed to the chain are those of the values that precede the
first gap holding garbage.  If the stream holds garbage (first garbage byte `b`) and the chain has not answered
`Break` on `pre`, the run fails with `unexpectedChar … b`; a streaming chain has by then written exactly the
header and `specRows pre`.  If the stream is clean (or the chain answered `Break` first) the run succeeds and
writes the header and `specRows pre`. -/
theorem run_panic_noisy (orc : Oracles) (c : Cfg) (name : Option Str) (o : JsonOpts) (g0 : Gap)
    (items : List (JV × Gap)) (h0 : g0.OK) (hit : ItemsOK o items) (wOut wErr : Writer) (p : Pipeline)
    (hpol : c.onError = .panic) (hb : build orc c = .ok p)
    (hna : NoAbort orc p.cfgs) (hw : Unbounded wOut) (hh : ¬ HeaderMissing p) :
    ∃ pre : List Ctx,
      pre.map (·.input) = applyOnlyObj c ((cleanPrefix g0 items).map norm) ∧
      (∀ b, firstGarbage g0 items = some b →
          (feedBrk (processP (evalT orc) p.cfgs) p.sts pre).2.2 = .cont →
        ∃ loc,
          (run orc c [streamSource name o g0 items] wOut wErr).result
            = .error (.json (.unexpectedChar loc b valueExpected))
          ∧ (run orc c [streamSource name o g0 items] wOut wErr).stdout
              = wOut.out ++ headerBytes p ++
                (feedBrk (processP (evalT orc) p.cfgs) p.sts pre).2.1.flatMap (sinkBytes p.sink p.sinkLen)
          ∧ (Streaming p.cfgs →
              (run orc c [streamSource name o g0 items] wOut wErr).stdout
                = wOut.out ++ headerBytes p ++
                  (specRows (evalT orc) p.cfgs p.sts pre).flatMap (sinkBytes p.sink p.sinkLen))
          ∧ (run orc c [streamSource name o g0 items] wOut wErr).stderr = wErr.out) ∧
      ((firstGarbage g0 items = none ∨ (feedBrk (processP (evalT orc) p.cfgs) p.sts pre).2.2 = .brk) →
        (run orc c [streamSource name o g0 items] wOut wErr).result = .ok ()
        ∧ (run orc c [streamSource name o g0 items] wOut wErr).stdout
            = wOut.out ++ headerBytes p ++
              (specRows (evalT orc) p.cfgs p.sts pre).flatMap (sinkBytes p.sink p.sinkLen)
        ∧ (run orc c [streamSource name o g0 items] wOut wErr).stderr = wErr.out) :=
  run_panic_stopsAt orc c name (stopsAt_stream o g0 items h0 hit) wOut wErr p hpol hb hna hw hh

/-- non-vacuity of `run_panic_noisy`: the default chain under `panic` on `1 x 2\n` -/
example (orc : Oracles) : ∃ loc,
    (run orc panicCfg [streamSource none {} {} exItems] {} {}).result
      = .error (.json (.unexpectedChar loc 120 valueExpected)) := by
  obtain ⟨pre, _, h2, _⟩ := run_panic_noisy orc panicCfg none {} {} exItems emptyGap_ok exItems_ok {} {}
    defaultPipeline rfl (build_panicCfg orc) (fun c hc => by cases hc) ⟨rfl, rfl⟩ (fun h => h)
  obtain ⟨loc, hl, _⟩ := h2 120 rfl (feedBrk_nil_chain _ _)
  exact ⟨loc, hl⟩

/-! ### clean streams produce no report, under any policy -/

/-- one stream with its name and print options -/
structure StreamSpec where
  name : Option Str := none
  o : JsonOpts := {}
  g0 : Gap := {}
  items : List (JV × Gap) := []

def StreamSpec.OK (s : StreamSpec) : Prop := s.g0.OK ∧ ItemsOK s.o s.items
/-- no garbage in any gap -/
def StreamSpec.Clean (s : StreamSpec) : Prop := garbageCount s.g0 s.items = 0
def StreamSpec.source (s : StreamSpec) : Source := streamSource s.name s.o s.g0 s.items

theorem StreamSpec.readsAs {s : StreamSpec} (h : s.OK) :
    ReadsAs (stream s.o s.g0 s.items) ((s.items.map (·.1)).map norm) (garbageCount s.g0 s.items) :=
  readsAs_stream s.o s.g0 s.items h.1 h.2

/-- Clean streams (values separated by white space only), on stdin or in files: under
every `--on-error` policy there is no error to report (`errsOfSources … = []`), the run succeeds, standard
output holds no report line (it is the header and the rows), standard error is untouched. -/
theorem clean_no_reports (orc : Oracles) (c : Cfg) (specs : List StreamSpec) (wOut wErr : Writer) (p : Pipeline)
    (hok : ∀ s ∈ specs, s.OK) (hclean : ∀ s ∈ specs, s.Clean)
    (hb : build orc c = .ok p) (hna : NoAbort orc p.cfgs) (hw : Unbounded wOut)
    (he : c.onError = .stderr → Unbounded wErr) (hh : ¬ HeaderMissing p) :
    errsOfSources (evalT orc) c p.cfgs (specs.map StreamSpec.source) 0 p.sts = []
    ∧ (run orc c (specs.map StreamSpec.source) wOut wErr).result = .ok ()
    ∧ (run orc c (specs.map StreamSpec.source) wOut wErr).stdout
        = wOut.out ++ headerBytes p ++
          (specRows (evalT orc) p.cfgs p.sts (ctxsOfSources c (specs.map StreamSpec.source) 0)).flatMap
            (sinkBytes p.sink p.sinkLen)
    ∧ (run orc c (specs.map StreamSpec.source) wOut wErr).stderr = wErr.out :=
  cleanSrc_no_reports orc c _ wOut wErr p (by
    intro src hsrc
    obtain ⟨s, hs, rfl⟩ := List.mem_map.mp hsrc
    have hr := StreamSpec.readsAs (hok s hs)
    rw [show garbageCount s.g0 s.items = 0 from hclean s hs] at hr
    exact ⟨s.name, _, _, rfl, hr⟩) hb hna hw he hh

/-- non-vacuity: the clean twin of `1 x 2\n` -/
example : (⟨none, {}, ({} : Gap).strip, stripItems exItems⟩ : StreamSpec).OK
    ∧ (⟨none, {}, ({} : Gap).strip, stripItems exItems⟩ : StreamSpec).Clean :=
  ⟨⟨Gap.strip_OK emptyGap_ok, stripItems_OK _ _ exItems_ok⟩, garbageCount_strip _ _⟩

/-! ### run level, any chain that does not read line/column: a noisy input and its clean twin -/

/-- the clean twin of a stream -/
def StreamSpec.strip (s : StreamSpec) : StreamSpec := { s with g0 := s.g0.strip, items := stripItems s.items }

theorem StreamSpec.strip_OK {s : StreamSpec} (h : s.OK) : s.strip.OK :=
  ⟨Gap.strip_OK h.1, stripItems_OK _ _ h.2⟩

theorem StreamSpec.strip_clean (s : StreamSpec) : s.strip.Clean := garbageCount_strip _ _

def StreamSpec.twin (s : StreamSpec) : Twin := ⟨s.name, stream s.o s.g0 s.items, stream s.o s.g0.strip (stripItems s.items)⟩

theorem twins_OK (specs : List StreamSpec) (hok : ∀ s ∈ specs, s.OK) : ∀ t ∈ specs.map StreamSpec.twin, t.OK := by
  intro t ht
  obtain ⟨s, hs, rfl⟩ := List.mem_map.mp ht
  exact ⟨_, _, StreamSpec.readsAs (hok s hs), readsAs_strip s.o s.g0 s.items (hok s hs).1 (hok s hs).2⟩

theorem twins_noisy (specs : List StreamSpec) :
    (specs.map StreamSpec.twin).map Twin.noisySrc = specs.map StreamSpec.source := by
  simp [List.map_map, Function.comp_def, StreamSpec.twin, Twin.noisySrc, StreamSpec.source, streamSource, bytesSource]

theorem twins_clean (specs : List StreamSpec) :
    (specs.map StreamSpec.twin).map Twin.cleanSrc = specs.map (fun s => s.strip.source) := by
  simp [List.map_map, Function.comp_def, StreamSpec.twin, Twin.cleanSrc, StreamSpec.source, StreamSpec.strip,
    streamSource, bytesSource]

/-- Under `ignore`, for a chain none of whose expressions reads line or column:
the run over noisy inputs and the run over their clean twins succeed and write the same bytes. -/
theorem noise_ignore_same_output (orc : Oracles) (c : Cfg) (specs : List StreamSpec) (wOut wErr : Writer)
    (p : Pipeline) (hok : ∀ s ∈ specs, s.OK) (hpol : c.onError = .ignore) (hb : build orc c = .ok p)
    (hna : NoAbort orc p.cfgs) (hpi : ChainPosIndep (evalT orc) p.cfgs) (hw : Unbounded wOut)
    (hh : ¬ HeaderMissing p) :
    (run orc c (specs.map StreamSpec.source) wOut wErr).result = .ok ()
    ∧ (run orc c (specs.map (fun s => s.strip.source)) wOut wErr).result = .ok ()
    ∧ (run orc c (specs.map StreamSpec.source) wOut wErr).stdout
        = (run orc c (specs.map (fun s => s.strip.source)) wOut wErr).stdout
    ∧ (run orc c (specs.map StreamSpec.source) wOut wErr).stderr = wErr.out
    ∧ (run orc c (specs.map (fun s => s.strip.source)) wOut wErr).stderr = wErr.out := by
  have h := twins_ignore_same_output orc c (specs.map StreamSpec.twin) wOut wErr p (twins_OK specs hok) hpol hb hna
    hpi hw hh
  rwa [twins_noisy, twins_clean] at h

/-- non-vacuity: `exampleCfg` under `ignore` prints the same bytes for noisy inputs and for their clean twins -/
example (orc : Oracles) (specs : List StreamSpec) (hok : ∀ s ∈ specs, s.OK) :
    (run orc exampleCfg (specs.map StreamSpec.source) {} {}).stdout
      = (run orc exampleCfg (specs.map (fun s => s.strip.source)) {} {}).stdout :=
  (noise_ignore_same_output orc exampleCfg specs {} {} examplePipeline hok rfl (build_example orc)
    (examplePipeline_noAbort orc) (examplePipeline_posIndep orc) ⟨rfl, rfl⟩ (fun h => h)).2.2.1

/-- Under `stderr` (same assumptions, standard error never failing): standard
output is byte for byte that of the clean run; the clean run leaves standard error untouched, the noisy run
appends one `error:` line per error met — nothing else goes there. -/
theorem noise_stderr_same_output (orc : Oracles) (c : Cfg) (specs : List StreamSpec) (wOut wErr : Writer)
    (p : Pipeline) (hok : ∀ s ∈ specs, s.OK) (hpol : c.onError = .stderr) (hb : build orc c = .ok p)
    (hna : NoAbort orc p.cfgs) (hpi : ChainPosIndep (evalT orc) p.cfgs) (hw : Unbounded wOut)
    (he : Unbounded wErr) (hh : ¬ HeaderMissing p) :
    (run orc c (specs.map StreamSpec.source) wOut wErr).result = .ok ()
    ∧ (run orc c (specs.map (fun s => s.strip.source)) wOut wErr).result = .ok ()
    ∧ (run orc c (specs.map StreamSpec.source) wOut wErr).stdout
        = (run orc c (specs.map (fun s => s.strip.source)) wOut wErr).stdout
    ∧ (run orc c (specs.map StreamSpec.source) wOut wErr).stderr
        = wErr.out ++ (errsOfSources (evalT orc) c p.cfgs (specs.map StreamSpec.source) 0 p.sts).flatMap reportBytes
    ∧ (run orc c (specs.map (fun s => s.strip.source)) wOut wErr).stderr = wErr.out := by
  have h := twins_stderr_same_output orc c (specs.map StreamSpec.twin) wOut wErr p (twins_OK specs hok) hpol hb hna
    hpi hw he hh
  rwa [twins_noisy, twins_clean] at h

/-- Under `stdout` (same assumptions): what the noisy run writes to standard output
is the header and a sequence of chunks; the report chunks are the `error:` lines of the errors met, in order,
and with them removed the output is byte for byte that of the clean run.  Standard error is untouched. -/
theorem noise_stdout_same_rows (orc : Oracles) (c : Cfg) (specs : List StreamSpec) (wOut wErr : Writer)
    (p : Pipeline) (hok : ∀ s ∈ specs, s.OK) (hpol : c.onError = .stdout) (hb : build orc c = .ok p)
    (hna : NoAbort orc p.cfgs) (hpi : ChainPosIndep (evalT orc) p.cfgs) (hw : Unbounded wOut)
    (hh : ¬ HeaderMissing p) :
    ∃ ch : Chunks,
      (run orc c (specs.map StreamSpec.source) wOut wErr).result = .ok ()
      ∧ (run orc c (specs.map (fun s => s.strip.source)) wOut wErr).result = .ok ()
      ∧ (run orc c (specs.map StreamSpec.source) wOut wErr).stdout = wOut.out ++ headerBytes p ++ ch.bytes
      ∧ (run orc c (specs.map (fun s => s.strip.source)) wOut wErr).stdout
          = wOut.out ++ headerBytes p ++ ch.rowPart
      ∧ ch.reports
          = (errsOfSources (evalT orc) c p.cfgs (specs.map StreamSpec.source) 0 p.sts).map reportBytes
      ∧ (run orc c (specs.map StreamSpec.source) wOut wErr).stderr = wErr.out
      ∧ (run orc c (specs.map (fun s => s.strip.source)) wOut wErr).stderr = wErr.out := by
  have h := twins_stdout_same_rows orc c (specs.map StreamSpec.twin) wOut wErr p (twins_OK specs hok) hpol hb hna
    hpi hw hh
  rwa [twins_noisy, twins_clean] at h

/-- the errors reported for a single noisy stream: at most one per garbage byte, exactly one per garbage byte
(hence at least one per malformed region) when the chain does not answer `Break` -/
theorem errsOfSources_stream (ev : Expr → Ctx → Option JV) (c : Cfg) (cfgs : List StageCfg) (sts : List StageSt)
    (s : StreamSpec) (hs : s.OK) (k : Nat) :
    (errsOfSources ev c cfgs [s.source] k sts).length ≤ garbageCount s.g0 s.items ∧
    ((feedBrk (processP ev cfgs) sts (ctxsOfSources c [s.source] k)).2.2 = .cont →
      (errsOfSources ev c cfgs [s.source] k sts).length = garbageCount s.g0 s.items ∧
      noisyGaps s.g0 s.items ≤ (errsOfSources ev c cfgs [s.source] k sts).length) := by
  have e1 : errsOfSources ev c cfgs [s.source] k sts
      = errsOf ev c cfgs ((stream s.o s.g0 s.items).length + 2)
          (Reader.ofBytes (stream s.o s.g0 s.items) s.name) 0 k sts := by
    simp only [errsOfSources, show s.source = bytesSource s.name (stream s.o s.g0 s.items) from rfl,
      bytesSource_reader, bytesSource_fuel]
    split <;> simp
  obtain ⟨h1, h2⟩ := (StreamSpec.readsAs hs).errs_len ev c cfgs sts s.name _ (Nat.le_refl _) 0 k
  rw [e1, show s.source = bytesSource s.name (stream s.o s.g0 s.items) from rfl, ctxsOfSources_bytes]
  refine ⟨h1, fun hc => ?_⟩
  have := h2 hc
  exact ⟨this, by rw [this]; exact noisyGaps_le s.o s.g0 s.items hs.1 hs.2⟩

end Jawk.Noise
