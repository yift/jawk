/-
  C05: the JSON reader always terminates with a result and makes progress.
  Monotonicity of every reader action, fuel sufficiency, progress, the read loop.
-/
import Jawk.Lemmas.ParserInd
import Jawk.Lemmas.ReadLoop
import Jawk.Model.Run
namespace Jawk.Fuel
open Jawk Reader

/-! ### Measures and the reader invariant -/

/-- Reader invariant: once end of input was seen there is no look-ahead byte.
`Reader.next` clears `cur` when it sets `eof`, so every reader built by `ofItems`/`ofBytes`/`ofString`
and every reader reached from one satisfies it. -/
def WF (r : Reader) : Prop := r.eof = true → r.cur = none

/-- number of `next` calls that can still do something: unread items, plus one for detecting the end -/
def μ (r : Reader) : Nat := r.rest.length + (if r.eof then 0 else 1)

/-- the same, counting the look-ahead byte as unread -/
def M (r : Reader) : Nat := r.pending.length + (if r.eof then 0 else 1)

theorem wf_ofItems (items : List RItem) (name : Option Str) : WF (Reader.ofItems items name) := by
  intro h; cases h

theorem wf_ofBytes (bs : List Byte) (name : Option Str) : WF (Reader.ofBytes bs name) := wf_ofItems _ _

theorem wf_ofString (s : Str) : WF (Reader.ofString s) := wf_ofItems _ _

theorem pending_length (r : Reader) :
    r.pending.length = r.rest.length + (if r.cur.isSome then 1 else 0) := by
  cases r with
  | mk rest cur eof loc pulled => cases cur <;> simp [Reader.pending] <;> omega

theorem μ_le_M (r : Reader) : μ r ≤ M r := by
  simp only [μ, M, pending_length]; omega

theorem M_le_μ (r : Reader) : M r ≤ μ r + 1 := by
  simp only [μ, M, pending_length]; split <;> omega

theorem M_of_cur {r : Reader} {b : Byte} (h : r.cur = some b) : M r = μ r + 1 := by
  simp only [μ, M, pending_length, h]; simp; omega

theorem μ_le_rest (r : Reader) : μ r ≤ r.rest.length + 1 := by
  simp only [μ]; split <;> omega

/-- `r'` is reachable from `r`: nothing is un-read, `eof` is sticky, the invariant is kept. -/
structure Mono (r r' : Reader) : Prop where
  suffix : r'.rest <:+ r.rest
  eof : r.eof = true → r'.eof = true
  wf : WF r → WF r'
  pend : M r' ≤ M r

theorem Mono.refl (r : Reader) : Mono r r := ⟨List.suffix_refl _, id, id, Nat.le_refl _⟩

theorem Mono.trans {a b c : Reader} (h1 : Mono a b) (h2 : Mono b c) : Mono a c :=
  ⟨h2.suffix.trans h1.suffix, fun h => h2.eof (h1.eof h), fun h => h2.wf (h1.wf h),
   Nat.le_trans h2.pend h1.pend⟩

theorem Mono.length_le {r r' : Reader} (h : Mono r r') : r'.rest.length ≤ r.rest.length :=
  h.suffix.length_le

theorem Mono.μ_le {r r' : Reader} (h : Mono r r') : μ r' ≤ μ r := by
  have h1 := h.length_le
  have h2 := h.eof
  simp only [μ]
  cases he : r.eof <;> cases he' : r'.eof <;> simp_all <;> omega

/-- an action is monotone when its resulting reader (in the `.ok` and in the `.error` outcome alike)
is reachable from the initial one -/
structure PMono {α} (m : PM α) : Prop where
  mono : ∀ r, Mono r (m r).2

theorem PMono.of_eq {α} {m : PM α} (h : PMono m) {r r' : Reader} {res : Except PErr α}
    (e : m r = (res, r')) : Mono r r' := by
  have := h.mono r; rw [e] at this; exact this

theorem next_mono (r : Reader) : Mono r (Reader.next r).2 := by
  rcases r.next_cases with ⟨_, e⟩ | ⟨he, hr, e⟩ | ⟨rest, he, hr, e⟩ | ⟨b, rest, he, hr, e⟩ <;> rw [e]
  · exact Mono.refl _
  · exact ⟨List.suffix_refl _, fun _ => rfl, fun _ _ => rfl, by simp [M, pending_length, he]; omega⟩
  all_goals
    exact ⟨hr ▸ List.suffix_cons _ _, fun h => Bool.noConfusion (he.symm.trans h), fun _ h => Bool.noConfusion (he.symm.trans h),
      by simp [M, pending_length, he, hr]⟩

/-- `next` is monotone and `Mono` is reflexive and transitive: so the whole parser is monotone -/
theorem pmono_closed : PM.Closed PMono :=
  .of_rel Mono (fun _ => ⟨PMono.mono, PMono.mk⟩) Mono.refl Mono.trans next_mono

/-- all five mutually recursive value readers at one fuel level -/
structure ValueMono (fuel : Nat) : Prop where
  value : PMono (nextValue fuel)
  array : PMono (readArray fuel)
  arrayLoop : ∀ acc, PMono (readArrayLoop fuel acc)
  object : PMono (readObject fuel)
  objectLoop : ∀ acc, PMono (readObjectLoop fuel acc)

theorem valueMono (fuel : Nat) : ValueMono fuel :=
  ⟨pmono_closed.nextValue _, pmono_closed.readArray _, pmono_closed.readArrayLoop _,
    pmono_closed.readObject _, pmono_closed.readObjectLoop _⟩

theorem nextValue_pmono (fuel : Nat) : PMono (nextValue fuel) := pmono_closed.nextValue fuel

/-- monotonicity of a piece of a parser function: the structure of the term decides, the leaves are parser
functions or primitive actions -/
macro "pmono_all" : tactic => `(tactic| repeat' first
  | with_reducible apply pmono_closed.bind
  | intro _
  | with_reducible exact pmono_closed.pure _
  | with_reducible exact pmono_closed.next
  | with_reducible exact pmono_closed.peek
  | ((with_reducible refine pmono_closed.locErr _ ?_) <;> (intro _ h; cases h))
  | with_reducible exact pmono_closed.readDigits _ _
  | with_reducible exact pmono_closed.parseToDouble _
  | with_reducible exact pmono_closed.readHex4 _ _
  | with_reducible exact pmono_closed.readStringLoop _ _
  | with_reducible exact pmono_closed.eatWhitespace _
  | with_reducible exact pmono_closed.readWordTail _ _
  | with_reducible exact pmono_closed.readNumber _
  | with_reducible exact pmono_closed.nextValue _
  | with_reducible exact pmono_closed.readArray _
  | with_reducible exact pmono_closed.readArrayLoop _ _
  | with_reducible exact pmono_closed.readObject _
  | with_reducible exact pmono_closed.readObjectLoop _ _
  | with_reducible apply PM.ite
  | split)

/-- Whatever `nextJson` returns, nothing was un-read. -/
theorem nextJson_mono (r : Reader) : Mono r (Reader.nextJson r).2 := (nextValue_pmono _).mono r

theorem nextJson_rest_suffix (r : Reader) : (Reader.nextJson r).2.rest <:+ r.rest := (nextJson_mono r).suffix

theorem nextJson_rest_le (r : Reader) : (Reader.nextJson r).2.rest.length ≤ r.rest.length :=
  (nextJson_mono r).length_le

/-- the invariant is kept by `nextJson` -/
theorem nextJson_wf (r : Reader) (hw : WF r) : WF (Reader.nextJson r).2 := (nextJson_mono r).wf hw

/-! ### What `next` and `peek` do -/

theorem next_lt {r : Reader} (he : r.eof = false) : μ (Reader.next r).2 < μ r := by
  rcases r.next_cases with ⟨h, _⟩ | ⟨_, hr, e⟩ | ⟨rest, _, hr, e⟩ | ⟨b, rest, _, hr, e⟩
  · rw [he] at h; cases h
  all_goals rw [e]; simp [μ, he, hr]

theorem next_lt_of_eq {r r' : Reader} {res} (he : r.eof = false) (h : Reader.next r = (res, r')) :
    μ r' < μ r := by
  have := next_lt he; rw [h] at this; exact this

theorem next_some {r r' : Reader} {b : Byte} (h : Reader.next r = (.ok (some b), r')) :
    r.eof = false ∧ r'.cur = some b ∧ r'.eof = false := by
  rcases r.next_cases with ⟨_, e⟩ | ⟨_, _, e⟩ | ⟨rest, _, _, e⟩ | ⟨c, rest, he, _, e⟩ <;> rw [e] at h <;> cases h
  exact ⟨he, rfl, he⟩

/-- an error of `next` is the I/O error of a fault, and pulling the fault consumed it -/
theorem next_error {r r' : Reader} {e : PErr} (h : Reader.next r = (.error e, r')) :
    e = .io ∧ r.eof = false ∧ M r' < M r ∧ μ r' < μ r := by
  rcases r.next_cases with ⟨_, e⟩ | ⟨_, _, e⟩ | ⟨rest, he, hr, e⟩ | ⟨c, rest, _, _, e⟩ <;> rw [e] at h <;> cases h
  exact ⟨rfl, he, by simp [M, μ, pending_length, he, hr]⟩

theorem wf_eof_false {r : Reader} {b : Byte} (hw : WF r) (hc : r.cur = some b) : r.eof = false := by
  cases he : r.eof with
  | false => rfl
  | true => have := hw he; rw [hc] at this; cases this

theorem peek_some {r r' : Reader} {b : Byte} (hw : WF r) (h : Reader.peek r = (.ok (some b), r')) :
    r'.cur = some b ∧ r'.eof = false := by
  unfold Reader.peek at h
  split at h
  · next c hc =>
    simp only [Prod.mk.injEq, Except.ok.injEq, Option.some.injEq] at h
    obtain ⟨h1, h2⟩ := h
    subst h1 h2
    exact ⟨hc, wf_eof_false hw hc⟩
  · exact (next_some h).2

theorem peek_error {r r' : Reader} {e : PErr} (h : Reader.peek r = (.error e, r')) :
    e = .io ∧ M r' < M r ∧ μ r' < μ r := by
  unfold Reader.peek at h
  split at h
  · cases h
  · exact ⟨(next_error h).1, (next_error h).2.2⟩

/-! ### Fuel sufficiency -/

/-- the action does not run out of fuel on this reader -/
def Safe {α} (m : PM α) (r : Reader) : Prop := (m r).1 ≠ .error .outOfFuel

theorem safe_next (r : Reader) : Safe Reader.next r := by
  intro h
  cases hn : Reader.next r with
  | mk res r' =>
    rw [hn] at h; simp only at h; subst h
    have := (next_error hn).1; cases this

theorem safe_peek (r : Reader) : Safe Reader.peek r := by
  intro h
  cases hn : Reader.peek r with
  | mk res r' =>
    rw [hn] at h; simp only at h; subst h
    have := (peek_error hn).1; cases this

theorem safe_bind {α β} {m : PM α} {f : α → PM β} {r : Reader} (hm : Safe m r)
    (hf : ∀ a r1, m r = (.ok a, r1) → Safe (f a) r1) : Safe (m >>= f) r := by
  unfold Safe at *
  simp only [PM.bind_apply]
  cases h : m r with
  | mk res r1 =>
    rw [h] at hm
    cases res with
    | error e =>
      dsimp only at hm ⊢
      intro h'
      cases h'
      exact hm rfl
    | ok a => dsimp only; exact hf a r1 h

/-- the action does not run out of fuel on any reader satisfying `I` -/
structure SafeOn {α} (I : Reader → Prop) (m : PM α) : Prop where
  safe : ∀ r, I r → Safe m r

/-- the invariant threaded through the fuel proofs: the reader is well formed and `fuel F` covers
`c` units per remaining `next` plus `k` spare units -/
def J (c F k : Nat) (r : Reader) : Prop := WF r ∧ c * μ r + k ≤ F

/-- `J`, and a look-ahead byte is present (so the next `next` is not at end of input) -/
def JL (c F k : Nat) (r : Reader) : Prop := J c F k r ∧ ∃ b, r.cur = some b

theorem J.mono {c F k : Nat} {r r' : Reader} (h : J c F k r) (m : Mono r r') : J c F k r' := by
  refine ⟨m.wf h.1, ?_⟩
  have h1 := Nat.mul_le_mul_left c m.μ_le
  have h2 := h.2
  omega

theorem J.weaken {c F k c' F' k' : Nat} {r : Reader} (h : J c F k r) (hc : c' ≤ c)
    (hk : k' + F ≤ k + F') : J c' F' k' r := by
  refine ⟨h.1, ?_⟩
  have h1 := Nat.mul_le_mul_right (μ r) hc
  have h2 := h.2
  omega

theorem J.step {c F k : Nat} {r r' : Reader} (h : J c F k r) (m : Mono r r') (hlt : μ r' < μ r) :
    J c F (k + c) r' := by
  refine ⟨m.wf h.1, ?_⟩
  have h1 : c * (μ r' + 1) ≤ c * μ r := Nat.mul_le_mul_left c hlt
  have h2 := h.2
  rw [Nat.mul_add] at h1
  omega

theorem SafeOn.weaken {α} {m : PM α} {c F k c' F' k' : Nat} (h : SafeOn (J c' F' k') m)
    (hc : c' ≤ c := by omega) (hk : k' + F ≤ k + F' := by omega) : SafeOn (J c F k) m :=
  ⟨fun r hr => h.safe r (hr.weaken hc hk)⟩

theorem SafeOn.weakenL {α} {m : PM α} {c F k c' F' k' : Nat} (h : SafeOn (JL c' F' k') m)
    (hc : c' ≤ c := by omega) (hk : k' + F ≤ k + F' := by omega) : SafeOn (JL c F k) m :=
  ⟨fun r hr => h.safe r ⟨hr.1.weaken hc hk, hr.2⟩⟩

theorem SafeOn.weakenJL {α} {m : PM α} {c F k c' F' k' : Nat} (h : SafeOn (J c' F' k') m)
    (hc : c' ≤ c := by omega) (hk : k' + F ≤ k + F' := by omega) : SafeOn (JL c F k) m :=
  ⟨fun r hr => h.safe r (hr.1.weaken hc hk)⟩

theorem dropL {α} {m : PM α} {c F k : Nat} (h : SafeOn (J c F k) m) : SafeOn (JL c F k) m :=
  ⟨fun r hr => h.safe r hr.1⟩

theorem safeOn_pure {α} {I : Reader → Prop} (a : α) : SafeOn I (pure a : PM α) :=
  ⟨fun _ _ => nofun⟩

theorem safeOn_locErr {α} {I : Reader → Prop} {mk : Loc → PErr}
    (hmk : ∀ l, mk l ≠ .outOfFuel := by exact fun _ => nofun) :
    SafeOn I (locErr mk : PM α) :=
  ⟨fun r _ h => hmk r.loc (Except.error.inj h)⟩

theorem safeOn_J_zero {α} {m : PM α} {c k : Nat} : SafeOn (J c 0 (k + 1)) m :=
  ⟨fun r hr => by have := hr.2; omega⟩

theorem safeOn_JL_zero {α} {m : PM α} {c k : Nat} : SafeOn (JL c 0 (k + 1)) m := dropL safeOn_J_zero

/-- with a positive cost per `next` even `k = 0` cannot be met at fuel `0`: a look-ahead byte means `μ ≥ 1` -/
theorem safeOn_JL_zero_of_pos {α} {m : PM α} {c k : Nat} : SafeOn (JL (c + 1) 0 k) m :=
  ⟨fun r hr => by
    obtain ⟨⟨hw, hb⟩, b, hc⟩ := hr
    have he := wf_eof_false hw hc
    have : 1 ≤ μ r := by simp [μ, he]
    have := Nat.mul_le_mul_left (c + 1) this
    omega⟩

theorem bindJ {α β} {m : PM α} {f : α → PM β} {c F k : Nat} (hm : SafeOn (J c F k) m)
    (hmono : PMono m) (hf : ∀ a, SafeOn (J c F k) (f a)) : SafeOn (J c F k) (m >>= f) :=
  ⟨fun r hr => safe_bind (hm.safe r hr) fun a r1 h1 => (hf a).safe r1 (hr.mono (hmono.of_eq h1))⟩

theorem bindJL {α β} {m : PM α} {f : α → PM β} {c F k : Nat} (hm : SafeOn (JL c F k) m)
    (hmono : PMono m) (hf : ∀ a, SafeOn (J c F k) (f a)) : SafeOn (JL c F k) (m >>= f) :=
  ⟨fun r hr => safe_bind (hm.safe r hr) fun a r1 h1 => (hf a).safe r1 (hr.1.mono (hmono.of_eq h1))⟩

theorem peekJ {β} {f : Option Byte → PM β} {c F k : Nat} (hn : SafeOn (J c F k) (f none))
    (hs : ∀ b, SafeOn (JL c F k) (f (some b))) : SafeOn (J c F k) (Reader.peek >>= f) :=
  ⟨fun r hr => safe_bind (safe_peek r) fun a r1 h1 => by
    have m1 := hr.mono (pmono_closed.peek.of_eq h1)
    cases a with
    | none => exact hn.safe r1 m1
    | some b => exact (hs b).safe r1 ⟨m1, b, (peek_some hr.1 h1).1⟩⟩

theorem nextJ {β} {f : Option Byte → PM β} {c F k : Nat} (hn : SafeOn (J c F k) (f none))
    (hs : ∀ b, SafeOn (JL c F (k + c)) (f (some b))) : SafeOn (J c F k) (Reader.next >>= f) :=
  ⟨fun r hr => safe_bind (safe_next r) fun a r1 h1 => by
    have m1 := pmono_closed.next.of_eq h1
    cases a with
    | none => exact hn.safe r1 (hr.mono m1)
    | some b =>
      have hs1 := next_some h1
      exact (hs b).safe r1 ⟨hr.step m1 (next_lt_of_eq hs1.1 h1), b, hs1.2.1⟩⟩

theorem nextJL {β} {f : Option Byte → PM β} {c F k : Nat} (hn : SafeOn (J c F (k + c)) (f none))
    (hs : ∀ b, SafeOn (JL c F (k + c)) (f (some b))) : SafeOn (JL c F k) (Reader.next >>= f) :=
  ⟨fun r hr => safe_bind (safe_next r) fun a r1 h1 => by
    have m1 := pmono_closed.next.of_eq h1
    obtain ⟨hj, b0, hb0⟩ := hr
    have hlt := next_lt_of_eq (wf_eof_false hj.1 hb0) h1
    cases a with
    | none => exact hn.safe r1 (hj.step m1 hlt)
    | some b => exact (hs b).safe r1 ⟨hj.step m1 hlt, b, (next_some h1).2.1⟩⟩

/-! `peek` and `next` followed by a continuation that needs no look-ahead byte. -/

theorem peekJ_all {β} {f : Option Byte → PM β} {c F k : Nat} (h : ∀ x, SafeOn (J c F k) (f x)) :
    SafeOn (J c F k) (Reader.peek >>= f) :=
  peekJ (h none) fun _ => dropL (h _)

theorem nextJ_all {β} {f : Option Byte → PM β} {c F k : Nat} (h : ∀ x, SafeOn (J c F k) (f x)) :
    SafeOn (J c F k) (Reader.next >>= f) :=
  nextJ (h none) fun _ => (h _).weakenJL

theorem nextJL_all {β} {f : Option Byte → PM β} {c F k : Nat} (h : ∀ x, SafeOn (J c F (k + c)) (f x)) :
    SafeOn (JL c F k) (Reader.next >>= f) :=
  nextJL (h none) fun _ => dropL (h _)

/-! Each walk below follows the text of its function, as in `ParserInd.lean`; the index of `J` / `JL` is the
budget at that point, and a recursive call or a call of another reader is weakened to it. -/

theorem eatWhitespace_safeOn : ∀ F, SafeOn (J 1 F 1) (eatWhitespace F)
  | 0 => safeOn_J_zero
  | F + 1 => by
    have ih := eatWhitespace_safeOn F
    rw [eatWhitespace]
    exact peekJ (safeOn_pure _) fun _ =>
      PM.ite (nextJL_all fun _ => ih.weaken) (safeOn_pure _)

theorem readDigits_safeOn : ∀ F acc, SafeOn (J 1 F 1) (readDigits F acc)
  | 0, _ => safeOn_J_zero
  | F + 1, acc => by
    have ih := readDigits_safeOn F
    rw [readDigits]
    exact peekJ (safeOn_pure _) fun _ =>
      PM.ite (nextJL_all fun _ => (ih _).weaken) (safeOn_pure _)

theorem readWordTail_safeOn (word : String) (c F : Nat) : ∀ es k, SafeOn (J c F k) (readWordTail word es)
  | [], _ => nextJ_all fun _ => safeOn_pure _
  | e :: es, k => by
    rw [readWordTail]
    exact nextJ safeOn_locErr fun _ =>
      PM.ite safeOn_locErr (dropL (readWordTail_safeOn word c F es _))

theorem readHex4_safeOn (c F : Nat) : ∀ n acc k, SafeOn (J c F k) (readHex4 n acc)
  | 0, _, _ => safeOn_pure _
  | n + 1, acc, k => by
    rw [readHex4]
    refine nextJ safeOn_locErr fun ch => ?_
    dsimp only
    split
    · exact dropL (readHex4_safeOn c F n _ _)
    · exact safeOn_locErr

theorem readStringLoop_safeOn : ∀ F acc, SafeOn (J 1 F 1) (readStringLoop F acc)
  | 0, _ => safeOn_J_zero
  | F + 1, acc => by
    have ih := readStringLoop_safeOn F
    rw [readStringLoop]
    refine nextJ safeOn_locErr fun ch =>
      PM.ite (nextJL_all fun _ => ?quote) (PM.ite (nextJL safeOn_locErr fun e => ?escape)
        (ih _).weakenJL)
    case quote =>
      split
      · exact safeOn_pure _
      · exact safeOn_locErr
    case escape =>
      dsimp only
      split
      · exact (ih _).weakenJL
      · refine PM.ite (bindJL (dropL (readHex4_safeOn _ _ _ _ _)) (pmono_closed.readHex4 _ _) fun code => ?_)
          safeOn_locErr
        split
        · exact (ih _).weaken
        · exact safeOn_locErr

theorem parseToDouble_safeOn (t : List Byte) (c F k : Nat) : SafeOn (J c F k) (parseToDouble t) := by
  unfold parseToDouble
  split
  · exact safeOn_locErr
  · exact PM.ite (safeOn_pure _) safeOn_locErr

theorem readNumber_safeOn (F : Nat) : SafeOn (J 1 F 1) (readNumber F) := by
  have digits := readDigits_safeOn F
  have dmono := pmono_closed.readDigits F
  unfold readNumber
  refine bindJ (peekJ_all fun _ => PM.ite (nextJ_all fun
      | none => safeOn_locErr
      | some _ => safeOn_pure _) (safeOn_pure _)) (by pmono_all) fun negative =>
    bindJ (digits _) (dmono _) fun intDigits =>
    bindJ (peekJ_all fun _ => PM.ite (nextJ_all fun _ => bindJ (digits _) (dmono _) fun _ => safeOn_pure _)
      (safeOn_pure _)) (by pmono_all) fun
    | (chars, double) =>
      bindJ (peekJ_all fun _ => PM.ite (nextJ_all fun _ => bindJ (peekJ_all fun _ => ?sign) (by pmono_all) fun _ =>
        bindJ (digits _) (dmono _) fun _ => safeOn_pure _) (safeOn_pure _)) (by pmono_all) fun
      | (chars, double) => PM.ite (parseToDouble_safeOn _ _ _ _) (PM.ite ?neg ?pos)
  case sign =>
    split
    · exact nextJ_all fun _ => safeOn_pure _
    · exact nextJ_all fun _ => safeOn_pure _
    · exact safeOn_pure _
  case neg =>
    split
    · exact safeOn_pure _
    · exact parseToDouble_safeOn _ _ _ _
    · exact safeOn_locErr
  case pos =>
    split
    · exact safeOn_pure _
    · exact parseToDouble_safeOn _ _ _ _

/-- fuel sufficiency of the five mutually recursive value readers at one fuel level: three units
per remaining `next`, because one nesting level costs three units and at least one item -/
structure ValueSafe (F : Nat) : Prop where
  value : SafeOn (J 3 F 1) (nextValue F)
  array : SafeOn (JL 3 F 0) (readArray F)
  arrayLoop : ∀ acc, SafeOn (J 3 F 2) (readArrayLoop F acc)
  object : SafeOn (JL 3 F 0) (readObject F)
  objectLoop : ∀ acc, SafeOn (J 3 F 2) (readObjectLoop F acc)

theorem valueSafe : ∀ F, ValueSafe F
  | 0 => ⟨safeOn_J_zero, safeOn_JL_zero_of_pos, fun _ => safeOn_J_zero, safeOn_JL_zero_of_pos, fun _ => safeOn_J_zero⟩
  | F + 1 => by
    have ih := valueSafe F
    have pm := pmono_closed
    -- `ws k` is `eatWhitespace` under budget `k + 1`
    have ws : ∀ k, SafeOn (J 3 (F + 1) (k + 1)) (eatWhitespace (F + 1)) := fun k => (eatWhitespace_safeOn _).weaken
    have wsm := pm.eatWhitespace (F + 1)
    refine ⟨?_, ?_, fun acc => ?_, ?_, fun acc => ?_⟩
    · rw [nextValue]
      exact bindJ (ws 0) wsm fun _ => peekJ (safeOn_pure _) fun c =>
        PM.ite (bindJL (dropL (readWordTail_safeOn _ _ _ _ _)) (pm.readWordTail _ _) fun _ => safeOn_pure _) <|
        PM.ite (bindJL (dropL (readWordTail_safeOn _ _ _ _ _)) (pm.readWordTail _ _) fun _ => safeOn_pure _) <|
        PM.ite (bindJL (dropL (readWordTail_safeOn _ _ _ _ _)) (pm.readWordTail _ _) fun _ => safeOn_pure _) <|
        PM.ite (bindJL (readStringLoop_safeOn _ _).weakenJL (pm.readStringLoop _ _) fun _ => safeOn_pure _) <|
        PM.ite (bindJL (readNumber_safeOn _).weakenJL (pm.readNumber _) fun _ => safeOn_pure _) <|
        PM.ite (bindJL ih.array.weakenL (pm.readArray _) fun _ => safeOn_pure _) <|
        PM.ite (bindJL ih.object.weakenL (pm.readObject _) fun _ => safeOn_pure _) <|
        nextJL_all fun _ => safeOn_locErr
    · rw [readArray]
      exact nextJL_all fun _ => bindJ (ws 2) wsm fun _ => peekJ_all fun _ =>
        PM.ite (nextJ_all fun _ => safeOn_pure _) (ih.arrayLoop _).weaken
    · rw [readArrayLoop]
      exact bindJ ih.value.weaken (pm.nextValue _) fun
        | none => safeOn_locErr
        | some v => bindJ (ws 1) wsm fun _ => peekJ safeOn_locErr fun ch =>
          PM.ite (nextJL_all fun _ => safeOn_pure _) <|
          PM.ite (nextJL_all fun _ => (ih.arrayLoop _).weaken) <|
          safeOn_locErr
    · rw [readObject]
      exact nextJL_all fun _ => bindJ (ws 2) wsm fun _ => peekJ_all fun _ =>
        PM.ite (nextJ_all fun _ => safeOn_pure _) (ih.objectLoop _).weaken
    · rw [readObjectLoop]
      refine bindJ ih.value.weaken (pm.nextValue _) fun key => ?_
      split
      · exact safeOn_locErr
      · exact bindJ (ws 1) wsm fun _ => peekJ safeOn_locErr fun ch =>
          PM.ite safeOn_locErr <| nextJL_all fun _ =>
          bindJ ih.value.weaken (pm.nextValue _) fun
          | none => safeOn_locErr
          | some v => bindJ (ws 4) wsm fun _ => peekJ safeOn_locErr fun ch =>
            PM.ite (nextJL_all fun _ => safeOn_pure _) <|
            PM.ite (nextJL_all fun _ => (ih.objectLoop _).weaken) <|
            safeOn_locErr
      · exact safeOn_locErr

/-- `nextValue` has enough fuel when it has three units per remaining `next`
plus one. -/
theorem nextValue_fuel (F : Nat) (r : Reader) (hw : WF r) (hf : 3 * μ r + 1 ≤ F) :
    (nextValue F r).1 ≠ .error .outOfFuel :=
  (valueSafe F).value.safe r ⟨hw, hf⟩

/-- The fuel that `Reader.nextJson` gives to `nextValue` always suffices.
The hypothesis `WF r` cannot be dropped: see `nextJson_fuel_needs_wf`. -/
theorem nextJson_fuel (r : Reader) (hw : WF r) : (Reader.nextJson r).1 ≠ .error .outOfFuel := by
  refine nextValue_fuel _ r hw ?_
  have := μ_le_rest r
  omega

theorem J_of_rest {fuel : Nat} {r : Reader} (hw : WF r) (hf : r.rest.length + 2 ≤ fuel) : J 1 fuel 1 r :=
  ⟨hw, by have := μ_le_rest r; omega⟩

/-- The leaf loops have enough fuel with two units more than there are unread items. -/
theorem eatWhitespace_fuel (fuel : Nat) (r : Reader) (hw : WF r) (hf : r.rest.length + 2 ≤ fuel) :
    (eatWhitespace fuel r).1 ≠ .error .outOfFuel :=
  (eatWhitespace_safeOn fuel).safe r (J_of_rest hw hf)

theorem readDigits_fuel (fuel : Nat) (acc : List Byte) (r : Reader) (hw : WF r)
    (hf : r.rest.length + 2 ≤ fuel) : (readDigits fuel acc r).1 ≠ .error .outOfFuel :=
  (readDigits_safeOn fuel acc).safe r (J_of_rest hw hf)

/-- `readStringLoop` starts with `next`, so it needs no invariant -/
theorem readStringLoop_fuel (fuel : Nat) (acc : List Byte) (r : Reader)
    (hf : r.rest.length + 2 ≤ fuel) : (readStringLoop fuel acc r).1 ≠ .error .outOfFuel := by
  by_cases hw : WF r
  · exact (readStringLoop_safeOn fuel acc).safe r (J_of_rest hw hf)
  · have he : r.eof = true := by
      cases h : r.eof with
      | true => rfl
      | false => exact absurd (fun h' => by rw [h] at h'; cases h') hw
    obtain ⟨F, rfl⟩ : ∃ F, fuel = F + 1 := ⟨fuel - 1, by omega⟩
    simp [readStringLoop, Reader.next, he]

theorem readNumber_fuel (fuel : Nat) (r : Reader) (hw : WF r) (hf : r.rest.length + 2 ≤ fuel) :
    (readNumber fuel r).1 ≠ .error .outOfFuel :=
  (readNumber_safeOn fuel).safe r (J_of_rest hw hf)

/-! ### The invariant `WF` is necessary

A reader with `eof = true` and a look-ahead byte cannot be produced by `next`; on such a reader `next`
returns `none` without clearing the look-ahead byte, and the loops spin until the fuel is gone. -/

theorem eatWhitespace_needs_wf (fuel : Nat) :
    (eatWhitespace fuel { rest := [], cur := some 32, eof := true }).1 = .error .outOfFuel := by
  induction fuel with
  | zero => rfl
  | succ fuel ih => simpa [eatWhitespace, Reader.peek, Reader.next, isWs] using ih

theorem readDigits_needs_wf (fuel : Nat) (acc : List Byte) :
    (readDigits fuel acc { rest := [], cur := some 49, eof := true }).1 = .error .outOfFuel := by
  induction fuel generalizing acc with
  | zero => rfl
  | succ fuel ih => simpa [readDigits, Reader.peek, Reader.next, isDigit] using ih _

theorem nextJson_fuel_needs_wf :
    (Reader.nextJson { rest := [], cur := some 91, eof := true }).1 = .error .outOfFuel := by rfl

/-- the bound `3 * μ r + 1` of `nextValue_fuel` is tight: on `[` at the end of input (`μ = 1`)
three units are not enough, four are -/
example : (nextValue 3 { rest := [], cur := some 91 }).1 = .error .outOfFuel := by rfl
example : (nextValue 4 { rest := [], cur := some 91 }).1
    = .error (.unexpectedEof { name := none, line := 1, col := 1 }) := by rfl

/-! ### Non-vacuity: the reader over `[1,` -/

example : WF (Reader.ofBytes [91, 49, 44]) := wf_ofBytes _ _
example : (Reader.nextJson (Reader.ofBytes [91, 49, 44])).1 ≠ .error .outOfFuel :=
  nextJson_fuel _ (wf_ofBytes _ _)
example : (Reader.nextJson (Reader.ofBytes [91, 49, 44])).1
    = .error (.unexpectedEof { name := none, line := 1, col := 4 }) := by rfl
example : μ (Reader.ofBytes [91, 49, 44]) = 4 ∧ μ (Reader.nextJson (Reader.ofBytes [91, 49, 44])).2 = 0 := by
  decide
example : (eatWhitespace 5 (Reader.ofBytes [32, 32, 49])).1 = .ok () := by rfl
example : (eatWhitespace 5 (Reader.ofBytes [32, 32, 49])).1 ≠ .error .outOfFuel :=
  eatWhitespace_fuel 5 _ (wf_ofBytes _ _) (by decide)

/-! ### Progress -/

/-- an error of `eatWhitespace` is out-of-fuel or an I/O error, which consumed the failing item -/
theorem eatWhitespace_error (F : Nat) (r : Reader) {e : PErr} {r' : Reader}
    (h : eatWhitespace F r = (.error e, r')) : e = .outOfFuel ∨ (M r' < M r ∧ μ r' < μ r) := by
  induction F generalizing r with
  | zero => cases h; exact .inl rfl
  | succ F ih =>
    unfold eatWhitespace at h
    rw [PM.bind_apply] at h
    cases hp : Reader.peek r with
    | mk res1 r1 =>
      rw [hp] at h
      have m1 := pmono_closed.peek.of_eq hp
      cases res1 with
      | error e1 => cases h; exact .inr (peek_error hp).2
      | ok x =>
        cases x with
        | none => cases h
        | some b =>
          dsimp only at h
          split at h
          · rw [PM.bind_apply] at h
            cases hn : Reader.next r1 with
            | mk res2 r2 =>
              rw [hn] at h
              have m2 := pmono_closed.next.of_eq hn
              have := m1.pend
              have := m1.μ_le
              cases res2 with
              | error e2 =>
                cases h
                have := (next_error hn).2.2
                exact .inr ⟨by omega, by omega⟩
              | ok y =>
                rcases ih r2 h with h' | h'
                · exact .inl h'
                · have := m2.pend
                  have := m2.μ_le
                  exact .inr ⟨by omega, by omega⟩
          · cases h
/-- an action that starts with an effective `next` consumed something, whatever happens afterwards -/
theorem next_bind_lt {β} {f : Option Byte → PM β} {r : Reader} (he : r.eof = false)
    (hf : ∀ a, PMono (f a)) : μ ((Reader.next >>= f) r).2 < μ r := by
  rw [PM.bind_apply]
  cases hn : Reader.next r with
  | mk res r1 =>
    have hlt := next_lt_of_eq he hn
    cases res with
    | error e => exact hlt
    | ok a =>
      have := ((hf a).mono r1).μ_le
      dsimp only
      omega

theorem bind_lt_left {α β} {m : PM α} {f : α → PM β} {r : Reader} (h : μ (m r).2 < μ r)
    (hf : ∀ a, PMono (f a)) : μ ((m >>= f) r).2 < μ r := by
  rw [PM.bind_apply]
  cases hn : m r with
  | mk res r1 =>
    rw [hn] at h
    cases res with
    | error e => exact h
    | ok a =>
      have := ((hf a).mono r1).μ_le
      dsimp only at h ⊢
      omega

theorem bind_lt_of_ok {α β} {m : PM α} {f : α → PM β} {r : Reader} {a : α} (h : m r = (.ok a, r))
    (hs : μ (f a r).2 < μ r) : μ ((m >>= f) r).2 < μ r := by
  rw [PM.bind_apply, h]; exact hs

/-- "ran out of fuel, or consumed something" survives a final `pure` -/
theorem oof_or_lt_bind_pure {α β} {m : PM α} {g : α → β} {r : Reader}
    (h : (m r).1 = .error .outOfFuel ∨ μ (m r).2 < μ r) :
    ((m >>= fun a => pure (g a)) r).1 = .error .outOfFuel ∨ μ ((m >>= fun a => pure (g a)) r).2 < μ r := by
  rw [PM.bind_apply]
  cases hn : m r with
  | mk res r1 =>
    rw [hn] at h
    cases res with
    | error e =>
      rcases h with h | h
      · left; dsimp only at h ⊢; cases h; rfl
      · right; exact h
    | ok a =>
      rcases h with h | h
      · cases h
      · right; exact h

theorem ne_none_bind_pure_some {α β} {m : PM α} {g : α → β} {r : Reader} :
    ((m >>= fun a => pure (some (g a))) r).1 ≠ .ok none := by
  rw [PM.bind_apply]
  cases m r with
  | mk res r1 =>
    cases res with
    | error e => intro h; cases h
    | ok a => intro h; cases h

theorem ne_none_bind_locErr {α β} {m : PM α} {mk : α → Loc → PErr} {r : Reader} :
    ((m >>= fun a => (locErr (mk a) : PM (Option β))) r).1 ≠ .ok none := by
  rw [PM.bind_apply]
  cases m r with
  | mk res r1 =>
    cases res with
    | error e => intro h; cases h
    | ok a => intro h; cases h

theorem readDigits_lt {F : Nat} {acc : List Byte} {r : Reader} {c : Byte} (hc : r.cur = some c)
    (he : r.eof = false) (hd : isDigit c = true) : μ (readDigits (F + 1) acc r).2 < μ r := by
  unfold readDigits
  refine bind_lt_of_ok (peek_of_cur r c hc) ?_
  dsimp only
  rw [if_pos hd]
  exact next_bind_lt he (fun _ => pmono_closed.readDigits _ _)

theorem readNumber_lt {F : Nat} {r : Reader} {c : Byte} (hc : r.cur = some c) (he : r.eof = false)
    (hd : (decide (c = 45) || isDigit c) = true) : μ (readNumber (F + 1) r).2 < μ r := by
  unfold readNumber
  by_cases h45 : c = 45
  · refine bind_lt_left ?_ (fun _ => by pmono_all)
    refine bind_lt_of_ok (peek_of_cur r c hc) ?_
    rw [if_pos (by rw [h45])]
    exact next_bind_lt he (fun _ => by pmono_all)
  · have hd' : isDigit c = true := by simpa [h45] using hd
    refine bind_lt_of_ok (a := false) ?_ ?_
    · rw [PM.bind_apply, peek_of_cur r c hc]
      dsimp only
      rw [if_neg (by intro h; exact h45 (Option.some.inj h))]
      rfl
    · exact bind_lt_left (readDigits_lt hc he hd') (fun _ => by pmono_all)

/-! The readers that are entered with their first byte as the current byte begin by stepping over it. -/

theorem readWordTail_lt (word : String) (es : List Byte) {r : Reader} (he : r.eof = false) :
    μ (readWordTail word es r).2 < μ r := by
  have c := pmono_closed
  cases es with
  | nil => exact next_bind_lt he fun _ => c.pure _
  | cons e es =>
    rw [readWordTail]
    exact next_bind_lt he fun
      | some _ => PM.ite (c.locErr _ fun _ => nofun) (c.readWordTail _ _)
      | none => c.locErr _ fun _ => nofun

theorem readStringLoop_lt (F : Nat) (acc : List Byte) {r : Reader} (he : r.eof = false) :
    μ (readStringLoop (F + 1) acc r).2 < μ r := by
  rw [readStringLoop]
  exact next_bind_lt he fun _ => by pmono_all

theorem readArray_lt (F : Nat) {r : Reader} (he : r.eof = false) : μ (readArray (F + 1) r).2 < μ r := by
  have c := pmono_closed
  rw [readArray]
  exact next_bind_lt he fun _ => c.bind (c.eatWhitespace _) fun _ => c.bind c.peek fun _ =>
    PM.ite (c.bind c.next fun _ => c.pure _) (c.readArrayLoop _ _)

theorem readObject_lt (F : Nat) {r : Reader} (he : r.eof = false) : μ (readObject (F + 1) r).2 < μ r := by
  have c := pmono_closed
  rw [readObject]
  exact next_bind_lt he fun _ => c.bind (c.eatWhitespace _) fun _ => c.bind c.peek fun _ =>
    PM.ite (c.bind c.next fun _ => c.pure _) (c.readObjectLoop _ _)

theorem next_none {r r' : Reader} (h : Reader.next r = (.ok none, r')) :
    r'.eof = true ∧ (r.cur = none → r'.cur = none) := by
  rcases r.next_cases with ⟨he, e⟩ | ⟨_, _, e⟩ | ⟨rest, _, _, e⟩ | ⟨c, rest, _, _, e⟩ <;> rw [e] at h <;> cases h
  · exact ⟨he, id⟩
  · exact ⟨rfl, fun _ => rfl⟩

theorem peek_none {r r' : Reader} (h : Reader.peek r = (.ok none, r')) :
    r'.eof = true ∧ r'.cur = none := by
  unfold Reader.peek at h
  split at h
  · cases h
  · rename_i hc
    have := next_none h
    exact ⟨this.1, this.2 hc⟩

/-- What `nextValue` does at fuel `F + 1`, outcome by outcome: white space, a peek, and — when the peek shows a
byte `c` — the dispatch on `c`, which never reports the end of input and which, entered with `c` as the current
byte, consumes something or runs out of fuel. -/
theorem nextValue_succ {F : Nat} {r r' : Reader} {res : Except PErr (Option JV)}
    (h : nextValue (F + 1) r = (res, r')) :
    (∃ e, eatWhitespace (F + 1) r = (.error e, r') ∧ res = .error e) ∨
    ∃ r1, eatWhitespace (F + 1) r = (.ok (), r1) ∧
      ((∃ e, Reader.peek r1 = (.error e, r') ∧ res = .error e) ∨
       (Reader.peek r1 = (.ok none, r') ∧ res = .ok none) ∨
       ∃ c r2, Reader.peek r1 = (.ok (some c), r2) ∧ res ≠ .ok none ∧
         (r2.cur = some c → r2.eof = false → (res = .error .outOfFuel ∨ μ r' < μ r2))) := by
  unfold nextValue at h
  rw [PM.bind_apply] at h
  cases hws : eatWhitespace (F + 1) r with
  | mk res1 r1 =>
    rw [hws] at h
    cases res1 with
    | error e => cases h; exact .inl ⟨e, rfl, rfl⟩
    | ok u =>
      refine .inr ⟨r1, rfl, ?_⟩
      dsimp only at h
      rw [PM.bind_apply] at h
      cases hp : Reader.peek r1 with
      | mk res2 r2 =>
        rw [hp] at h
        cases res2 with
        | error e => cases h; exact .inl ⟨e, rfl, rfl⟩
        | ok x =>
          cases x with
          | none => cases h; exact .inr (.inl ⟨rfl, rfl⟩)
          | some c =>
            dsimp only at h
            refine .inr (.inr ⟨c, r2, rfl, ?_⟩)
            obtain rfl : res = _ := congrArg Prod.fst h.symm
            obtain rfl : r' = _ := congrArg Prod.snd h.symm
            let P : PM (Option JV) → Prop := fun m => (m r2).1 ≠ .ok none ∧
              (r2.cur = some c → r2.eof = false → ((m r2).1 = .error .outOfFuel ∨ μ (m r2).2 < μ r2))
            show P _
            refine PM.ite (P := P) ⟨ne_none_bind_pure_some, fun _ he => oof_or_lt_bind_pure (.inr (readWordTail_lt _ _ he))⟩ <|
              PM.ite (P := P) ⟨ne_none_bind_pure_some, fun _ he => oof_or_lt_bind_pure (.inr (readWordTail_lt _ _ he))⟩ <|
              PM.ite (P := P) ⟨ne_none_bind_pure_some, fun _ he => oof_or_lt_bind_pure (.inr (readWordTail_lt _ _ he))⟩ <|
              PM.ite (P := P) ⟨ne_none_bind_pure_some, fun _ he => oof_or_lt_bind_pure (.inr (readStringLoop_lt _ _ he))⟩ ?_
            -- the number case needs the condition of its `if`
            split
            · rename_i hd
              exact ⟨ne_none_bind_pure_some, fun hc he => oof_or_lt_bind_pure (.inr (readNumber_lt hc he hd))⟩
            refine PM.ite (P := P) ⟨ne_none_bind_pure_some, fun _ he => oof_or_lt_bind_pure ?array⟩ <|
              PM.ite (P := P) ⟨ne_none_bind_pure_some, fun _ he => oof_or_lt_bind_pure ?object⟩
                ⟨ne_none_bind_locErr, fun _ he => .inr (next_bind_lt he fun _ => pmono_closed.locErr _ fun _ => nofun)⟩
            case array =>
              cases F with
              | zero => exact .inl rfl
              | succ F => exact .inr (readArray_lt F he)
            case object =>
              cases F with
              | zero => exact .inl rfl
              | succ F => exact .inr (readObject_lt F he)

/-- Progress of `nextValue` at any fuel: unless the input ended (`.ok none`) or the fuel ran out, the
reader shrank, in both measures. -/
theorem nextValue_progress (F : Nat) (r : Reader) (hw : WF r) {res : Except PErr (Option JV)}
    {r' : Reader} (h : nextValue F r = (res, r')) (h1 : res ≠ .ok none) (h2 : res ≠ .error .outOfFuel) :
    M r' < M r ∧ μ r' < μ r := by
  cases F with
  | zero => cases h; exact absurd rfl h2
  | succ F =>
    rcases nextValue_succ h with ⟨e, hws, rfl⟩ | ⟨r1, hws, hp⟩
    · exact (eatWhitespace_error _ _ hws).resolve_left (fun h' => h2 (by rw [h']))
    · have m1 := (pmono_closed.eatWhitespace _).of_eq hws
      have := m1.pend
      have := m1.μ_le
      rcases hp with ⟨e, hp, rfl⟩ | ⟨_, rfl⟩ | ⟨c, r2, hp, _, ht⟩
      · have := (peek_error hp).2
        exact ⟨by omega, by omega⟩
      · exact absurd rfl h1
      · have m2 := pmono_closed.peek.of_eq hp
        have hc := peek_some (m1.wf hw) hp
        have := m2.pend
        have := m2.μ_le
        have hM := M_of_cur hc.1
        have := M_le_μ r'
        have := (ht hc.1 hc.2).resolve_left h2
        exact ⟨by omega, by omega⟩

/-- `.ok none` really is the end of input: the reader has seen the end and holds no byte -/
theorem nextValue_none (F : Nat) (r : Reader) {r' : Reader} (h : nextValue F r = (.ok none, r')) :
    r'.eof = true ∧ r'.cur = none := by
  cases F with
  | zero => cases h
  | succ F =>
    rcases nextValue_succ h with ⟨_, _, he⟩ | ⟨r1, _, ⟨_, _, he⟩ | ⟨hp, _⟩ | ⟨_, _, _, hne, _⟩⟩
    · cases he
    · cases he
    · exact peek_none hp
    · exact absurd rfl hne

/-- Progress: `nextJson` on a well-formed reader either reports the end of input (`.ok none`) or
returns a strictly smaller reader — in `M = pending.length + (if eof then 0 else 1)` and in
`μ = rest.length + (if eof then 0 else 1)`.  This holds for every other outcome: a value, a
recoverable error, an I/O error. -/
theorem nextJson_progress (r : Reader) (hw : WF r) {res : Except PErr (Option JV)} {r' : Reader}
    (h : Reader.nextJson r = (res, r')) (h1 : res ≠ .ok none) : M r' < M r ∧ μ r' < μ r := by
  refine nextValue_progress _ r hw h h1 ?_
  have := nextJson_fuel r hw
  rw [h] at this
  exact this

theorem nextJson_none (r : Reader) {r' : Reader} (h : Reader.nextJson r = (.ok none, r')) :
    r'.eof = true ∧ r'.cur = none := nextValue_none _ r h

/-- the reader over `[1,`: one call consumes everything (`μ` drops from 4 to 0) -/
example : M (Reader.nextJson (Reader.ofBytes [91, 49, 44])).2 < M (Reader.ofBytes [91, 49, 44]) := by
  have e : (Reader.nextJson (Reader.ofBytes [91, 49, 44])).1
      = .error (.unexpectedEof { name := none, line := 1, col := 4 }) := rfl
  refine (nextJson_progress (Reader.ofBytes [91, 49, 44]) (wf_ofBytes _ _)
    (res := (Reader.nextJson (Reader.ofBytes [91, 49, 44])).1)
    (r' := (Reader.nextJson (Reader.ofBytes [91, 49, 44])).2) rfl ?_).1
  rw [e]; intro h; cases h

/-- two values `1 2`: the first call returns `1` and leaves a smaller reader, which is well formed again -/
example : (Reader.nextJson (Reader.ofBytes [49, 32, 50])).1 = .ok (some (.num (.pos 1))) := by rfl
example : WF (Reader.nextJson (Reader.ofBytes [49, 32, 50])).2 :=
  (nextJson_mono _).wf (wf_ofBytes _ _)

/-! ### The read loop -/

/-- a failure kind that is not a JSON-parser error (in particular not out-of-fuel) -/
def NotJson (k : Fail) : Prop := ∀ e, k ≠ .json e

/-- every error this computation can return satisfies `P` -/
structure ErrOK {ε α} (P : ε → Prop) (x : Except ε α) : Prop where
  err : ∀ e, x = .error e → P e

theorem errOK_ok {ε α} {P : ε → Prop} (a : α) : ErrOK P (.ok a : Except ε α) := ⟨fun _ h => by cases h⟩
theorem errOK_pure {ε α} {P : ε → Prop} (a : α) : ErrOK P (pure a : Except ε α) := ⟨fun _ h => by cases h⟩
theorem errOK_error {ε α} {P : ε → Prop} {e : ε} (h : P e) : ErrOK P (.error e : Except ε α) :=
  ⟨fun _ h' => by cases h'; exact h⟩

theorem errOK_bind {ε α β} {P : ε → Prop} {x : Except ε α} {g : α → Except ε β}
    (hx : ErrOK P x) (hg : ∀ a, ErrOK P (g a)) : ErrOK P (x >>= g) := by
  constructor
  intro e h
  cases x with
  | error e' => cases h; exact hx.err _ rfl
  | ok a => exact (hg a).err e h

abbrev PF : Failure → Prop := fun f => NotJson f.kind

theorem notJson_io : NotJson .io := fun _ h => by cases h
theorem notJson_config (s : String) : NotJson (.config s) := fun _ h => by cases h
theorem notJson_abort (a : Abort) : NotJson (.abort a) := fun _ h => by cases h
theorem notJson_invalidInput : NotJson .invalidInput := fun _ h => by cases h

theorem wres_ok (w : Writer) : ErrOK PF (wres w) := by
  unfold wres; split
  · exact errOK_error notJson_io
  · exact errOK_ok _

theorem liftR_ok {α} (w : Writer) (r : Except Abort α) : ErrOK PF (liftR w r) := by
  unfold liftR; split
  · exact errOK_ok _
  · exact errOK_error (notJson_abort _)

theorem sinkProcess_ok (s : SinkCfg) (n : Nat) (w : Writer) (ctx : Ctx) : ErrOK PF (sinkProcess s n w ctx) := by
  unfold sinkProcess
  split
  · exact wres_ok _
  · split <;> exact wres_ok _

theorem evalE_ok (orc : Oracles) (w : Writer) (e : Expr) (ctx : Ctx) : ErrOK PF (evalE orc w e ctx) :=
  liftR_ok _ _

macro "errok_step" : tactic => `(tactic| first
  | with_reducible apply errOK_bind
  | intro _
  | with_reducible exact errOK_ok _
  | with_reducible exact errOK_pure _
  | with_reducible exact errOK_error notJson_io
  | with_reducible exact errOK_error (notJson_config _)
  | with_reducible exact errOK_error (notJson_abort _)
  | with_reducible exact errOK_error notJson_invalidInput
  | with_reducible exact wres_ok _
  | with_reducible exact evalE_ok _ _ _ _
  | with_reducible exact sinkProcess_ok _ _ _ _
  | with_reducible assumption
  | split)

syntax "errok" ("[" term,* "]")? : tactic
macro_rules
  | `(tactic| errok) => `(tactic| repeat' errok_step)
  | `(tactic| errok [$ts,*]) => `(tactic| repeat' (first | errok_step $[| with_reducible exact $ts]*))

theorem feedUntilBreak_ok (next : List StageSt → Writer → Ctx → Res (PState × Decision))
    (hn : ∀ sts w c, ErrOK PF (next sts w c)) (sts : List StageSt) (w : Writer) (l : List Ctx) :
    ErrOK PF (feedUntilBreak next sts w l) := by
  induction l generalizing sts w with
  | nil => unfold feedUntilBreak; errok
  | cons c cs ih => unfold feedUntilBreak; errok [hn _ _ _, ih _ _]

theorem feedAllIgnoring_ok (next : List StageSt → Writer → Ctx → Res (PState × Decision))
    (hn : ∀ sts w c, ErrOK PF (next sts w c)) (sts : List StageSt) (w : Writer) (l : List Ctx) :
    ErrOK PF (feedAllIgnoring next sts w l) := by
  induction l generalizing sts w with
  | nil => unfold feedAllIgnoring; errok
  | cons c cs ih => unfold feedAllIgnoring; errok [hn _ _ _, ih _ _]

theorem process_ok (orc : Oracles) (sink : SinkCfg) (sinkLen : Nat) (cfgs : List StageCfg)
    (sts : List StageSt) (w : Writer) (ctx : Ctx) : ErrOK PF (process orc sink sinkLen cfgs sts w ctx) := by
  induction cfgs generalizing sts w ctx with
  | nil => unfold process; errok
  | cons c cs ih =>
    cases sts with
    | nil => unfold process; errok
    | cons st sts =>
      unfold process
      dsimp only
      errok [ih _ _ _, feedUntilBreak_ok _ (fun _ _ _ => ih _ _ _) _ _ _]
theorem complete_ok (orc : Oracles) (sink : SinkCfg) (sinkLen : Nat) (cfgs : List StageCfg)
    (sts : List StageSt) (w : Writer) : ErrOK PF (complete orc sink sinkLen cfgs sts w) := by
  induction cfgs generalizing sts w with
  | nil => unfold complete; errok
  | cons c cs ih =>
    cases sts with
    | nil => unfold complete; errok
    | cons st sts =>
      unfold complete
      errok [ih _ _, process_ok _ _ _ _ _ _ _, feedAllIgnoring_ok _ (fun _ _ _ => process_ok _ _ _ _ _ _ _) _ _ _]

/-- a run did not end with the model-only error `outOfFuel` -/
abbrev PR : RunEnd → Prop := fun e => e.result ≠ .error (.json .outOfFuel)

theorem pr_io (s : RunState) : PR ⟨.error .io, s⟩ := by intro h; cases h

theorem pr_json {e : PErr} (he : e ≠ .outOfFuel) (s : RunState) : PR ⟨.error (.json e), s⟩ := by
  intro h; cases h; exact he rfl

theorem pr_notJson {k : Fail} (hk : NotJson k) (s : RunState) : PR ⟨.error k, s⟩ := by
  intro h; cases h; exact hk _ rfl

/-- along iterations the reader stays well formed and every iteration consumes -/
theorem reachN_wf_μ (orc : Oracles) (c : Cfg) (p : Pipeline) {n : Nat} {a b : Loc.Conf}
    (h : Loc.ReachN orc c p n a b) (hw : WF a.r) : WF b.r ∧ μ b.r + n ≤ μ a.r := by
  induction h with
  | refl k => exact ⟨hw, Nat.le_refl _⟩
  | step hi _ ih =>
    obtain ⟨e, hne, _⟩ := hi.reader
    obtain ⟨i1, i2⟩ := ih (e ▸ nextJson_wf _ hw)
    have := (nextJson_progress _ hw (res := Reader.nextJson _ |>.1) (r' := Reader.nextJson _ |>.2) rfl hne).2
    rw [← e] at this
    exact ⟨i1, by omega⟩

/-- With one unit of fuel per remaining `next` plus one, `readLoop` never ends with the
out-of-fuel error — neither its own nor one of `nextJson` nor one from the pipeline. -/
theorem readLoop_ok (orc : Oracles) (c : Cfg) (p : Pipeline) (fuel : Nat) (r : Reader) (inFile : Nat)
    (s : RunState) (hw : WF r) (hf : μ r + 1 ≤ fuel) : ErrOK PR (readLoop orc c p fuel r inFile s) := by
  obtain ⟨n, k', hr, h⟩ := Loc.readLoop_trace orc c p fuel ⟨r, inFile, s⟩
  obtain ⟨hw', hμ⟩ := reachN_wf_μ orc c p hr hw
  dsimp only at h hμ
  rcases h with ⟨_, h⟩ | ⟨hn, _⟩
  · have hsafe := nextJson_fuel k'.r hw'
    generalize readLoop orc c p fuel r inFile s = res at h
    cases h with
    | eof _ => exact errOK_ok _
    | brk _ _ _ => exact errOK_ok _
    | stage _ _ hp => exact errOK_error (pr_notJson ((process_ok _ _ _ _ _ _ _).err _ hp) _)
    | fault _ _ => exact errOK_error (pr_io _)
    | panic hn _ _ =>
      rw [hn] at hsafe
      exact errOK_error (pr_json (fun h => hsafe (by rw [h])) _)
    | stdoutFail _ _ _ _ => exact errOK_error (pr_io _)
    | stderrFail _ _ _ _ => exact errOK_error (pr_io _)
  · omega

theorem μ_ofItems (items : List RItem) (name : Option Str) : μ (Reader.ofItems items name) = items.length + 1 := rfl

/-- `pending.length + 2` units are enough (`rest.length + 2` already are). -/
theorem readLoop_fuel (orc : Oracles) (c : Cfg) (p : Pipeline) (fuel : Nat) (r : Reader) (inFile : Nat)
    (s : RunState) (hw : WF r) (hf : r.pending.length + 2 ≤ fuel) (st : RunState) :
    readLoop orc c p fuel r inFile s ≠ .error ⟨.error (.json .outOfFuel), st⟩ := by
  intro h
  have hμ : μ r + 1 ≤ fuel := by
    have := μ_le_rest r
    have := pending_length r
    omega
  exact (readLoop_ok orc c p fuel r inFile s hw hμ).err _ h rfl

/-- `readSources` gives each source `items.length + 2` units, which is `μ + 1` of a fresh reader -/
theorem readSources_ok (orc : Oracles) (c : Cfg) (p : Pipeline) (srcs : List Source) (s : RunState) :
    ErrOK PR (readSources orc c p srcs s) := by
  induction srcs generalizing s with
  | nil => unfold readSources; exact errOK_ok _
  | cons src rest ih =>
    unfold readSources
    dsimp only
    split
    · rename_i e heq
      exact errOK_error ((readLoop_ok orc c p _ _ _ _ (wf_ofItems _ _) (by rw [μ_ofItems]; omega)).err e heq)
    · split
      · exact errOK_ok _
      · exact ih _

theorem sinkStart_ok (s : SinkCfg) (titles : List Str) (w : Writer) : ErrOK PF (sinkStart s titles w) := by
  unfold sinkStart; errok

theorem cfgErr_ok {α} (r : Except String α) : ErrOK NotJson (cfgErr r) := by
  unfold cfgErr; errok

theorem mapRes_ok {α β} (f : α → Except Fail β) (hf : ∀ a, ErrOK NotJson (f a)) (l : List α) :
    ErrOK NotJson (mapRes f l) := by
  induction l with
  | nil => unfold mapRes; errok
  | cons x xs ih => unfold mapRes; errok [hf _]

theorem parsePreSet_ok (orc : Oracles) (s : Str) : ErrOK NotJson (parsePreSet orc s) := by
  unfold parsePreSet
  dsimp only
  errok

theorem collect_ok (vars : List (Str × JV)) (defs : List (Str × Expr)) (l : List (Str × PreSetVal)) :
    ErrOK NotJson (build.collect vars defs l) := by
  induction l generalizing vars defs with
  | nil => unfold build.collect; errok
  | cons x xs ih =>
    obtain ⟨k, v⟩ := x
    cases v <;> (unfold build.collect; errok [ih _ _])

theorem build_ok (orc : Oracles) (c : Cfg) : ErrOK NotJson (build orc c) := by
  unfold build
  errok [cfgErr_ok _, mapRes_ok _ (fun _ => cfgErr_ok _) _, mapRes_ok _ (parsePreSet_ok orc) _, collect_ok _ _ _]

/-- Consequently a whole run never reports the model-only error `outOfFuel`. -/
theorem run_no_outOfFuel (orc : Oracles) (c : Cfg) (sources : List Source) (wOut wErr : Writer) :
    (run orc c sources wOut wErr).result ≠ .error (.json .outOfFuel) := by
  unfold run
  split
  · rename_i f heq
    intro h
    exact (build_ok orc c).err f heq _ (Except.error.inj h)
  · split
    · rename_i f heq
      intro h
      exact (sinkStart_ok _ _ _).err f heq _ (Except.error.inj h)
    · dsimp only
      split
      · rename_i e heq
        exact (readSources_ok _ _ _ _ _).err e heq
      · split
        · rename_i f heq
          intro h
          exact (complete_ok _ _ _ _ _ _).err f heq _ (Except.error.inj h)
        · intro h; cases h

/-- non-vacuity of `readLoop_fuel`: the reader over `[1,` with 5 units (`pending.length + 2`) -/
example (orc : Oracles) (c : Cfg) (p : Pipeline) (s st : RunState) :
    readLoop orc c p 5 (Reader.ofBytes [91, 49, 44]) 0 s ≠ .error ⟨.error (.json .outOfFuel), st⟩ :=
  readLoop_fuel orc c p 5 _ 0 s (wf_ofBytes _ _) (by decide) st

end Jawk.Fuel
