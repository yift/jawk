/-
  Objects as association lists (`objGet?`, `objInsert`, `objOfList` of `Model/Value.lean`, the model of
  `IndexMap`): membership, insertion under keys the object does not have yet; then, in `Jawk.EvalLaws`, what the
  laws about the object functions use: lookup, lookup after insertion, the place of an inserted member, and
  `objOfList` (later duplicates replace earlier ones in place).
-/
import Jawk.Model.Value
namespace Jawk

theorem objGet?_mem {m : List (Str × JV)} {k : Str} {v : JV} (h : objGet? m k = some v) : (k, v) ∈ m := by
  induction m with
  | nil => cases h
  | cons x xs ih =>
    obtain ⟨k', v'⟩ := x
    unfold objGet? at h
    split at h
    · next hk => cases h; exact hk ▸ List.mem_cons_self
    · exact List.mem_cons_of_mem _ (ih h)

theorem objGet?_of_mem {kvs : List (Str × JV)} {k : Str} {v : JV}
    (hn : (kvs.map (·.1)).Nodup) (h : (k, v) ∈ kvs) : objGet? kvs k = some v := by
  induction kvs with
  | nil => simp at h
  | cons kv rest ih =>
    obtain ⟨k', v'⟩ := kv
    simp only [List.map_cons, List.nodup_cons] at hn
    simp only [objGet?]
    rcases List.mem_cons.mp h with h | h
    · cases h; simp
    · have : k' ≠ k := by
        intro hk; subst hk
        exact hn.1 (List.mem_map.mpr ⟨(k', v), h, rfl⟩)
      simp only [this, if_false]
      exact ih hn.2 h

theorem mem_keys_of_objGet? {kvs : List (Str × JV)} {k : Str} {v : JV} (h : objGet? kvs k = some v) :
    k ∈ kvs.map (·.1) := List.mem_map.mpr ⟨(k, v), objGet?_mem h, rfl⟩

theorem objInsert_mem {m : List (Str × JV)} {k : Str} {v : JV} {kv : Str × JV}
    (h : kv ∈ objInsert m k v) : kv = (k, v) ∨ kv ∈ m := by
  induction m with
  | nil => exact Or.inl (List.mem_singleton.1 h)
  | cons x xs ih =>
    obtain ⟨k', v'⟩ := x
    unfold objInsert at h
    split at h
    · exact (List.mem_cons.1 h).imp_right (List.mem_cons_of_mem _)
    · rcases List.mem_cons.1 h with h | h
      · exact Or.inr (h ▸ List.mem_cons_self)
      · exact (ih h).imp_right (List.mem_cons_of_mem _)

theorem mem_foldl_objInsert {kv : Str × JV} {l acc : List (Str × JV)}
    (h : kv ∈ l.foldl (fun acc kv => objInsert acc kv.1 kv.2) acc) : kv ∈ acc ∨ kv ∈ l := by
  induction l generalizing acc with
  | nil => exact Or.inl h
  | cons x xs ih =>
    rcases ih h with h | h
    · exact (objInsert_mem h).symm.imp_right fun (e : kv = _) => e ▸ List.mem_cons_self
    · exact Or.inr (List.mem_cons_of_mem _ h)

theorem objOfList_mem {kvs : List (Str × JV)} {kv : Str × JV} (h : kv ∈ objOfList kvs) : kv ∈ kvs :=
  (mem_foldl_objInsert h).resolve_left List.not_mem_nil

/-- inserting under a key the object does not have appends the member -/
theorem objInsert_fresh (m : List (Str × JV)) (k : Str) (v : JV) (h : k ∉ m.map (·.1)) :
    objInsert m k v = m ++ [(k, v)] := by
  induction m with
  | nil => rfl
  | cons kv m ih =>
    obtain ⟨k', v'⟩ := kv
    rw [List.map_cons, List.mem_cons, not_or] at h
    rw [objInsert, if_neg (fun e => h.1 e.symm), ih h.2, List.cons_append]

/-- inserting members with pairwise different keys, none of them in the object yet, appends them as they are -/
theorem foldl_objInsert_distinct (kvs acc : List (Str × JV)) (hnd : ((acc ++ kvs).map (·.1)).Nodup) :
    kvs.foldl (fun acc kv => objInsert acc kv.1 kv.2) acc = acc ++ kvs := by
  induction kvs generalizing acc with
  | nil => exact (List.append_nil acc).symm
  | cons kv kvs ih =>
    have hk : kv.1 ∉ acc.map (·.1) := fun hmem => by
      rw [List.map_append, List.nodup_append] at hnd
      exact hnd.2.2 _ hmem _ List.mem_cons_self rfl
    rw [List.foldl_cons, objInsert_fresh acc kv.1 kv.2 hk, ih (acc ++ [kv]) (by rwa [List.append_assoc]),
      List.append_assoc]
    rfl

/-- pairs with distinct keys are collected as they are -/
theorem objOfList_of_nodup (kvs : List (Str × JV)) (h : (kvs.map (·.1)).Nodup) : objOfList kvs = kvs :=
  foldl_objInsert_distinct kvs [] h

/-- the keys, in member order: unchanged for an existing key, the new key appended otherwise -/
theorem objInsert_keys (acc : List (Str × JV)) (k : Str) (v : JV) :
    (objInsert acc k v).map (·.1) = if k ∈ acc.map (·.1) then acc.map (·.1) else acc.map (·.1) ++ [k] := by
  induction acc with
  | nil => simp [objInsert]
  | cons a acc ih =>
    obtain ⟨k', v'⟩ := a
    unfold objInsert
    by_cases h : k' = k
    · subst h; simp
    · have h' : ¬ k = k' := fun e => h e.symm
      simp only [h, if_false, List.map_cons, ih, List.mem_cons, h', false_or]
      split <;> simp

theorem objInsert_nodup {acc : List (Str × JV)} (k : Str) (v : JV) (h : (acc.map (·.1)).Nodup) :
    ((objInsert acc k v).map (·.1)).Nodup := by
  rw [objInsert_keys]
  split
  · exact h
  · rename_i hk
    rw [List.nodup_append]
    exact ⟨h, by simp, by
      intro a ha b hb
      simp only [List.mem_singleton] at hb
      subst hb
      intro e; subst e; exact hk ha⟩

end Jawk

namespace Jawk.EvalLaws
open Jawk

/-- `objGet?` is the value of the first member with that key -/
theorem objGet?_eq_find (m : List (Str × JV)) (k : Str) :
    objGet? m k = (m.find? (fun kv => kv.1 == k)).map (·.2) := by
  induction m with
  | nil => rfl
  | cons kv m ih =>
    obtain ⟨k', v⟩ := kv
    by_cases h : k' = k <;> simp [objGet?, h, ih]

theorem objGet?_none_iff (m : List (Str × JV)) (k : Str) : objGet? m k = none ↔ ∀ kv ∈ m, kv.1 ≠ k := by
  induction m with
  | nil => simp [objGet?]
  | cons kv m ih =>
    obtain ⟨k', v'⟩ := kv
    by_cases hk : k' = k <;> simp [objGet?, hk, ih]

/-- the keys of an object, in member order -/
def objKeys (m : List (Str × JV)) : List Str := m.map (·.1)

/-! ## `objInsert` (`IndexMap::insert`) -/

theorem objGet?_objInsert_same (m : List (Str × JV)) (k : Str) (v : JV) : objGet? (objInsert m k v) k = some v := by
  induction m with
  | nil => simp [objInsert, objGet?]
  | cons kv m ih =>
    obtain ⟨k', v'⟩ := kv
    by_cases h : k' = k <;> simp [objInsert, objGet?, h, ih]

theorem objGet?_objInsert_other (m : List (Str × JV)) (k k' : Str) (v : JV) (hk : k' ≠ k) :
    objGet? (objInsert m k v) k' = objGet? m k' := by
  induction m with
  | nil => simp [objInsert, objGet?, Ne.symm hk]
  | cons kv m ih =>
    obtain ⟨k'', v''⟩ := kv
    by_cases h : k'' = k
    · subst h; simp [objInsert, objGet?, Ne.symm hk]
    · by_cases h' : k'' = k' <;> simp [objInsert, objGet?, h, h', ih, hk]

/-- a new key goes last -/
theorem objInsert_absent (m : List (Str × JV)) (k : Str) (v : JV) (h : objGet? m k = none) :
    objInsert m k v = m ++ [(k, v)] := by
  refine objInsert_fresh m k v fun hm => ?_
  obtain ⟨kv, hkv, e⟩ := List.mem_map.1 hm
  exact (objGet?_none_iff m k).1 h kv hkv e

/-- an existing key keeps its place: the FIRST member with that key is replaced, nothing else changes -/
theorem objInsert_present (m : List (Str × JV)) (k : Str) (v : JV) (h : (objGet? m k).isSome) :
    ∃ pre post w, m = pre ++ (k, w) :: post ∧ (∀ kv ∈ pre, kv.1 ≠ k) ∧ objInsert m k v = pre ++ (k, v) :: post := by
  induction m with
  | nil => simp [objGet?] at h
  | cons kv m ih =>
    obtain ⟨k', v'⟩ := kv
    by_cases hk : k' = k
    · subst hk
      exact ⟨[], m, v', rfl, by simp, by simp [objInsert]⟩
    · simp only [objGet?, hk, if_false] at h
      obtain ⟨pre, post, w, h1, h2, h3⟩ := ih h
      refine ⟨(k', v') :: pre, post, w, by simp [h1], ?_, by simp [objInsert, hk, h3]⟩
      intro kv hkv
      rcases List.mem_cons.1 hkv with rfl | hkv
      · exact hk
      · exact h2 kv hkv

/-- the keys, in member order: unchanged for an existing key, the new key appended otherwise -/
theorem objKeys_objInsert (m : List (Str × JV)) (k : Str) (v : JV) :
    objKeys (objInsert m k v) = if (objGet? m k).isSome then objKeys m else objKeys m ++ [k] := by
  induction m with
  | nil => simp [objInsert, objGet?, objKeys]
  | cons kv m ih =>
    obtain ⟨k', v'⟩ := kv
    by_cases hk : k' = k
    · simp [objInsert, objGet?, objKeys, hk]
    · simp only [objKeys] at ih
      simp only [objInsert, objGet?, objKeys, hk, if_false, List.map_cons, ih]
      split <;> simp

theorem length_objInsert (m : List (Str × JV)) (k : Str) (v : JV) :
    (objInsert m k v).length = if (objGet? m k).isSome then m.length else m.length + 1 := by
  have := congrArg List.length (objKeys_objInsert m k v)
  simp only [objKeys, List.length_map] at this
  rw [this]
  split <;> simp

theorem objGet?_isSome_iff (m : List (Str × JV)) (k : Str) : (objGet? m k).isSome ↔ k ∈ objKeys m := by
  rw [Option.isSome_iff_ne_none, Ne, objGet?_none_iff, objKeys, List.mem_map]
  constructor
  · intro h
    exact Decidable.byContradiction fun hn => h fun kv hkv e => hn ⟨kv, hkv, e⟩
  · rintro ⟨kv, hkv, e⟩ h
    exact h kv hkv e

theorem objInsert_nodup_keys (m : List (Str × JV)) (k : Str) (v : JV) (h : (objKeys m).Nodup) :
    (objKeys (objInsert m k v)).Nodup :=
  objInsert_nodup k v h

/-! ## `objOfList` (`collect::<IndexMap<_, _>>()`): later duplicates replace earlier ones in place -/

/-- the loop of `objOfList` from an arbitrary accumulator -/
def objFold (acc l : List (Str × JV)) : List (Str × JV) := l.foldl (fun acc kv => objInsert acc kv.1 kv.2) acc

theorem objOfList_eq (l : List (Str × JV)) : objOfList l = objFold [] l := rfl

theorem objFold_nodup_keys (acc l : List (Str × JV)) (h : (objKeys acc).Nodup) : (objKeys (objFold acc l)).Nodup := by
  induction l generalizing acc with
  | nil => exact h
  | cons x xs ih => exact ih _ (objInsert_nodup_keys acc x.1 x.2 h)

/-- the result of a collect has distinct keys -/
theorem objOfList_nodup_keys (l : List (Str × JV)) : (objKeys (objOfList l)).Nodup :=
  objFold_nodup_keys [] l List.nodup_nil

theorem objFold_get (acc l : List (Str × JV)) (k : Str) :
    objGet? (objFold acc l) k = ((l.reverse.find? (fun kv => kv.1 == k)).map (·.2)).or (objGet? acc k) := by
  induction l generalizing acc with
  | nil => simp [objFold]
  | cons x xs ih =>
    have : objFold acc (x :: xs) = objFold (objInsert acc x.1 x.2) xs := rfl
    rw [this, ih, List.reverse_cons, List.find?_append]
    cases hf : xs.reverse.find? (fun kv => kv.1 == k) with
    | some kv => simp
    | none =>
      by_cases hk : x.1 = k
      · subst hk; simp [objGet?_objInsert_same]
      · simp [hk, objGet?_objInsert_other acc x.1 k x.2 (Ne.symm hk)]

/-- looking a key up in the collected object gives the value of the LAST pair with that key -/
theorem objGet?_objOfList (l : List (Str × JV)) (k : Str) :
    objGet? (objOfList l) k = (l.reverse.find? (fun kv => kv.1 == k)).map (·.2) := by
  rw [objOfList_eq, objFold_get]
  simp [objGet?]

theorem mem_objKeys_objInsert (m : List (Str × JV)) (a k : Str) (v : JV) :
    k ∈ objKeys (objInsert m a v) ↔ k ∈ objKeys m ∨ k = a := by
  rw [objKeys_objInsert]
  split
  · rename_i h
    exact ⟨.inl, fun h' => h'.elim id fun e => e ▸ (objGet?_isSome_iff m a).1 h⟩
  · rw [List.mem_append, List.mem_singleton]

theorem objFold_keys_mem (acc l : List (Str × JV)) (k : Str) :
    k ∈ objKeys (objFold acc l) ↔ k ∈ objKeys acc ∨ k ∈ objKeys l := by
  induction l generalizing acc with
  | nil => exact (or_iff_left List.not_mem_nil).symm
  | cons x xs ih =>
    have e : objFold acc (x :: xs) = objFold (objInsert acc x.1 x.2) xs := rfl
    have hcons : objKeys (x :: xs) = x.1 :: objKeys xs := rfl
    rw [e, ih, mem_objKeys_objInsert, hcons, List.mem_cons, or_assoc]

/-- the collected object has exactly the keys of the pairs -/
theorem objOfList_keys_mem (l : List (Str × JV)) (k : Str) : k ∈ objKeys (objOfList l) ↔ k ∈ objKeys l := by
  rw [objOfList_eq, objFold_keys_mem]
  exact or_iff_right List.not_mem_nil

/-- the keys of the collected object are the keys of the pairs in order of FIRST occurrence -/
theorem objFold_keys (acc l : List (Str × JV)) (h : (objKeys acc).Nodup) :
    objKeys (objFold acc l) = objKeys acc ++ ((objKeys l).filter (fun k => !(objKeys acc).contains k)).eraseDups := by
  induction l generalizing acc with
  | nil => exact (List.append_nil _).symm
  | cons x xs ih =>
    have e : objFold acc (x :: xs) = objFold (objInsert acc x.1 x.2) xs := rfl
    have hcons : objKeys (x :: xs) = x.1 :: objKeys xs := rfl
    rw [e, ih _ (objInsert_nodup_keys acc x.1 x.2 h), objKeys_objInsert, hcons, List.filter_cons]
    by_cases hx : x.1 ∈ objKeys acc
    · -- a key that is there already stays where it is, and is filtered out on the right
      rw [if_pos ((objGet?_isSome_iff acc x.1).2 hx),
        if_neg (by simp only [List.contains_eq_mem, hx, decide_true, Bool.not_true, Bool.false_eq_true, not_false_eq_true])]
    · -- a new key goes last on the left, first on the right
      rw [if_neg (mt (objGet?_isSome_iff acc x.1).1 hx),
        if_pos (by simp only [List.contains_eq_mem, hx, decide_false, Bool.not_false]), List.eraseDups_cons,
        List.filter_filter, List.append_assoc]
      have hfil : (fun k => !(objKeys acc ++ [x.1]).contains k) = fun a => (!a == x.1) && !(objKeys acc).contains a := by
        funext k
        simp only [List.contains_append, List.contains_cons, List.contains_nil, Bool.or_false, Bool.not_or, Bool.and_comm]
      rw [hfil]
      rfl

theorem objOfList_keys (l : List (Str × JV)) : objKeys (objOfList l) = (objKeys l).eraseDups := by
  rw [objOfList_eq, objFold_keys [] l List.nodup_nil]
  have : (objKeys l).filter (fun k => !(objKeys ([] : List (Str × JV))).contains k) = objKeys l := by
    apply List.filter_eq_self.2
    intro k _; rfl
  rw [this]; rfl

end Jawk.EvalLaws
