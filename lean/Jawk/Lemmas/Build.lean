/-
  `build` in closed form: the seven parts it obtains by parsing option texts (`sinkPart` … `prePart`), the chain
  it assembles from them (`assemble`), and the shape of each part.
  (Namespaces `Jawk.RunSpec` for `assemble` and `Jawk.RunCor` for the parts, those of the files that use them.)
-/
import Jawk.Model.Run
namespace Jawk.RunSpec
open Jawk

/-- the chain `build` assembles from its parsed parts (outermost first) -/
def assemble (c : Cfg) (pre spl fil : List StageCfg) (sels : List (Str × Expr))
    (sorters : List (Expr × Bool)) (grp : List StageCfg) : List (StageCfg × StageSt) :=
  let simple (l : List StageCfg) : List (StageCfg × StageSt) := l.map (fun s => (s, s.init none))
  simple pre ++ simple spl ++ simple fil ++ simple (sels.reverse.map (fun (n, e) => StageCfg.select n e)) ++
    simple (if c.unique then [.unique] else []) ++
    (sorters.zipIdx.map (fun ((e, desc), i) =>
      (StageCfg.sort e desc, StageSt.sort [] (if i = 0 then c.take.map (fun t => c.skip + t) else none)))).reverse ++
    simple (if c.skip = 0 ∧ c.take.isNone then [] else [.limit c.skip c.take]) ++ simple grp

end Jawk.RunSpec

namespace Jawk.RunCor
open Jawk Jawk.RunSpec

def sinkPart (c : Cfg) : Except Fail SinkCfg := cfgErr (buildSink c)

def grpPart (c : Cfg) : Except Fail (List StageCfg) :=
  match c.group with
  | some (some g) => do
    let e ← cfgErr (parseOptionExpr g)
    .ok [StageCfg.group e]
  | some none => .ok [StageCfg.merge]
  | none => .ok []

def sortPart (c : Cfg) : Except Fail (List (Expr × Bool)) :=
  mapRes (fun s => cfgErr (parseSorter s)) c.sorts

def selPart (c : Cfg) : Except Fail (List (Str × Expr)) :=
  mapRes (fun s => cfgErr (parseSelection s)) c.selects.reverse

def filPart (c : Cfg) : Except Fail (List StageCfg) :=
  match c.filter with
  | some f => do
    let e ← cfgErr (parseOptionExpr f)
    .ok [StageCfg.filter e]
  | none => .ok []

def splPart (c : Cfg) : Except Fail (List StageCfg) :=
  match c.split with
  | some f => do
    let e ← cfgErr (parseOptionExpr f)
    .ok [StageCfg.split e]
  | none => .ok []

def prePart (orc : Oracles) (c : Cfg) : Except Fail (List StageCfg) :=
  if c.sets.isEmpty then .ok [] else do
    let ps ← mapRes (parsePreSet orc) c.sets
    build.collect [] [] ps

/-- the pipeline record made from the sink and the assembled chain -/
def mkPipeline (sink : SinkCfg) (all : List (StageCfg × StageSt)) : Pipeline :=
  { cfgs := all.map (·.1), sts := all.map (·.2), sink := sink,
    sinkLen := (titlesAtSink (all.map (·.1)) []).length, titles := titlesAtSink (all.map (·.1)) [] }

theorem build_eq_assemble (orc : Oracles) (c : Cfg) :
    build orc c = (do
      let sink ← sinkPart c
      let grp ← grpPart c
      let sorters ← sortPart c
      let sels ← selPart c
      let fil ← filPart c
      let spl ← splPart c
      let pre ← prePart orc c
      .ok (mkPipeline sink (assemble c pre spl fil sels sorters grp))) := by
  rfl

/-- `build` succeeds exactly when every option text parses; the result is the assembled chain -/
theorem build_ok_iff (orc : Oracles) (c : Cfg) (p : Pipeline) :
    build orc c = .ok p ↔
      ∃ sink grp sorters sels fil spl pre,
        sinkPart c = .ok sink ∧ grpPart c = .ok grp ∧ sortPart c = .ok sorters ∧ selPart c = .ok sels ∧
        filPart c = .ok fil ∧ splPart c = .ok spl ∧ prePart orc c = .ok pre ∧
        p = mkPipeline sink (assemble c pre spl fil sels sorters grp) := by
  rw [build_eq_assemble]
  simp only [bind, Except.bind]
  constructor
  · intro h
    cases h1 : sinkPart c with
    | error e => rw [h1] at h; cases h
    | ok sink =>
    cases h2 : grpPart c with
    | error e => rw [h1, h2] at h; cases h
    | ok grp =>
    cases h3 : sortPart c with
    | error e => rw [h1, h2, h3] at h; cases h
    | ok sorters =>
    cases h4 : selPart c with
    | error e => rw [h1, h2, h3, h4] at h; cases h
    | ok sels =>
    cases h5 : filPart c with
    | error e => rw [h1, h2, h3, h4, h5] at h; cases h
    | ok fil =>
    cases h6 : splPart c with
    | error e => rw [h1, h2, h3, h4, h5, h6] at h; cases h
    | ok spl =>
    cases h7 : prePart orc c with
    | error e => rw [h1, h2, h3, h4, h5, h6, h7] at h; cases h
    | ok pre =>
    rw [h1, h2, h3, h4, h5, h6, h7] at h
    cases h
    exact ⟨_, _, _, _, _, _, _, rfl, rfl, rfl, rfl, rfl, rfl, rfl, rfl⟩
  · rintro ⟨sink, grp, sorters, sels, fil, spl, pre, h1, h2, h3, h4, h5, h6, h7, rfl⟩
    rw [h1, h2, h3, h4, h5, h6, h7]

/-- converse direction, ready to use -/
theorem build_of_parts (orc : Oracles) (c : Cfg) {sink grp sorters sels fil spl pre}
    (h1 : sinkPart c = .ok sink) (h2 : grpPart c = .ok grp) (h3 : sortPart c = .ok sorters)
    (h4 : selPart c = .ok sels) (h5 : filPart c = .ok fil) (h6 : splPart c = .ok spl)
    (h7 : prePart orc c = .ok pre) :
    build orc c = .ok (mkPipeline sink (assemble c pre spl fil sels sorters grp)) :=
  (build_ok_iff orc c _).mpr ⟨_, _, _, _, _, _, _, h1, h2, h3, h4, h5, h6, h7, rfl⟩

theorem sinkLen_mkPipeline (sink : SinkCfg) (all : List (StageCfg × StageSt)) :
    (mkPipeline sink all).sinkLen = (mkPipeline sink all).titles.length := rfl

/-! ### the shape of each part -/

theorem collect_shape (vars : List (Str × JV)) (defs : List (Str × Expr)) (l : List (Str × PreSetVal))
    (r : List StageCfg) (h : build.collect vars defs l = .ok r) : ∃ v d, r = [.preset v d] := by
  induction l generalizing vars defs with
  | nil =>
    unfold build.collect at h
    cases h
    exact ⟨_, _, rfl⟩
  | cons x xs ih =>
    obtain ⟨k, v⟩ := x
    cases v with
    | value v =>
      unfold build.collect at h
      split at h
      · cases h
      · exact ih _ _ h
    | macro_ e =>
      unfold build.collect at h
      split at h
      · cases h
      · exact ih _ _ h

theorem grpPart_of_none {c : Cfg} (h : c.group = none) : grpPart c = .ok [] := by
  unfold grpPart; rw [h]

theorem grpPart_of_merge {c : Cfg} (h : c.group = some none) : grpPart c = .ok [.merge] := by
  unfold grpPart; rw [h]

theorem grpPart_of_some {c : Cfg} {g : Str} {e : Expr} (h : c.group = some (some g))
    (hg : parseOptionExpr g = .ok e) : grpPart c = .ok [.group e] := by
  unfold grpPart; rw [h]; simp only [hg]; rfl

theorem filPart_of_some {c : Cfg} {f : Str} {e : Expr} (h : c.filter = some f)
    (hf : parseOptionExpr f = .ok e) : filPart c = .ok [.filter e] := by
  unfold filPart; rw [h]; simp only [hf]; rfl

theorem splPart_of_some {c : Cfg} {f : Str} {e : Expr} (h : c.split = some f)
    (hf : parseOptionExpr f = .ok e) : splPart c = .ok [.split e] := by
  unfold splPart; rw [h]; simp only [hf]; rfl

theorem grpPart_of_group {c : Cfg} {g : Str} {grp : List StageCfg} (h : c.group = some (some g))
    (hp : grpPart c = .ok grp) : ∃ e, parseOptionExpr g = .ok e ∧ grp = [.group e] := by
  unfold grpPart at hp
  rw [h] at hp
  simp only [bind, Except.bind] at hp
  cases he : parseOptionExpr g with
  | error x => rw [he] at hp; cases hp
  | ok e =>
    rw [he] at hp
    cases hp
    exact ⟨e, rfl, rfl⟩

theorem filPart_shape {c : Cfg} {fil : List StageCfg} (h : filPart c = .ok fil) :
    fil = [] ∨ ∃ e, fil = [.filter e] := by
  unfold filPart at h
  split at h
  · simp only [bind, Except.bind] at h
    split at h
    · cases h
    · exact .inr ⟨_, (Except.ok.inj h).symm⟩
  · exact .inl (Except.ok.inj h).symm

theorem splPart_shape {c : Cfg} {spl : List StageCfg} (h : splPart c = .ok spl) :
    spl = [] ∨ ∃ e, spl = [.split e] := by
  unfold splPart at h
  split at h
  · simp only [bind, Except.bind] at h
    split at h
    · cases h
    · exact .inr ⟨_, (Except.ok.inj h).symm⟩
  · exact .inl (Except.ok.inj h).symm

theorem prePart_shape {orc : Oracles} {c : Cfg} {pre : List StageCfg} (h : prePart orc c = .ok pre) :
    pre = [] ∨ ∃ vars defs, pre = [.preset vars defs] := by
  unfold prePart at h
  split at h
  · exact .inl (Except.ok.inj h).symm
  · simp only [bind, Except.bind] at h
    split at h
    · cases h
    · exact .inr (collect_shape _ _ _ _ h)

theorem grpPart_shape {c : Cfg} {grp : List StageCfg} (h : grpPart c = .ok grp) :
    grp = [] ∨ (∃ e, grp = [.group e]) ∨ grp = [.merge] := by
  cases hg : c.group with
  | none => rw [grpPart_of_none hg] at h; exact .inl (Except.ok.inj h).symm
  | some o =>
    cases o with
    | none => rw [grpPart_of_merge hg] at h; exact .inr (.inr (Except.ok.inj h).symm)
    | some g =>
      obtain ⟨e, -, he⟩ := grpPart_of_group hg h
      exact .inr (.inl ⟨e, he⟩)

/-! ### the chain in blocks -/

abbrev Pairs := List (StageCfg × StageSt)

def simple (l : List StageCfg) : Pairs := l.map (fun s => (s, s.init none))

def selStages (sels : List (Str × Expr)) : List StageCfg :=
  sels.reverse.map (fun (n, e) => StageCfg.select n e)

/-- the stages before `--unique`: preset, split, filter, selections -/
def front (pre spl fil : List StageCfg) (sels : List (Str × Expr)) : Pairs :=
  simple pre ++ simple spl ++ simple fil ++ simple (selStages sels)

def uniqStage (u : Bool) : Pairs := simple (if u then [.unique] else [])

def sortStages (cap : Option Nat) (sorters : List (Expr × Bool)) : Pairs :=
  (sorters.zipIdx.map (fun ((e, desc), i) =>
    (StageCfg.sort e desc, StageSt.sort [] (if i = 0 then cap else none)))).reverse

def limitStage (skip : Nat) (take : Option Nat) : Pairs :=
  simple (if skip = 0 ∧ take.isNone then [] else [.limit skip take])

theorem assemble_eq (c : Cfg) (pre spl fil : List StageCfg) (sels : List (Str × Expr))
    (sorters : List (Expr × Bool)) (grp : List StageCfg) :
    assemble c pre spl fil sels sorters grp
      = front pre spl fil sels ++ uniqStage c.unique ++
        sortStages (c.take.map (fun t => c.skip + t)) sorters ++ limitStage c.skip c.take ++ simple grp := rfl

theorem simple_cfgs (l : List StageCfg) : (simple l).map (·.1) = l := by
  simp [simple, List.map_map, Function.comp_def]

/-! A property of (stage, state) pairs holds of every pair of a block as soon as it holds of the pairs the block can
hold; for a property of stages take `fun x => Q x.1`. -/

theorem simple_forall (Q : StageCfg × StageSt → Prop) {l : List StageCfg} (h : ∀ s ∈ l, Q (s, s.init none)) :
    ∀ x ∈ simple l, Q x := by
  intro x hx
  obtain ⟨s, hs, rfl⟩ := List.mem_map.mp hx
  exact h s hs

theorem front_forall (Q : StageCfg × StageSt → Prop) {pre spl fil : List StageCfg}
    (hpre : ∀ s ∈ pre, Q (s, s.init none)) (hspl : ∀ s ∈ spl, Q (s, s.init none))
    (hfil : ∀ s ∈ fil, Q (s, s.init none)) (hsel : ∀ n e, Q (.select n e, (StageCfg.select n e).init none))
    (sels : List (Str × Expr)) : ∀ x ∈ front pre spl fil sels, Q x := by
  intro x hx
  simp only [front, List.mem_append] at hx
  rcases hx with ((hx | hx) | hx) | hx
  · exact simple_forall Q hpre x hx
  · exact simple_forall Q hspl x hx
  · exact simple_forall Q hfil x hx
  · refine simple_forall Q (fun s hs => ?_) x hx
    obtain ⟨y, -, rfl⟩ := List.mem_map.mp hs
    exact hsel _ _

theorem uniqStage_forall (Q : StageCfg × StageSt → Prop) (h : Q (.unique, StageCfg.unique.init none)) (u : Bool) :
    ∀ x ∈ uniqStage u, Q x :=
  simple_forall Q (by cases u <;> simp [h])

theorem sortStages_forall (Q : StageCfg × StageSt → Prop) (h : ∀ e d cap, Q (.sort e d, .sort [] cap))
    (cap : Option Nat) (sorters : List (Expr × Bool)) : ∀ x ∈ sortStages cap sorters, Q x := by
  intro x hx
  simp only [sortStages, List.mem_reverse, List.mem_map] at hx
  obtain ⟨y, -, rfl⟩ := hx
  exact h _ _ _

theorem limitStage_forall (Q : StageCfg × StageSt → Prop)
    (h : ∀ s t, Q (.limit s t, (StageCfg.limit s t).init none)) (skip : Nat) (take : Option Nat) :
    ∀ x ∈ limitStage skip take, Q x :=
  simple_forall Q (by split <;> simp [h])

/-- … hence of every pair of the chain, if it holds of the pairs in front of the grouper / merger and of that one -/
theorem assemble_forall (Q : StageCfg × StageSt → Prop) {c : Cfg} {pre spl fil grp : List StageCfg}
    (hpre : ∀ s ∈ pre, Q (s, s.init none)) (hspl : ∀ s ∈ spl, Q (s, s.init none))
    (hfil : ∀ s ∈ fil, Q (s, s.init none)) (hsel : ∀ n e, Q (.select n e, (StageCfg.select n e).init none))
    (hu : Q (.unique, StageCfg.unique.init none)) (hsort : ∀ e d cap, Q (.sort e d, .sort [] cap))
    (hl : ∀ s t, Q (.limit s t, (StageCfg.limit s t).init none)) (hgrp : ∀ s ∈ grp, Q (s, s.init none))
    (sels : List (Str × Expr)) (sorters : List (Expr × Bool)) :
    ∀ x ∈ assemble c pre spl fil sels sorters grp, Q x := by
  intro x hx
  rw [assemble_eq] at hx
  simp only [List.mem_append] at hx
  rcases hx with (((hx | hx) | hx) | hx) | hx
  · exact front_forall Q hpre hspl hfil hsel sels x hx
  · exact uniqStage_forall Q hu _ x hx
  · exact sortStages_forall Q hsort _ _ x hx
  · exact limitStage_forall Q hl _ _ x hx
  · exact simple_forall Q hgrp x hx

/-- the optional parts hold at most the stage of their option -/
theorem prePart_forall {orc : Oracles} {c : Cfg} {pre : List StageCfg} (h : prePart orc c = .ok pre)
    (Q : StageCfg → Prop) (hq : ∀ v d, Q (.preset v d)) : ∀ s ∈ pre, Q s := by
  rcases prePart_shape h with rfl | ⟨v, d, rfl⟩ <;> simp [hq]

theorem splPart_forall {c : Cfg} {spl : List StageCfg} (h : splPart c = .ok spl)
    (Q : StageCfg → Prop) (hq : ∀ e, Q (.split e)) : ∀ s ∈ spl, Q s := by
  rcases splPart_shape h with rfl | ⟨e, rfl⟩ <;> simp [hq]

theorem filPart_forall {c : Cfg} {fil : List StageCfg} (h : filPart c = .ok fil)
    (Q : StageCfg → Prop) (hq : ∀ e, Q (.filter e)) : ∀ s ∈ fil, Q s := by
  rcases filPart_shape h with rfl | ⟨e, rfl⟩ <;> simp [hq]

end Jawk.RunCor
