/-
  Rows up to their locations.  `posFree`/`number`: a row without its locations.  `eraseBy g`: a row with its input
  context rewritten by `g` (`erase`: line and column zeroed); the documented composition commutes with it when no
  expression sees the rewriting (`specRows_congr`), and an expression does not see it when a syntactic check
  passes (`Blind`, `callFn_blind`, `eval_eraseBy`; `NoPos`, `chainNoPos` for line and column).
  (Namespace `Jawk.Noise`, shared with Noise.lean and NoiseStream.lean.)
-/
import Jawk.Lemmas.RunSpec
import Jawk.Lemmas.Subst
namespace Jawk.Noise
open Jawk Jawk.Pipe Jawk.Fuel Jawk.RunSpec Reader

/-! ### rows without their locations -/

/-- a row without its locations: the value, the ordinal in the file, the ordinal in the run -/
def posFree (x : Ctx) : JV × Option (Nat × Nat) := (x.input, x.ictx.map (fun ic => (ic.fileIndex, ic.index)))

/-- values numbered from `(i, k)` on -/
def number : Nat → Nat → List JV → List (JV × Option (Nat × Nat))
  | _, _, [] => []
  | i, k, v :: vs => (v, some (i, k)) :: number (i + 1) (k + 1) vs

/-- the ordinals of the rows are determined by the values read -/
theorem ctxsOf_posFree (c : Cfg) (fuel : Nat) (r : Reader) (i k : Nat) :
    (ctxsOf c fuel r i k).map posFree = number i k ((ctxsOf c fuel r i k).map (·.input)) := by
  induction fuel generalizing r i k with
  | zero => rfl
  | succ fuel ih =>
    rcases hn : r.nextJson with ⟨res, r'⟩
    cases res with
    | error e =>
      simp only [ctxsOf, hn]
      split
      · exact ih _ _ _
      · rfl
    | ok o =>
      cases o with
      | none => simp only [ctxsOf, hn]; rfl
      | some v =>
        simp only [ctxsOf, hn]
        split
        · exact ih _ _ _
        · simp only [List.map_cons, number, ih]
          rfl

/-! ### rows that differ in their locations only

The parser never changes the name part of the reader's location. -/

/-- the action keeps the name in the reader's location -/
structure PName {α} (m : PM α) : Prop where
  name : ∀ r, (m r).2.loc.name = r.loc.name

theorem next_pname : PName Reader.next := by
  constructor
  intro r
  rcases r.next_cases with ⟨_, e⟩ | ⟨_, _, e⟩ | ⟨rest, _, _, e⟩ | ⟨b, rest, _, _, e⟩ <;> rw [e]
  split <;> rfl

theorem pname_closed : PM.Closed PName :=
  .of_rel (fun r r' => r'.loc.name = r.loc.name) (fun _ => ⟨fun h => h.name, fun h => ⟨h⟩⟩) (fun _ => rfl)
    (fun h1 h2 => h2.trans h1) next_pname.name

structure ValueName (fuel : Nat) : Prop where
  value : PName (nextValue fuel)
  array : PName (readArray fuel)
  arrayLoop : ∀ acc, PName (readArrayLoop fuel acc)
  object : PName (readObject fuel)
  objectLoop : ∀ acc, PName (readObjectLoop fuel acc)

theorem valueName (fuel : Nat) : ValueName fuel :=
  ⟨pname_closed.nextValue _, pname_closed.readArray _, pname_closed.readArrayLoop _, pname_closed.readObject _,
    pname_closed.readObjectLoop _⟩

/-- `nextJson` never changes the name in the reader's location -/
theorem nextJson_name (r : Reader) : (Reader.nextJson r).2.loc.name = r.loc.name :=
  (valueName _).value.name r

/-- a location without its line and column -/
def eraseLoc (l : Loc) : Loc := { name := l.name, line := 0, col := 0 }

def eraseI (ic : InputCtx) : InputCtx :=
  { ic with startLoc := eraseLoc ic.startLoc, endLoc := eraseLoc ic.endLoc }

/-- a row without the line/column of its start and end locations (file name and ordinals kept) -/
def erase (x : Ctx) : Ctx := { x with ictx := x.ictx.map eraseI }

/-- a row with its input context rewritten by `g`; `erase` is `eraseBy eraseI` (`erase_eq_eraseBy`) -/
def eraseBy (g : InputCtx → InputCtx) (x : Ctx) : Ctx := { x with ictx := x.ictx.map g }

theorem erase_eq_eraseBy : erase = eraseBy eraseI := rfl

/-- the erased row of a value read from the source `name` with ordinals `ord` -/
def mkRow (name : Option Str) (x : JV × Option (Nat × Nat)) : Ctx :=
  { input := x.1,
    ictx := x.2.map (fun ik => { startLoc := { name := name, line := 0, col := 0 },
                                 endLoc := { name := name, line := 0, col := 0 },
                                 fileIndex := ik.1, index := ik.2 }) }

/-- the rows of a source, locations erased, are determined by the values read and the source's name -/
theorem ctxsOf_erase (c : Cfg) (fuel : Nat) (r : Reader) (i k : Nat) :
    (ctxsOf c fuel r i k).map erase
      = (number i k ((ctxsOf c fuel r i k).map (·.input))).map (mkRow r.loc.name) := by
  induction fuel generalizing r i k with
  | zero => rfl
  | succ fuel ih =>
    have hname := nextJson_name r
    rcases hn : r.nextJson with ⟨res, r'⟩
    rw [hn] at hname
    simp only at hname
    cases res with
    | error e =>
      simp only [ctxsOf, hn]
      split
      · rw [ih, hname]
      · rfl
    | ok o =>
      cases o with
      | none => simp only [ctxsOf, hn]; rfl
      | some v =>
        simp only [ctxsOf, hn]
        split
        · rw [ih, hname]
        · simp only [List.map_cons, number, ih, hname]
          congr 1
          simp only [erase, mkRow, eraseI, eraseLoc, Option.map_some, hname]

theorem ofBytes_name (bs : List Byte) (name : Option Str) : (Reader.ofBytes bs name).loc.name = name := rfl

/-! ### the documented composition does not look at locations unless an expression does -/

/-- the four positional input-context readers (`file-name` and the two ordinals are not positional) -/
def ICtxKind.positional : ICtxKind → Bool
  | .startLine | .endLine | .startChar | .endChar => true
  | _ => false

mutual
/-- the expression reads neither line nor column: no positional input-context node, and no call of
`parse_selection` (which evaluates an expression parsed at run time) -/
def NoPos : Expr → Bool
  | .ictx k => !ICtxKind.positional k
  | .call fn args => fn != "parse_selection" && NoPosList args
  | _ => true
def NoPosList : List Expr → Bool
  | [] => true
  | e :: es => NoPos e && NoPosList es
end

theorem noPosList_iff (l : List Expr) : NoPosList l = true ↔ ∀ e ∈ l, NoPos e = true := by
  induction l with
  | nil => simp [NoPosList]
  | cons x xs ih => simp [NoPosList, ih]

/-- no macro definition reads line or column -/
def DefsNoPos (defs : List (Str × Expr)) : Prop := ∀ p ∈ defs, NoPos p.2 = true

theorem defsNoPos_nil : DefsNoPos [] := fun _ h => by cases h

/-- the (total) evaluator gives the same answer for `e` whatever the line/column of the row, as long as the
macros in scope do not read them either -/
def PosIndep (ev : Expr → Ctx → Option JV) (e : Expr) : Prop :=
  ∀ x : Ctx, DefsNoPos x.defs → ev e (erase x) = ev e x

/-- no expression of the chain, and no macro a `--set @name=…` defines, reads line or column -/
def ChainPosIndep (ev : Expr → Ctx → Option JV) (cfgs : List StageCfg) : Prop :=
  (∀ c ∈ cfgs, ∀ e ∈ stageExprs c, PosIndep ev e) ∧
  (∀ vars defs, StageCfg.preset vars defs ∈ cfgs → DefsNoPos defs)

/-- every row's macros are position free -/
def RowsOK (rows : List Ctx) : Prop := ∀ x ∈ rows, DefsNoPos x.defs

theorem erase_build (x : Ctx) : (erase x).build = x.build := rfl
theorem erase_key (x : Ctx) : (erase x).key = x.key := rfl
theorem erase_defs (x : Ctx) : (erase x).defs = x.defs := rfl

theorem rowsOK_erase {rows : List Ctx} (h : RowsOK rows) : RowsOK (rows.map erase) := by
  intro y hy
  obtain ⟨x, hx, rfl⟩ := List.mem_map.mp hy
  exact h x hx

/-! What follows holds for any rewriting `g` of the input context, and any property `D` of macro tables that the
empty table has: `eraseI` with `DefsNoPos` here, positions and ordinals with `DefsNoOrd` in `ConcatRun`. -/

section EraseBy
variable {g : InputCtx → InputCtx} {D : List (Str × Expr) → Prop} {ev : Expr → Ctx → Option JV}

theorem sinkBytes_eraseBy (sink : SinkCfg) (n : Nat) (x : Ctx) :
    sinkBytes sink n (eraseBy g x) = sinkBytes sink n x := by
  cases sink <;> rfl

theorem dedupFrom_eraseBy (seen : List CtxKey) (rows : List Ctx) :
    dedupFrom seen (rows.map (eraseBy g)) = (dedupFrom seen rows).map (eraseBy g) := by
  induction rows generalizing seen with
  | nil => rfl
  | cons x rows ih =>
    simp only [List.map_cons, dedupFrom, show (eraseBy g x).key = x.key from rfl]
    by_cases hc : (seen.any fun s => s.same x.key) = true
    · simp only [hc, if_true]
      exact ih _
    · simp only [hc, Bool.false_eq_true, if_false, List.map_cons, ih]

theorem keyed_eraseBy (key : Expr) (rows : List Ctx)
    (hk : ∀ x ∈ rows, ev key (eraseBy g x) = ev key x) :
    keyed ev key (rows.map (eraseBy g)) = (keyed ev key rows).map (fun kc => (kc.1, eraseBy g kc.2)) := by
  induction rows with
  | nil => rfl
  | cons x rows ih =>
    have ih' := ih (fun y hy => hk y (by simp [hy]))
    simp only [keyed, List.map_cons, List.filterMap_cons, hk x (by simp)] at ih' ⊢
    cases ev key x with
    | none => simpa using ih'
    | some k => simpa using ih'

theorem takeOpt_map {α β} (f : α → β) (n : Option Nat) (l : List α) :
    takeOpt n (l.map f) = (takeOpt n l).map f := by
  cases n <;> simp [takeOpt, List.map_take]

theorem groupOf_eraseBy (e : Expr) (rows : List Ctx)
    (he : ∀ x ∈ rows, ev e (eraseBy g x) = ev e x) :
    groupOf ev e (rows.map (eraseBy g)) = groupOf ev e rows := by
  unfold groupOf
  generalize ([] : List (Str × List JV)) = acc
  induction rows generalizing acc with
  | nil => rfl
  | cons x rows ih =>
    simp only [List.map_cons, List.foldl_cons, he x (by simp), show (eraseBy g x).build = x.build from rfl]
    exact ih (fun y hy => he y (by simp [hy])) _

/-- one stage commutes with the rewriting, if its expressions do not see it -/
theorem stageSpec_eraseBy (c : StageCfg) (cap : Option Nat)
    (hc : ∀ e ∈ stageExprs c, ∀ x : Ctx, D x.defs → ev e (eraseBy g x) = ev e x)
    (rows : List Ctx) (hrows : ∀ x ∈ rows, D x.defs) :
    stageSpec ev c cap (rows.map (eraseBy g)) = (stageSpec ev c cap rows).map (eraseBy g) := by
  cases c with
  | preset vars defs =>
    simp only [stageSpec, List.map_map]
    rfl
  | split e =>
    have he := hc e (by simp [stageExprs])
    simp only [stageSpec]
    induction rows with
    | nil => rfl
    | cons x rows ih =>
      simp only [List.map_cons, List.flatMap_cons, List.map_append, ih (List.forall_mem_cons.mp hrows).2, he x (List.forall_mem_cons.mp hrows).1]
      congr 1
      cases ev e x with
      | none => rfl
      | some v =>
        cases v <;> first | rfl | (simp only [List.map_map]; rfl)
  | filter e =>
    have he := hc e (by simp [stageExprs])
    simp only [stageSpec]
    induction rows with
    | nil => rfl
    | cons x rows ih =>
      simp only [List.map_cons, List.filter_cons, he x (List.forall_mem_cons.mp hrows).1, ih (List.forall_mem_cons.mp hrows).2]
      split <;> rfl
  | select name e =>
    have he := hc e (by simp [stageExprs])
    simp only [stageSpec, List.map_map]
    apply List.map_congr_left
    intro x hx
    simp only [Function.comp, he x (hrows x hx)]
    rfl
  | unique => exact dedupFrom_eraseBy [] rows
  | sort key desc =>
    have hk := hc key (by simp [stageExprs])
    simp only [stageSpec]
    rw [keyed_eraseBy key rows (fun x hx => hk x (hrows x hx)),
      SortSpec.sortDir_map JV.cmp (·.1) (fun kc : JV × Ctx => (kc.1, eraseBy g kc.2)) (fun _ => rfl), ← takeOpt_map]
    simp only [List.map_map]
    rfl
  | limit skip take =>
    simp only [stageSpec]
    rw [← takeOpt_map, List.map_drop]
  | group e =>
    have he := hc e (by simp [stageExprs])
    simp only [stageSpec, groupOf_eraseBy e rows (fun x hx => he x (hrows x hx))]
    rfl
  | merge =>
    simp only [stageSpec, List.map_map]
    rfl

/-- one stage keeps the property of the macros in scope -/
theorem stageSpec_defs (hD : D []) (c : StageCfg) (cap : Option Nat)
    (hp : ∀ vars defs, c = .preset vars defs → D defs) (rows : List Ctx) (hrows : ∀ x ∈ rows, D x.defs) :
    ∀ y ∈ stageSpec ev c cap rows, D y.defs := by
  cases c with
  | preset vars defs =>
    intro y hy
    simp only [stageSpec, List.mem_map] at hy
    obtain ⟨x, _, rfl⟩ := hy
    exact hp vars defs rfl
  | split e =>
    intro y hy
    simp only [stageSpec, List.mem_flatMap] at hy
    obtain ⟨x, hx, hy⟩ := hy
    cases hv : ev e x with
    | none => simp [hv] at hy
    | some v =>
      cases v <;> simp only [hv, List.not_mem_nil] at hy
      obtain ⟨w, _, rfl⟩ := List.mem_map.mp hy
      exact hrows x hx
  | filter e => exact fun y hy => hrows y (List.filter_sublist.subset hy)
  | select name e =>
    intro y hy
    simp only [stageSpec, List.mem_map] at hy
    obtain ⟨x, hx, rfl⟩ := hy
    exact hrows x hx
  | unique => exact fun y hy => hrows y ((dedupFrom_sublist [] rows).subset hy)
  | sort key desc =>
    intro y hy
    simp only [stageSpec] at hy
    have hy' := (takeOpt_sublist cap _).subset hy
    obtain ⟨kc, hkc, rfl⟩ := List.mem_map.mp hy'
    exact hrows _ (mem_keyed ev key rows kc ((SortSpec.sortDir_perm Order.cmp_total_preorder _ _ _).mem_iff.mp hkc)).1
  | limit skip take =>
    exact fun y hy => hrows y (((takeOpt_sublist take _).trans (List.drop_sublist _ _)).subset hy)
  | group e =>
    intro y hy
    simp only [stageSpec, List.mem_singleton] at hy
    subst hy
    exact hD
  | merge =>
    intro y hy
    simp only [stageSpec, List.mem_singleton] at hy
    subst hy
    exact hD

/-- the documented composition commutes with the rewriting -/
theorem specRows_eraseBy (hD : D []) (cfgs : List StageCfg) (sts : List StageSt)
    (h : (∀ c ∈ cfgs, ∀ e ∈ stageExprs c, ∀ x : Ctx, D x.defs → ev e (eraseBy g x) = ev e x) ∧
      ∀ vars defs, StageCfg.preset vars defs ∈ cfgs → D defs)
    (rows : List Ctx) (hrows : ∀ x ∈ rows, D x.defs) :
    specRows ev cfgs sts (rows.map (eraseBy g)) = (specRows ev cfgs sts rows).map (eraseBy g) := by
  induction cfgs generalizing sts rows with
  | nil => simp [specRows]
  | cons c cs ih =>
    cases sts with
    | nil => simp [specRows]
    | cons st sts =>
      simp only [specRows]
      rw [stageSpec_eraseBy c _ (h.1 c (by simp)) rows hrows]
      exact ih sts ⟨fun c' hc' => h.1 c' (by simp [hc']), fun v d hd => h.2 v d (by simp [hd])⟩ _
        (stageSpec_defs hD c _ (fun v d hcd => h.2 v d (by simp [hcd])) rows hrows)

/-- If no expression of the chain (and no macro in scope) sees the rewriting, the bytes the sink writes for
`specRows` depend on the rows only up to it. -/
theorem specRows_congr (hD : D []) (cfgs : List StageCfg) (sts : List StageSt) (sink : SinkCfg) (n : Nat)
    (h : (∀ c ∈ cfgs, ∀ e ∈ stageExprs c, ∀ x : Ctx, D x.defs → ev e (eraseBy g x) = ev e x) ∧
      ∀ vars defs, StageCfg.preset vars defs ∈ cfgs → D defs)
    (rows₁ rows₂ : List Ctx) (h₁ : ∀ x ∈ rows₁, D x.defs) (h₂ : ∀ x ∈ rows₂, D x.defs)
    (heq : rows₁.map (eraseBy g) = rows₂.map (eraseBy g)) :
    (specRows ev cfgs sts rows₁).flatMap (sinkBytes sink n)
      = (specRows ev cfgs sts rows₂).flatMap (sinkBytes sink n) := by
  have key : ∀ rows : List Ctx,
      rows.flatMap (sinkBytes sink n) = (rows.map (eraseBy g)).flatMap (sinkBytes sink n) := by
    intro rows
    induction rows with
    | nil => rfl
    | cons x rows ih => simp only [List.map_cons, List.flatMap_cons, sinkBytes_eraseBy, ih]
  rw [key (specRows ev cfgs sts rows₁), key (specRows ev cfgs sts rows₂),
    ← specRows_eraseBy hD cfgs sts h _ h₁, ← specRows_eraseBy hD cfgs sts h _ h₂, heq]

end EraseBy

/-- If no expression of the chain (and no macro in scope) reads line or column, the
bytes the sink writes for `specRows` depend on the rows only up to their line/column: two row lists that agree
once locations are erased (same values, same ordinals, same file names) give the same output. -/
theorem specRows_congr_input (ev : Expr → Ctx → Option JV) (cfgs : List StageCfg) (sts : List StageSt)
    (sink : SinkCfg) (n : Nat) (h : ChainPosIndep ev cfgs) (rows₁ rows₂ : List Ctx)
    (h₁ : RowsOK rows₁) (h₂ : RowsOK rows₂) (heq : rows₁.map erase = rows₂.map erase) :
    (specRows ev cfgs sts rows₁).flatMap (sinkBytes sink n)
      = (specRows ev cfgs sts rows₂).flatMap (sinkBytes sink n) :=
  specRows_congr (g := eraseI) defsNoPos_nil cfgs sts sink n h rows₁ rows₂ h₁ h₂ (erase_eq_eraseBy ▸ heq)

/-- the rows the read loop makes have no macro in scope -/
theorem ctxsOf_defs (c : Cfg) (fuel : Nat) (r : Reader) (inFile idx : Nat) :
    ∀ ctx ∈ ctxsOf c fuel r inFile idx, ctx.defs = [] := by
  induction fuel generalizing r inFile idx with
  | zero => intro ctx h; cases h
  | succ fuel ih =>
    intro ctx h
    unfold ctxsOf at h
    split at h
    · split at h
      · exact ih _ _ _ ctx h
      · rcases List.mem_cons.mp h with rfl | h
        · rfl
        · exact ih _ _ _ ctx h
    · cases h
    · split at h
      · exact ih _ _ _ ctx h
      · cases h

theorem ctxsOfSources_rowsOK (c : Cfg) (sources : List Source) (idx : Nat) :
    RowsOK (ctxsOfSources c sources idx) := by
  induction sources generalizing idx with
  | nil => intro ctx h; cases h
  | cons src rest ih =>
    intro ctx h
    unfold ctxsOfSources at h
    rcases List.mem_append.mp h with h | h
    · rw [ctxsOf_defs _ _ _ _ _ ctx h]
      exact defsNoPos_nil
    · exact ih _ ctx h
/-! ### which expressions do not read line/column: every `NoPos` expression

`callFn` hands its context to the evaluator only through `withInput` / `withVariable` / `withDefinition`, and
never reads the input context itself: a map on contexts that commutes with the three, such as `erase`, is not
seen by a function body. -/

/-- a map on contexts that a function body cannot tell from the identity: it commutes with the three ways a body
extends its context and keeps what a body reads of it -/
structure Blind (φ : Ctx → Ctx) : Prop where
  withInput : ∀ c v, (φ c).withInput v = φ (c.withInput v)
  withVariable : ∀ c n v, (φ c).withVariable n v = φ (c.withVariable n v)
  withDefinition : ∀ c n d, (φ c).withDefinition n d = φ (c.withDefinition n d)
  input : ∀ c, (φ c).input = c.input
  getVariable : ∀ c n, (φ c).getVariable n = c.getVariable n
  getDefinition : ∀ c n, (φ c).getDefinition n = c.getDefinition n

theorem callFn_macro (ev : Ev) (orc : Oracles) (args : List Expr) (ctx : Ctx) :
    callFn ev orc "@" args ctx = (do
      match strArg (← applyArg ev args ctx 0) with
      | some n =>
        match ctx.getDefinition n with
        | some d => ev d ctx
        | none => .ok none
      | none => .ok none) := rfl

theorem applyArg_congr {ev : Ev} {args : List Expr} {c c' : Ctx} (h : ∀ e ∈ args, ev e c = ev e c') (i : Nat) :
    applyArg ev args c i = applyArg ev args c' i := by
  unfold applyArg
  split
  · next e he => exact h e (List.mem_of_getElem? he)
  · rfl

theorem args_of_mem {Q : Expr → Expr → Prop} : ∀ {l : List Expr}, (∀ e ∈ l, Q e e) → Subst.Args Q l l
  | [], _ => .nil
  | e :: _, h => .cons (h e (by simp)) (args_of_mem fun a ha => h a (by simp [ha]))

variable {φ : Ctx → Ctx} {ev : Ev} {fn : String} {args : List Expr} {x : Ctx}

/-- A function body gives the same result in `φ x` as in `x` when its arguments do (in every context with the
macros of `x`, and under the macro it defines), and so does the macro it expands.  `@` is done by hand, since
`Subst.Hyp2.same` asks for every expression what is known here of the macros in scope only; every other body is
parametric in its context (`Subst.callFn_le2`, once from `φ x` to `x` and once back). -/
theorem callFn_blind (hφ : Blind φ) (orc : Oracles)
    (arg : ∀ e ∈ args, ∀ c : Ctx, c.defs = x.defs → ev e (φ c) = ev e c)
    (defn : fn = "define" → ∀ e ∈ args, ∀ n, ∀ d ∈ args, ev e (φ (x.withDefinition n d)) = ev e (x.withDefinition n d))
    (mac : fn = "@" → ∀ n d, x.getDefinition n = some d → ev d (φ x) = ev d x)
    (parsed : fn ≠ "parse_selection") :
    callFn ev orc fn args (φ x) = callFn ev orc fn args x := by
  by_cases hm : fn = "@"
  · subst hm
    rw [callFn_macro, callFn_macro, applyArg_congr (fun e he => arg e he x rfl)]
    congr 1
    funext v
    cases strArg v with
    | none => rfl
    | some n =>
      dsimp only
      rw [hφ.getDefinition]
      cases hd : x.getDefinition n with
      | none => rfl
      | some d => exact mac rfl n d hd
  · have hset : ∀ k v, applyArg ev args ((φ x).withVariable k v) 2 = applyArg ev args (x.withVariable k v) 2 :=
      fun k v => by
        rw [hφ.withVariable]
        exact applyArg_congr (fun e he => arg e he (x.withVariable k v) rfl) 2
    have hdef : fn = "define" → ∀ k d, args[1]? = some d →
        applyArg ev args ((φ x).withDefinition k d) 2 = applyArg ev args (x.withDefinition k d) 2 :=
      fun h k d hd => by
        rw [hφ.withDefinition]
        exact applyArg_congr (fun e he => defn h e he k d (List.mem_of_getElem? hd)) 2
    apply Subst.Le.antisymm
    · exact Subst.callFn_le2 (CR := fun c c' => c = φ c' ∧ c'.defs = x.defs)
        { cr0 := ⟨rfl, rfl⟩
          crIn := fun c c' v h => ⟨by rw [h.1, hφ.withInput], h.2⟩
          inp := fun c c' h => by rw [h.1, hφ.input]
          rel := args_of_mem fun e he c c' h => by rw [h.1, arg e he c' h.2]; exact Subst.Le.refl _
          same := fun h => (h.elim hm parsed).elim
          var := fun _ k => hφ.getVariable x k
          mac := fun _ k => hφ.getDefinition x k
          setb := fun _ r k v _ _ => Subst.Le.of_eq (hset k v)
          defb := fun h => ⟨rfl, fun r k d _ _ hd => Subst.Le.of_eq (hdef h k d hd)⟩ }
    · exact Subst.callFn_le2 (CR := fun c c' => c' = φ c ∧ c.defs = x.defs)
        { cr0 := ⟨rfl, rfl⟩
          crIn := fun c c' v h => ⟨by rw [h.1, hφ.withInput], h.2⟩
          inp := fun c c' h => by rw [h.1, hφ.input]
          rel := args_of_mem fun e he c c' h => by rw [h.1, arg e he c h.2]; exact Subst.Le.refl _
          same := fun h => (h.elim hm parsed).elim
          var := fun _ k => (hφ.getVariable x k).symm
          mac := fun _ k => (hφ.getDefinition x k).symm
          setb := fun _ r k v _ _ => Subst.Le.of_eq (hset k v).symm
          defb := fun h => ⟨rfl, fun r k d _ _ hd => Subst.Le.of_eq (hdef h k d hd).symm⟩ }

/-- local hypotheses on the evaluator handed to a function body: it does not see the erasure -/
structure HypE (ev : Ev) (fn : String) (args : List Expr) (x : Ctx) : Prop where
  arg : ∀ e ∈ args, ∀ c : Ctx, c.defs = x.defs → ev e (erase c) = ev e c
  defn : fn = "define" → ∀ e ∈ args, ∀ n, ∀ d ∈ args, ev e (erase (x.withDefinition n d)) = ev e (x.withDefinition n d)
  mac : fn = "@" → ∀ n d, x.getDefinition n = some d → ev d (erase x) = ev d x
  parsed : fn ≠ "parse_selection"

theorem erase_withVariable (x : Ctx) (n : Str) (v : JV) : (erase x).withVariable n v = erase (x.withVariable n v) := rfl
theorem erase_withDefinition (x : Ctx) (n : Str) (d : Expr) : (erase x).withDefinition n d = erase (x.withDefinition n d) := rfl
theorem erase_input (x : Ctx) : (erase x).input = x.input := rfl
theorem erase_getVariable (x : Ctx) (n : Str) : (erase x).getVariable n = x.getVariable n := rfl
theorem erase_getDefinition (x : Ctx) (n : Str) : (erase x).getDefinition n = x.getDefinition n := rfl

theorem eraseBy_blind (g : InputCtx → InputCtx) : Blind (eraseBy g) :=
  ⟨fun _ _ => rfl, fun _ _ _ => rfl, fun _ _ _ => rfl, fun _ => rfl, fun _ _ => rfl, fun _ _ => rfl⟩

theorem DefsNoPos.lookup {defs : List (Str × Expr)} (h : DefsNoPos defs) {n : Str} {d : Expr}
    (hd : Ctx.lookup defs n = some d) : NoPos d = true := by
  exact h _ (Ctx.lookup_mem hd)

/-- An expression passing a syntactic check `P` evaluates to the same result (value, nothing, or abort) in
`eraseBy g x` as in `x`, provided the macros in scope pass it too — at every fuel, for every oracle.  Of `P`: an
input-context node that passes reads a field `g` keeps; a call that passes is not `parse_selection` (which
evaluates an expression parsed at run time) and its arguments pass. -/
theorem eval_eraseBy (g : InputCtx → InputCtx) (P : Expr → Prop)
    (hictx : ∀ k, P (.ictx k) → ∀ ic, k.get (g ic) = k.get ic)
    (hcall : ∀ fn args, P (.call fn args) → fn ≠ "parse_selection" ∧ ∀ a ∈ args, P a)
    (orc : Oracles) (fuel : Nat) (e : Expr) (x : Ctx) (he : P e) (hd : ∀ p ∈ x.defs, P p.2) :
    eval orc fuel e (eraseBy g x) = eval orc fuel e x := by
  induction fuel generalizing e x with
  | zero => rfl
  | succ fuel ih =>
    have hmac : ∀ n d, x.getDefinition n = some d → P d := fun n d hg =>
      hd _ (Ctx.lookup_mem hg)
    cases e with
    | extract p s => rfl
    | const v => rfl
    | var n => rfl
    | selected n => rfl
    | ictx k =>
      simp only [eval, eraseBy]
      cases x.ictx with
      | none => rfl
      | some ic => exact congrArg Except.ok (hictx k he ic)
    | «macro» n =>
      simp only [eval, show (eraseBy g x).getDefinition n = x.getDefinition n from rfl]
      cases hg : x.getDefinition n with
      | none => rfl
      | some d => exact ih d x (hmac n d hg) hd
    | call fn args =>
      obtain ⟨hfn, hargs⟩ := hcall fn args he
      simp only [eval]
      refine callFn_blind (eraseBy_blind g) orc ?_ ?_ ?_ hfn
      · intro a ha c hc
        exact ih a c (hargs a ha) (by rw [hc]; exact hd)
      · intro _ a ha n d hdm
        refine ih a _ (hargs a ha) ?_
        intro p hp
        rcases List.mem_cons.mp hp with rfl | hp
        · exact hargs d hdm
        · exact hd p hp
      · intro _ n d hg
        exact ih d x (hmac n d hg) hd

/-- A `NoPos` expression evaluates to the same result (value, nothing, or abort) whatever the
line/column of the row, provided the macros in scope are `NoPos` too — at every fuel, for every oracle. -/
theorem eval_erase (orc : Oracles) (fuel : Nat) (e : Expr) (x : Ctx) (he : NoPos e = true)
    (hd : DefsNoPos x.defs) : eval orc fuel e (erase x) = eval orc fuel e x :=
  erase_eq_eraseBy ▸ eval_eraseBy eraseI (NoPos · = true)
    (fun k hk ic => by cases k <;> first | rfl | exact absurd hk (by decide))
    (fun fn args h => by simpa [NoPos, noPosList_iff] using h) orc fuel e x he hd

/-- a `NoPos` expression is position independent, for every oracle -/
theorem posIndep_of_noPos (orc : Oracles) (e : Expr) (h : NoPos e = true) : PosIndep (evalT orc) e := by
  intro x hx
  simp only [evalT, eval_erase orc evalFuel e x h hx]

/-- the decidable check on a chain: every stage expression and every `--set @name=…` macro is `NoPos` -/
def chainNoPos : List StageCfg → Bool
  | [] => true
  | c :: cs =>
    NoPosList (stageExprs c) &&
    (match c with
      | .preset _ defs => NoPosList (defs.map (·.2))
      | _ => true) && chainNoPos cs

/-- a chain that passes the check reads no line or column -/
theorem chainPosIndep_of_noPos (orc : Oracles) (cfgs : List StageCfg) (h : chainNoPos cfgs = true) :
    ChainPosIndep (evalT orc) cfgs := by
  induction cfgs with
  | nil =>
    constructor
    · intro c hc; cases hc
    · intro _ _ hc; cases hc
  | cons c cs ih =>
    simp only [chainNoPos, Bool.and_eq_true] at h
    obtain ⟨⟨h1, h2⟩, h3⟩ := h
    obtain ⟨i1, i2⟩ := ih h3
    constructor
    · intro c' hc' e he
      rcases List.mem_cons.mp hc' with rfl | hc'
      · exact posIndep_of_noPos orc e ((noPosList_iff _).mp h1 e he)
      · exact i1 c' hc' e he
    · intro vars defs hc'
      rcases List.mem_cons.mp hc' with rfl | hc'
      · intro p hp
        exact (noPosList_iff _).mp h2 p.2 (List.mem_map.mpr ⟨p, hp, rfl⟩)
      · exact i2 vars defs hc'

/-- a position-reading expression is not position independent: `&start-line` distinguishes two rows that
differ in line only -/
example (orc : Oracles) : ¬ PosIndep (evalT orc) (.ictx .startLine) := by
  intro h
  have := h { ictx := some { startLoc := { line := 7 }, endLoc := {}, fileIndex := 0, index := 0 } } defsNoPos_nil
  simp [evalT, evalFuel, eval, erase, eraseI, eraseLoc, ICtxKind.get] at this

/-- non-vacuity: `exampleCfg` (`-f .b -s .a -o .a --skip 1 -t 2`) passes the check -/
theorem examplePipeline_posIndep (orc : Oracles) : ChainPosIndep (evalT orc) examplePipeline.cfgs :=
  chainPosIndep_of_noPos orc _ rfl

/-- a chain with function calls, a macro and the non-positional input-context readers passes the check:
`-f (>= (size .) &index)` after `--set @m=(concat &file-name "x")`, selecting `@m` -/
example : chainNoPos
    [.preset [] [("m".toList, .call "concat" [.ictx .fileName, .const (.str "x".toList)])],
     .filter (.call ">=" [.call "size" [.extract 0 []], .ictx .index]),
     .select "m".toList (.macro "m".toList)] = true := by rfl

/-- … while one that reads the start line, directly or through `parse_selection`, does not -/
example : chainNoPos [.filter (.call "=" [.ictx .startLine, .const (.num (.pos 1))])] = false := by rfl
example : chainNoPos [.select "s".toList (.call "parse_selection" [.const (.str "&start-line".toList)])] = false := by
  rfl

/-- non-vacuity of `eval_erase`: its hypotheses hold for `(size .)` on any row without macros -/
example (orc : Oracles) (x : Ctx) (hx : x.defs = []) :
    eval orc evalFuel (.call "size" [.extract 0 []]) (erase x) = eval orc evalFuel (.call "size" [.extract 0 []]) x :=
  eval_erase orc _ _ x rfl (by rw [hx]; exact defsNoPos_nil)

end Jawk.Noise
