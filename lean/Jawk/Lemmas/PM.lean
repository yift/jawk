/-
  Basic rewriting lemmas for the parser monads `PM` / `EM` and the reader primitives.
-/
import Jawk.Model.Expr
namespace Jawk
open Reader

@[simp] theorem PM.pure_apply {α} (a : α) (r : Reader) : (pure a : PM α) r = (.ok a, r) := rfl

@[simp] theorem PM.bind_apply {α β} (m : PM α) (f : α → PM β) (r : Reader) :
    (m >>= f) r = match m r with
      | (.ok a, r') => f a r'
      | (.error e, r') => (.error e, r') := rfl

@[simp] theorem PM.fail_apply {α} (e : PErr) (r : Reader) : (PM.fail e : PM α) r = (.error e, r) := rfl

@[simp] theorem locErr_apply {α} (mk : Loc → PErr) (r : Reader) : (locErr mk : PM α) r = (.error (mk r.loc), r) := rfl

@[simp] theorem EM.pure_apply {α} (a : α) (r : Reader) : (pure a : EM α) r = (.ok a, r) := rfl

@[simp] theorem EM.bind_apply {α β} (m : EM α) (f : α → EM β) (r : Reader) :
    (m >>= f) r = match m r with
      | (.ok a, r') => f a r'
      | (.error e, r') => (.error e, r') := rfl

theorem PM.bind_ok {α β} {m : PM α} {f : α → PM β} {r r' : Reader} {a : α}
    (h : m r = (.ok a, r')) : (m >>= f) r = f a r' := by
  simp [PM.bind_apply, h]

theorem PM.bind_ok_inv {α β} {m : PM α} {f : α → PM β} {r r' : Reader} {b : β}
    (h : (m >>= f) r = (.ok b, r')) : ∃ a r1, m r = (.ok a, r1) ∧ f a r1 = (.ok b, r') := by
  rw [PM.bind_apply] at h
  split at h
  · rename_i a r1 hm; exact ⟨a, r1, hm, h⟩
  · cases h

theorem EM.bind_ok {α β} {m : EM α} {f : α → EM β} {r r' : Reader} {a : α}
    (h : m r = (.ok a, r')) : (m >>= f) r = f a r' := by
  simp [EM.bind_apply, h]

theorem liftP_ok {α} {m : PM α} {r r' : Reader} {a : α} (h : m r = (.ok a, r')) :
    liftP m r = (.ok a, r') := by simp [liftP, h]

/-- `next`, case by case: once the end of input was seen nothing changes; on an exhausted stream the end is
recorded and the look-ahead byte dropped; a read fault is pulled and reported; a byte is pulled, becomes the
look-ahead byte and moves the location. -/
theorem Reader.next_cases (r : Reader) :
    (r.eof = true ∧ Reader.next r = (.ok none, r)) ∨
    (r.eof = false ∧ r.rest = [] ∧ Reader.next r = (.ok none, { r with eof := true, cur := none })) ∨
    (∃ rest, r.eof = false ∧ r.rest = .err :: rest ∧
      Reader.next r = (.error .io, { r with rest := rest, pulled := r.pulled + 1 })) ∨
    (∃ b rest, r.eof = false ∧ r.rest = .byte b :: rest ∧
      Reader.next r = (.ok (some b), { r with
        rest := rest, cur := some b, pulled := r.pulled + 1,
        loc := if b = 10 then { r.loc with line := r.loc.line + 1, col := 1 }
               else { r.loc with col := r.loc.col + 1 } })) := by
  obtain ⟨rest, cur, eof, loc, pulled⟩ := r
  cases eof with
  | true => exact .inl ⟨rfl, rfl⟩
  | false =>
    cases rest with
    | nil => exact .inr (.inl ⟨rfl, rfl, rfl⟩)
    | cons it rest =>
      cases it with
      | err => exact .inr (.inr (.inl ⟨rest, rfl, rfl, rfl⟩))
      | byte b => exact .inr (.inr (.inr ⟨b, rest, rfl, rfl, rfl⟩))

/-- the fuel `nextJson` hands to `nextValue`; it is enough: `Fuel.nextJson_fuel` -/
theorem Reader.nextJson_def (r : Reader) : r.nextJson = nextValue (4 * r.rest.length + 10) r := rfl

/-- `peek` with a current byte returns it and leaves the reader alone -/
theorem peek_of_cur (r : Reader) (b : Byte) (h : r.cur = some b) : Reader.peek r = (.ok (some b), r) := by
  simp [Reader.peek, h]

/-- `peek` without a current byte is `next` -/
theorem peek_of_no_cur (r : Reader) (h : r.cur = none) : Reader.peek r = Reader.next r := by
  simp [Reader.peek, h]

/-- `eat_whitespace` stops at once on a byte that is not white space -/
theorem eatWhitespace_of_nonws (fuel : Nat) (r r1 : Reader) (b : Byte)
    (hp : Reader.peek r = (.ok (some b), r1)) (hws : isWs b = false) :
    eatWhitespace (fuel + 1) r = (.ok (), r1) := by
  simp [eatWhitespace, hp, hws]

end Jawk
