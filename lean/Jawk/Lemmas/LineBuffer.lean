/-
  The process boundary of standard output (C20 / C16, finding F25): `std::io::Stdout` is a `LineWriter` over a
  `BufWriter` of 1024 bytes.  Rows that end with a line feed are handed to the descriptor at once; whatever follows the
  last line feed stays in the buffer until the buffer fills, another line is completed, or the process ends.

  * `conservation`       as long as no write has failed, delivered ++ pending = everything written, in order
  * `flushed_main_delivers`  `main` WITH the final flush: exit status 0 ⇒ every byte `go` wrote is on the descriptor
  * `unflushed_main_loses`   `main` WITHOUT it: a run that exits 0 with its output lost (the witness of F25)
-/
import Jawk.Model.Stages
namespace Jawk.LineBuffer
open Jawk

/-- the line-buffered writer: the descriptor behind it and the bytes not yet handed to it -/
structure LW where
  dev : Writer
  buf : List Byte := []
  deriving Inhabited

/-- everything accepted so far, in order: what the descriptor got, then what is pending -/
def LW.total (s : LW) : List Byte := s.dev.out ++ s.buf

/-- `BufWriter::flush_buf` -/
def flushBuf (s : LW) : LW := { dev := s.dev.put s.buf, buf := [] }

/-- a step that is only taken when nothing has failed so far (`?`) -/
def andThen (s1 : LW) (f : LW → LW) : LW := if s1.dev.failed then s1 else f s1

/-- the second half of `BufWriter::write_all`: a piece as large as the buffer goes straight through -/
def bufPush (cap : Nat) (s1 : LW) (bs : List Byte) : LW :=
  if bs.length ≥ cap then { s1 with dev := s1.dev.put bs } else { s1 with buf := s1.buf ++ bs }

/-- `BufWriter::write_all`: make room first -/
def bufPut (cap : Nat) (s : LW) (bs : List Byte) : LW :=
  andThen (if s.buf.length + bs.length > cap then flushBuf s else s) (fun s1 => bufPush cap s1 bs)

/-- index of the last line feed -/
def lastLF (bs : List Byte) : Option Nat :=
  let i := (bs.reverse.findIdx (· == 10))
  if i < bs.length then some (bs.length - 1 - i) else none

/-- `LineWriterShim::write_all` -/
def lwPut (cap : Nat) (s : LW) (bs : List Byte) : LW :=
  match lastLF bs with
  | none =>
    andThen (if s.buf.getLast? = some 10 then flushBuf s else s) (fun s1 => bufPut cap s1 bs)
  | some i =>
    andThen (if s.buf = [] then { s with dev := s.dev.put (bs.take (i + 1)) } else flushBuf (bufPut cap s (bs.take (i + 1))))
      (fun s1 => bufPut cap s1 (bs.drop (i + 1)))

/-- a run's writes, one after the other (a failed write ends the run: nothing is written after it, which the sticky
`failed` flag of `Writer` models) -/
def writes (cap : Nat) (s : LW) (ws : List (List Byte)) : LW := ws.foldl (lwPut cap) s

/-! ### the descriptor -/

theorem put_of_failed (w : Writer) (bs : List Byte) (h : w.failed = true) : w.put bs = w := by
  simp [Writer.put, h]

theorem put_ok (w : Writer) (bs : List Byte) (h : (w.put bs).failed = false) :
    (w.put bs).out = w.out ++ bs ∧ w.failed = false := by
  cases hw : w.failed with
  | true => rw [put_of_failed w bs hw, hw] at h; cases h
  | false =>
    refine ⟨?_, rfl⟩
    unfold Writer.put at h ⊢
    rw [hw] at h ⊢
    cases hr : w.room with
    | none => rfl
    | some k =>
      by_cases hk : bs.length ≤ k
      · simp only [hk, if_true, Bool.false_eq_true, if_false]
      · simp [hr, hk] at h

/-! ### conservation -/

theorem andThen_ok (s1 : LW) (f : LW → LW) (h : (andThen s1 f).dev.failed = false) :
    s1.dev.failed = false ∧ andThen s1 f = f s1 := by
  unfold andThen at h ⊢
  cases hf : s1.dev.failed with
  | true => rw [hf, if_pos rfl, hf] at h; cases h
  | false => exact ⟨rfl, if_neg Bool.false_ne_true⟩

theorem flushBuf_total (s : LW) (h : (flushBuf s).dev.failed = false) :
    (flushBuf s).total = s.total ∧ s.dev.failed = false := by
  have := put_ok s.dev s.buf h
  exact ⟨by simp only [flushBuf, LW.total, this.1, List.append_nil], this.2⟩

theorem bufPush_total (cap : Nat) (s1 : LW) (bs : List Byte) (hb : bs.length ≥ cap → s1.buf = [])
    (h : (bufPush cap s1 bs).dev.failed = false) :
    (bufPush cap s1 bs).total = s1.total ++ bs ∧ s1.dev.failed = false := by
  unfold bufPush at h ⊢
  by_cases hbig : bs.length ≥ cap
  · rw [if_pos hbig] at h ⊢
    have := put_ok s1.dev bs h
    refine ⟨?_, this.2⟩
    show (s1.dev.put bs).out ++ s1.buf = s1.total ++ bs
    rw [this.1, hb hbig]; simp only [LW.total, hb hbig, List.append_nil]
  · rw [if_neg hbig] at h ⊢
    exact ⟨by simp only [LW.total, List.append_assoc], h⟩

theorem bufPut_total (cap : Nat) (s : LW) (bs : List Byte) (h : (bufPut cap s bs).dev.failed = false) :
    (bufPut cap s bs).total = s.total ++ bs ∧ s.dev.failed = false := by
  unfold bufPut at h ⊢
  have ha := andThen_ok _ _ h
  rw [ha.2] at h ⊢
  by_cases hroom : s.buf.length + bs.length > cap
  · rw [if_pos hroom] at h ha ⊢
    have hfl := flushBuf_total s ha.1
    have := bufPush_total cap (flushBuf s) bs (fun _ => rfl) h
    exact ⟨by rw [this.1, hfl.1], hfl.2⟩
  · rw [if_neg hroom] at h ha ⊢
    exact bufPush_total cap s bs (fun hbig => List.length_eq_zero_iff.mp (by omega)) h

theorem lwPut_total (cap : Nat) (s : LW) (bs : List Byte) (h : (lwPut cap s bs).dev.failed = false) :
    (lwPut cap s bs).total = s.total ++ bs ∧ s.dev.failed = false := by
  unfold lwPut at h ⊢
  cases hl : lastLF bs with
  | none =>
    simp only [hl] at h ⊢
    have ha := andThen_ok _ _ h
    rw [ha.2] at h ⊢
    by_cases hlf : s.buf.getLast? = some 10
    · rw [if_pos hlf] at h ha ⊢
      have h1 := bufPut_total cap (flushBuf s) bs h
      have h0 := flushBuf_total s ha.1
      exact ⟨by rw [h1.1, h0.1], h0.2⟩
    · rw [if_neg hlf] at h ha ⊢
      exact bufPut_total cap s bs h
  | some i =>
    simp only [hl] at h ⊢
    have ha := andThen_ok _ _ h
    rw [ha.2] at h ⊢
    by_cases he : s.buf = []
    · rw [if_pos he] at h ha ⊢
      have h0 := put_ok s.dev (bs.take (i + 1)) ha.1
      have h1 := bufPut_total cap { s with dev := s.dev.put (bs.take (i + 1)) } (bs.drop (i + 1)) h
      refine ⟨?_, h0.2⟩
      rw [h1.1]
      show ((s.dev.put (bs.take (i + 1))).out ++ s.buf) ++ bs.drop (i + 1) = s.total ++ bs
      rw [h0.1, he]
      simp only [LW.total, he, List.append_nil, List.append_assoc, List.take_append_drop]
    · rw [if_neg he] at h ha ⊢
      have h2 := bufPut_total cap _ (bs.drop (i + 1)) h
      have h1 := flushBuf_total _ ha.1
      have h0 := bufPut_total cap s (bs.take (i + 1)) h1.2
      refine ⟨?_, h0.2⟩
      rw [h2.1, h1.1, h0.1, List.append_assoc, List.take_append_drop]

/-- as long as no write has failed, what the descriptor got followed by what is pending is exactly what
was written, in order -/
theorem conservation (cap : Nat) (ws : List (List Byte)) (s : LW) (h : (writes cap s ws).dev.failed = false) :
    (writes cap s ws).total = s.total ++ ws.flatten ∧ s.dev.failed = false := by
  induction ws generalizing s with
  | nil => exact ⟨by simp [writes], h⟩
  | cons w ws ih =>
    have h' : (writes cap (lwPut cap s w) ws).dev.failed = false := h
    have h1 := ih (lwPut cap s w) h'
    have h0 := lwPut_total cap s w h1.2
    refine ⟨?_, h0.2⟩
    show (writes cap (lwPut cap s w) ws).total = _
    rw [h1.1, h0.1]; simp

/-! ### `main` with and without the final flush -/

/-- `main` with the final flush: run, then flush; exit status 0 only if that flush succeeded too -/
def flushedMain (cap : Nat) (dev : Writer) (ws : List (List Byte)) : Nat × Writer :=
  let s := flushBuf (writes cap { dev := dev } ws)
  (if s.dev.failed then 255 else 0, s.dev)

/-- `main` without it: the runtime flushes at exit and IGNORES the result -/
def unflushedMain (cap : Nat) (dev : Writer) (ws : List (List Byte)) : Nat × Writer :=
  let s := writes cap { dev := dev } ws
  (if s.dev.failed then 255 else 0, (flushBuf s).dev)

/-- with the final flush, exit status 0 means every byte `go` wrote reached the descriptor, in order -/
theorem flushed_main_delivers (cap : Nat) (dev : Writer) (ws : List (List Byte))
    (h : (flushedMain cap dev ws).1 = 0) : (flushedMain cap dev ws).2.out = dev.out ++ ws.flatten := by
  unfold flushedMain at h ⊢
  simp only at h ⊢
  have hf : (flushBuf (writes cap { dev := dev } ws)).dev.failed = false := by
    by_cases hx : (flushBuf (writes cap { dev := dev } ws)).dev.failed = true
    · simp [hx] at h
    · simpa using hx
  have h1 := flushBuf_total _ hf
  have h0 := conservation cap ws { dev := dev } h1.2
  have : (flushBuf (writes cap { dev := dev } ws)).total = dev.out ++ ws.flatten := by
    rw [h1.1, h0.1]; simp [LW.total]
  simpa [LW.total, flushBuf] using this

/-- F25: without it, a run whose only row does not end with a line feed exits 0 on a full device with its output lost;
with it the same run exits 255 -/
theorem unflushed_main_loses :
    (unflushedMain 1024 { room := some 0 } [[49, 44]]).1 = 0 ∧ (unflushedMain 1024 { room := some 0 } [[49, 44]]).2.out = [] ∧
    (flushedMain 1024 { room := some 0 } [[49, 44]]).1 = 255 := by
  decide

/-- and with a line feed the failure always was reported: the row goes to the descriptor at once -/
example : (unflushedMain 1024 { room := some 0 } [[49, 10]]).1 = 255 := by decide

/-- non-vacuity of `flushed_main_delivers`: a healthy descriptor gets both rows, also the one without a line feed -/
example : (flushedMain 1024 {} [[49, 10], [50, 44]]).1 = 0 ∧ (flushedMain 1024 {} [[49, 10], [50, 44]]).2.out = [49, 10, 50, 44] := by
  decide

end Jawk.LineBuffer
