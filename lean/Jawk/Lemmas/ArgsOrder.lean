/-
  C03 — the command line means the same in every argument order, except for the relative order of the
  occurrences of a repeatable option and of the positionals; and an option means the same in every spelling.

  Order (over the tokens `lexAll` produces):
  * `collect_isSome_iff`      acceptance, stated without mentioning order
  * `collect_of`, `collect_files`   what is collected, per family
  * `collect_order_independent`, `parseArgs_order_independent`   same multiset, same order within each family ⇒ same answer
    (`SameUpToFamilyOrder`; its `Perm` part matters only for unknown tokens, which the family filters do not see)
  * `swap_adjacent_toks`, `swap_adjacent`, `swap_adjacent_two_args`   the same for a swap of two neighbours
  Spellings (over the arguments):
  * `lexAll_cons`             the equation of `lexAll` without its step count
  * `short_*`, `long_*`       one spelling each; `option_spellings`, `respell_anywhere` put them together
  * `repeated_order_matters`, `unique_twice_rejected`, non-vacuity examples
-/
import Jawk.Model.Args
namespace Jawk.Args
open Jawk

/-! ## vocabulary -/

/-- `t` is an occurrence of option `o` -/
def isOpt (o : Opt) : Tok → Bool
  | .opt o' _ => decide (o' = o)
  | _ => false

/-- `t` is a positional -/
def isFile : Tok → Bool
  | .file _ => true
  | _ => false

/-- the value of an occurrence of `o` -/
def optVal (o : Opt) : Tok → Option (Option Str)
  | .opt o' v => if o' = o then some v else none
  | _ => none

/-- the name of a positional -/
def fileName : Tok → Option Str
  | .file n => some n
  | _ => none

/-- the tokens a command line may contain, each on its own: known, with a value iff its kind wants one, value valid -/
def tokOK : Tok → Bool
  | .other => false
  | .file _ => true
  | .opt o v =>
    match o.kind, v with
    | .flag, none => true
    | .flag, some _ => false
    | .single, some x => valueOK o x
    | .single, none => false
    | .multi, some _ => true
    | .multi, none => false
    | .optValue, _ => true

/-- the number of occurrences of `o` -/
def cnt (o : Opt) (toks : List Tok) : Nat := (toks.filter (isOpt o)).length

/-- what `step` records for an acceptable token -/
def Raw.push (r : Raw) : Tok → Raw
  | .opt o v => { r with occ := r.occ ++ [(o, v)] }
  | .file n => { r with files := r.files ++ [n] }
  | .other => r

/-- the token's option (if it is one that may occur only once) has not been met yet -/
def free (r : Raw) : Tok → Bool
  | .opt o _ => decide (o.kind = .multi) || (r.of o).isEmpty
  | _ => true

/-! ## one step -/

theorem step_eq (r : Raw) (t : Tok) :
    step r t = if tokOK t && free r t then some (r.push t) else none := by
  cases t with
  | other => rfl
  | file n => rfl
  | opt o v =>
    simp only [step, tokOK, free, Raw.push]
    split <;> simp_all [Bool.and_comm]

theorem of_push (r : Raw) (t : Tok) (o : Opt) :
    (r.push t).of o = r.of o ++ (optVal o t).toList := by
  cases t with
  | other => simp [Raw.push, optVal]
  | file n => simp [Raw.push, optVal, Raw.of]
  | opt o' v =>
    by_cases h : o' = o <;> simp [Raw.push, optVal, Raw.of, h]

theorem files_push (r : Raw) (t : Tok) :
    (r.push t).files = r.files ++ (fileName t).toList := by
  cases t <;> simp [Raw.push, fileName]

theorem optVal_isSome (o : Opt) (t : Tok) : (optVal o t).isSome = isOpt o t := by
  cases t with
  | other => rfl
  | file n => rfl
  | opt o' v => by_cases h : o' = o <;> simp [optVal, isOpt, h]

theorem length_of_push (r : Raw) (t : Tok) (o : Opt) :
    ((r.push t).of o).length = (r.of o).length + (if isOpt o t then 1 else 0) := by
  rw [of_push, List.length_append, ← optVal_isSome]
  cases optVal o t <;> rfl

theorem cnt_cons (o : Opt) (t : Tok) (ts : List Tok) :
    cnt o (t :: ts) = (if isOpt o t then 1 else 0) + cnt o ts := by
  unfold cnt
  by_cases h : isOpt o t <;> simp [h, Nat.add_comm]

theorem free_iff (r : Raw) (t : Tok) :
    free r t = true ↔ ∀ o, o.kind ≠ .multi → isOpt o t = true → (r.of o).length = 0 := by
  cases t with
  | other => simp [free, isOpt]
  | file n => simp [free, isOpt]
  | opt o' v =>
    simp only [free, isOpt, Bool.or_eq_true, decide_eq_true_eq, List.isEmpty_iff, List.length_eq_zero_iff]
    constructor
    · intro h o hk ho
      subst ho
      exact h.resolve_left hk
    · intro h
      by_cases hk : o'.kind = .multi
      · exact Or.inl hk
      · exact Or.inr (h o' hk rfl)

/-! ## the whole pass -/

/-- `collect` from any state: what is accepted -/
theorem collect_isSome_gen (toks : List Tok) (r : Raw) :
    (collect r toks).isSome = true ↔
      (∀ t ∈ toks, tokOK t = true) ∧
      ∀ o, o.kind ≠ .multi → (r.of o).length + cnt o toks ≤ 1 ∨ cnt o toks = 0 := by
  induction toks generalizing r with
  | nil => simp [collect, cnt]
  | cons t ts ih =>
    -- per option: `t` may be taken and the rest fits behind it iff `t :: ts` fits
    have key : ∀ o, ((isOpt o t = true → (r.of o).length = 0) ∧
          (((r.push t).of o).length + cnt o ts ≤ 1 ∨ cnt o ts = 0)) ↔
        ((r.of o).length + cnt o (t :: ts) ≤ 1 ∨ cnt o (t :: ts) = 0) := by
      intro o
      rw [length_of_push, cnt_cons]
      cases isOpt o t <;> simp only [Bool.false_eq_true, ↓reduceIte, false_imp_iff, forall_const, true_and] <;> omega
    rw [collect, step_eq]
    simp only [List.mem_cons, forall_eq_or_imp, ← key, forall_and, ← free_iff]
    by_cases hc : (tokOK t && free r t) = true
    · have h := Bool.and_eq_true_iff.mp hc
      rw [if_pos hc]
      simp only [ih, h.1, h.2, true_and]
    · rw [if_neg hc]
      simp only [Option.isSome_none, Bool.false_eq_true, false_iff]
      exact fun ⟨⟨h1, _⟩, h2, _⟩ => hc (by rw [h1, h2]; rfl)

/-- `collect` from any state: what is collected -/
theorem collect_eq_gen (toks : List Tok) (r r' : Raw) (h : collect r toks = some r') :
    (∀ o, r'.of o = r.of o ++ toks.filterMap (optVal o)) ∧ r'.files = r.files ++ toks.filterMap fileName := by
  induction toks generalizing r with
  | nil =>
    simp only [collect, Option.some.injEq] at h
    subst h
    simp
  | cons t ts ih =>
    rw [collect, step_eq] at h
    by_cases hc : (tokOK t && free r t) = true
    · simp only [hc, if_true] at h
      obtain ⟨h1, h2⟩ := ih _ h
      constructor
      · intro o
        rw [h1, of_push, List.append_assoc]
        congr 1
        cases ho : optVal o t <;> simp [ho]
      · rw [h2, files_push, List.append_assoc]
        congr 1
        cases hn : fileName t <;> simp [hn]
    · simp [hc] at h

/-- `collect` succeeds iff every token is acceptable on its own and no flag / single / optional-valued option occurs twice -/
theorem collect_isSome_iff (toks : List Tok) :
    (collect {} toks).isSome = true ↔
      (∀ t ∈ toks, tokOK t = true) ∧ ∀ o, o.kind ≠ .multi → (toks.filter (isOpt o)).length ≤ 1 := by
  rw [collect_isSome_gen]
  apply and_congr_right
  intro _
  apply forall_congr'
  intro o
  apply imp_congr_right
  intro _
  have : (({} : Raw).of o).length = 0 := rfl
  rw [this]
  unfold cnt
  omega

/-- the occurrences of every option, in the order of the command line -/
theorem collect_of' (toks : List Tok) (r : Raw) (h : collect {} toks = some r) (o : Opt) :
    r.of o = toks.filterMap (optVal o) := by
  have := (collect_eq_gen toks {} r h).1 o
  rw [this]
  rfl

/-- the positionals, in the order of the command line -/
theorem collect_files' (toks : List Tok) (r : Raw) (h : collect {} toks = some r) :
    r.files = toks.filterMap fileName := by
  have := (collect_eq_gen toks {} r h).2
  rw [this]
  rfl

/-- `collect_of'` with `optVal` written out -/
theorem collect_of (toks : List Tok) (r : Raw) (h : collect {} toks = some r) (o : Opt) :
    r.of o = toks.filterMap (fun t => match t with | .opt o' v => if o' = o then some v else none | _ => none) := by
  rw [collect_of' toks r h o]
  rfl

/-- `collect_files'` with `fileName` written out -/
theorem collect_files (toks : List Tok) (r : Raw) (h : collect {} toks = some r) :
    r.files = toks.filterMap (fun t => match t with | .file n => some n | _ => none) := by
  rw [collect_files' toks r h]
  rfl

/-! ## `assemble` reads the collected state only through `Raw.of` and `Raw.files` -/

theorem assemble_congr (r r' : Raw) (h : ∀ o, r.of o = r'.of o) (hf : r.files = r'.files) :
    assemble r = assemble r' := by
  have e : r.of = r'.of := funext h
  unfold assemble Raw.single Raw.many Raw.has
  rw [e, hf]

/-! ## order independence -/

/-- same multiset, same order inside every family -/
def SameUpToFamilyOrder (a b : List Tok) : Prop :=
  a.Perm b ∧ (∀ o, a.filter (isOpt o) = b.filter (isOpt o)) ∧ a.filter isFile = b.filter isFile

theorem filterMap_optVal_filter (o : Opt) (l : List Tok) :
    l.filterMap (optVal o) = (l.filter (isOpt o)).filterMap (optVal o) := by
  induction l with
  | nil => rfl
  | cons t ts ih =>
    by_cases hi : isOpt o t = true
    · rw [List.filter_cons_of_pos hi]
      cases ho : optVal o t <;> simp [ho, ih]
    · rw [List.filter_cons_of_neg hi]
      have ho : optVal o t = none := by
        have := optVal_isSome o t
        cases h : optVal o t with
        | none => rfl
        | some v => rw [h] at this; exact absurd this.symm hi
      simp [ho, ih]

theorem filterMap_fileName_filter (l : List Tok) :
    l.filterMap fileName = (l.filter isFile).filterMap fileName := by
  induction l with
  | nil => rfl
  | cons t ts ih =>
    cases t <;> simp [List.filter_cons, isFile, fileName, List.filterMap_cons, ih]

theorem SameUpToFamilyOrder.symm {a b : List Tok} (h : SameUpToFamilyOrder a b) : SameUpToFamilyOrder b a :=
  ⟨h.1.symm, fun o => (h.2.1 o).symm, h.2.2.symm⟩

theorem SameUpToFamilyOrder.refl (a : List Tok) : SameUpToFamilyOrder a a :=
  ⟨List.Perm.refl _, fun _ => rfl, rfl⟩

theorem SameUpToFamilyOrder.trans {a b c : List Tok} (h : SameUpToFamilyOrder a b) (h' : SameUpToFamilyOrder b c) :
    SameUpToFamilyOrder a c :=
  ⟨h.1.trans h'.1, fun o => (h.2.1 o).trans (h'.2.1 o), h.2.2.trans h'.2.2⟩

theorem isSome_of_same {a b : List Tok} (h : SameUpToFamilyOrder a b)
    (ha : (collect {} a).isSome = true) : (collect {} b).isSome = true := by
  rw [collect_isSome_iff] at ha ⊢
  refine ⟨fun t ht => ha.1 t (h.1.mem_iff.mpr ht), fun o hk => ?_⟩
  rw [← h.2.1 o]
  exact ha.2 o hk

/-- two token lists that are permutations of each other and agree on the order within each option family
and within the positionals are both rejected, or both accepted with the same record -/
theorem collect_order_independent (a b : List Tok) (h : SameUpToFamilyOrder a b) :
    (collect {} a).map assemble = (collect {} b).map assemble := by
  cases ha : collect {} a with
  | none =>
    cases hb : collect {} b with
    | none => rfl
    | some rb =>
      have := isSome_of_same h.symm (by rw [hb]; rfl)
      rw [ha] at this
      exact absurd this (by simp)
  | some ra =>
    cases hb : collect {} b with
    | none =>
      have := isSome_of_same h (by rw [ha]; rfl)
      rw [hb] at this
      exact absurd this (by simp)
    | some rb =>
      simp only [Option.map_some, Option.some.injEq]
      apply assemble_congr
      · intro o
        rw [collect_of' a ra ha o, collect_of' b rb hb o, filterMap_optVal_filter, h.2.1 o,
          ← filterMap_optVal_filter]
      · rw [collect_files' a ra ha, collect_files' b rb hb, filterMap_fileName_filter, h.2.2,
          ← filterMap_fileName_filter]

theorem parseArgs_order_independent (a b : List Str) (h : SameUpToFamilyOrder (lexAll a) (lexAll b)) :
    parseArgs a = parseArgs b :=
  collect_order_independent _ _ h

/-! ## corollaries -/

/-- two tokens of the same family: two positionals, or two occurrences of the same option -/
def sameFamily : Tok → Tok → Bool
  | .file _, .file _ => true
  | .opt o _, .opt o' _ => decide (o = o')
  | _, _ => false

theorem filter_swap (p : Tok → Bool) (l₁ l₂ : List Tok) (t₁ t₂ : Tok) (h : ¬ (p t₁ = true ∧ p t₂ = true)) :
    (l₁ ++ t₁ :: t₂ :: l₂).filter p = (l₁ ++ t₂ :: t₁ :: l₂).filter p := by
  simp only [List.filter_append, List.filter_cons]
  by_cases h1 : p t₁ = true <;> by_cases h2 : p t₂ = true <;> simp_all

theorem same_of_swap (l₁ l₂ : List Tok) (t₁ t₂ : Tok) (h : sameFamily t₁ t₂ = false) :
    SameUpToFamilyOrder (l₁ ++ t₁ :: t₂ :: l₂) (l₁ ++ t₂ :: t₁ :: l₂) := by
  refine ⟨List.Perm.append_left _ (List.Perm.swap _ _ _), fun o => filter_swap _ _ _ _ _ ?_, filter_swap _ _ _ _ _ ?_⟩
  · intro ⟨h1, h2⟩
    cases t₁ <;> cases t₂ <;> simp_all [isOpt, sameFamily]
  · intro ⟨h1, h2⟩
    cases t₁ <;> cases t₂ <;> simp_all [isFile, sameFamily]

/-- swapping two adjacent tokens of different families anywhere in the token list changes nothing -/
theorem swap_adjacent_toks (l₁ l₂ : List Tok) (t₁ t₂ : Tok) (h : sameFamily t₁ t₂ = false) :
    (collect {} (l₁ ++ t₁ :: t₂ :: l₂)).map assemble = (collect {} (l₁ ++ t₂ :: t₁ :: l₂)).map assemble :=
  collect_order_independent _ _ (same_of_swap l₁ l₂ t₁ t₂ h)

/-! ## `lexAll` without its step count -/

theorem lexAllF_fuel : ∀ (n m : Nat) (l : List Str), l.length ≤ n → l.length ≤ m → lexAllF n l = lexAllF m l := by
  intro n
  induction n with
  | zero =>
    intro m l hn _
    have : l = [] := List.length_eq_zero_iff.mp (Nat.le_zero.mp hn)
    subst this
    cases m <;> rfl
  | succ n ih =>
    intro m l hn hm
    cases l with
    | nil => cases m <;> rfl
    | cons s rest =>
      cases m with
      | zero => simp at hm
      | succ m =>
        have hrn : rest.length ≤ n := by simpa using hn
        have hrm : rest.length ≤ m := by simpa using hm
        have key : ∀ X : List Str, X.length ≤ rest.length → lexAllF n X = lexAllF m X :=
          fun X hX => ih m X (Nat.le_trans hX hrn) (Nat.le_trans hX hrm)
        have hd : (rest.drop 1).length ≤ rest.length := by simp only [List.length_drop]; omega
        have hif : ∀ b : Bool, (if b = true then rest.drop 1 else rest).length ≤ rest.length := by
          intro b; cases b <;> simp only [Bool.false_eq_true, if_false, if_true] <;> omega
        simp only [lexAllF, key rest (Nat.le_refl _), key _ hd, key _ (hif _)]

theorem lexAll_nil : lexAll [] = [] := rfl

/-- the defining equation of `lexAll` -/
theorem lexAll_cons (s : Str) (rest : List Str) :
    lexAll (s :: rest) =
      match shortBody s with
      | some body =>
        (lexShort body rest.head?).1 ++ lexAll (if (lexShort body rest.head?).2 then rest.drop 1 else rest)
      | none =>
        match lex s with
        | .opt o none =>
          match rest.head? with
          | some v =>
            if o.kind ≠ .flag ∧ isValue v then .opt o (some v) :: lexAll (rest.drop 1)
            else .opt o none :: lexAll rest
          | none => .opt o none :: lexAll rest
        | t => t :: lexAll rest := by
  have key : ∀ X : List Str, X.length ≤ rest.length → lexAllF rest.length X = lexAll X :=
    fun X hX => lexAllF_fuel _ _ _ hX (Nat.le_refl _)
  have hd : (rest.drop 1).length ≤ rest.length := by simp only [List.length_drop]; omega
  have hif : ∀ b : Bool, (if b = true then rest.drop 1 else rest).length ≤ rest.length := by
    intro b; cases b <;> simp only [Bool.false_eq_true, if_false, if_true] <;> omega
  show lexAllF (rest.length + 1) (s :: rest) = _
  simp only [lexAllF, key rest (Nat.le_refl _), key _ hd, key _ (hif _)]
  cases shortBody s <;> rfl

/-! ## arguments that are one token each -/

/-- an argument that is a token of its own whatever follows it: a positional, `--flag`, `--name=value` (a valued
option written without `=value` takes the NEXT argument; a cluster of one-letter options may give several tokens) -/
def oneToken (s : Str) : Bool :=
  (shortBody s).isNone &&
    (match lex s with
     | .opt o none => decide (o.kind = .flag)
     | _ => true)

def OneTokenEach (l : List Str) : Prop := ∀ s ∈ l, oneToken s = true

/-- an argument that is one token is tokenised on its own, whatever follows it -/
theorem lexAll_cons_oneToken (s : Str) (rest : List Str) (h : oneToken s = true) :
    lexAll (s :: rest) = lex s :: lexAll rest := by
  unfold oneToken at h
  simp only [Bool.and_eq_true, Option.isNone_iff_eq_none] at h
  rw [lexAll_cons, h.1]
  cases hl : lex s with
  | file n => rfl
  | other => rfl
  | opt o v =>
    cases v with
    | some x => rfl
    | none =>
      have hk : o.kind = .flag := by simpa [hl] using h.2
      cases rest.head? with
      | none => rfl
      | some v => simp only [hk, ne_eq, not_true_eq_false, false_and, if_false]

theorem lexAll_append_oneToken (l rest : List Str) (h : OneTokenEach l) :
    lexAll (l ++ rest) = l.map lex ++ lexAll rest := by
  induction l with
  | nil => rfl
  | cons s l' ih =>
    rw [List.cons_append, lexAll_cons_oneToken _ _ (h s List.mem_cons_self),
      ih fun x hx => h x (List.mem_cons_of_mem _ hx)]
    rfl

theorem lexAll_eq_map (l : List Str) (h : OneTokenEach l) : lexAll l = l.map lex := by
  have := lexAll_append_oneToken l [] h
  rwa [List.append_nil, lexAll_nil, List.append_nil] at this

/-- swapping two adjacent arguments of different families (not both positionals, not both occurrences of the
same option) anywhere on the command line does not change what `parseArgs` answers — for arguments that are one token
each (`oneToken`): an option written without `=value` takes the argument after it, which must then move with it -/
theorem swap_adjacent (l₁ l₂ : List Str) (s₁ s₂ : Str) (h : sameFamily (lex s₁) (lex s₂) = false)
    (hb : OneTokenEach (l₁ ++ s₁ :: s₂ :: l₂)) :
    parseArgs (l₁ ++ s₁ :: s₂ :: l₂) = parseArgs (l₁ ++ s₂ :: s₁ :: l₂) := by
  have hb' : OneTokenEach (l₁ ++ s₂ :: s₁ :: l₂) := by
    intro x hx
    apply hb x
    simp only [List.mem_append, List.mem_cons] at hx ⊢
    rcases hx with h1 | h1 | h1 | h1
    · exact Or.inl h1
    · exact Or.inr (Or.inr (Or.inl h1))
    · exact Or.inr (Or.inl h1)
    · exact Or.inr (Or.inr (Or.inr h1))
  apply parseArgs_order_independent
  rw [lexAll_eq_map _ hb, lexAll_eq_map _ hb']
  simp only [List.map_append, List.map_cons]
  exact same_of_swap _ _ _ _ h

/-- the exception: a bare `--merge` takes the argument after it as its value -/
theorem bare_merge_takes_next :
    lexAll ["--merge".toList, "f.json".toList] = [.opt .group (some "f.json".toList)] ∧
    lexAll ["f.json".toList, "--merge".toList] = [.file "f.json".toList, .opt .group none] ∧
    lexAll ["--merge".toList, "--unique".toList] = [.opt .group none, .opt .unique none] := by
  decide +kernel

/-! ## every spelling of an option gives the same token -/

/-- no one-letter name is `-` or `=` -/
theorem findShort_ne (c : Char) (o : Opt) (h : findShort c = some o) : c ≠ '-' ∧ c ≠ '=' := by
  have h1 : findShort '-' = none := by decide
  have h2 : findShort '=' = none := by decide
  constructor <;> (intro hc; subst hc; simp_all)

theorem shortBody_short (c : Char) (more : Str) (hc : c ≠ '-') : shortBody ('-' :: c :: more) = some (c :: more) := by
  unfold shortBody
  split <;> simp_all

theorem shortBody_long (x : Str) : shortBody ('-' :: '-' :: x) = none := rfl

/-- `-c value` (two arguments) -/
theorem short_two_args (c : Char) (o : Opt) (v : Str) (rest : List Str) (hc : findShort c = some o)
    (hk : o.kind ≠ .flag) (hv : isValue v = true) :
    lexAll (['-', c] :: v :: rest) = .opt o (some v) :: lexAll rest := by
  rw [lexAll_cons, shortBody_short c [] (findShort_ne c o hc).1]
  simp [lexShort, hc, hk, hv]

/-- `-c=value` -/
theorem short_equals (c : Char) (o : Opt) (v : Str) (rest : List Str) (hc : findShort c = some o)
    (hk : o.kind ≠ .flag) :
    lexAll (('-' :: c :: '=' :: v) :: rest) = .opt o (some v) :: lexAll rest := by
  rw [lexAll_cons, shortBody_short c _ (findShort_ne c o hc).1]
  simp [lexShort, hc, hk]

/-- `-cvalue` -/
theorem short_attached (c : Char) (o : Opt) (v : Str) (rest : List Str) (hc : findShort c = some o)
    (hk : o.kind ≠ .flag) (hv0 : v ≠ []) (hv1 : v.head? ≠ some '=') :
    lexAll (('-' :: c :: v) :: rest) = .opt o (some v) :: lexAll rest := by
  rw [lexAll_cons, shortBody_short c _ (findShort_ne c o hc).1]
  cases v with
  | nil => exact absurd rfl hv0
  | cons x xs =>
    have hx : x ≠ '=' := by simpa using hv1
    simp only [lexShort, hc, hk, if_false]
    split
    · rename_i heq
      simp only [List.cons.injEq] at heq
      exact absurd heq.1 hx
    · rename_i heq
      simp at heq
    · simp

/-- a flag letter in front of a cluster: `-uX…` = `-u` then `-X…` -/
theorem short_flag_first (c : Char) (o : Opt) (more : Str) (rest : List Str) (hc : findShort c = some o)
    (hk : o.kind = .flag) (hm : more ≠ []) (hm1 : more.head? ≠ some '-') :
    lexAll (('-' :: c :: more) :: rest) = .opt o none :: lexAll (('-' :: more) :: rest) := by
  cases more with
  | nil => exact absurd rfl hm
  | cons x xs =>
    have hx : x ≠ '-' := by simpa using hm1
    rw [lexAll_cons, shortBody_short c _ (findShort_ne c o hc).1, lexAll_cons, shortBody_short x _ hx]
    simp [lexShort, hc, hk]

/-- a long name: not empty, no `=` in it -/
def plainName (n : Str) : Bool := !n.isEmpty && !n.contains '='

theorem takeWhile_plain (n rest : Str) (h : n.contains '=' = false) :
    (n ++ '=' :: rest).takeWhile (· ≠ '=') = n ∧ (n ++ '=' :: rest).dropWhile (· ≠ '=') = '=' :: rest := by
  induction n with
  | nil => simp
  | cons x xs ih =>
    simp only [List.contains_cons, Bool.or_eq_false_iff, beq_eq_false_iff_ne, ne_eq] at h
    have hx : x ≠ '=' := fun hh => h.1 hh.symm
    have := ih h.2
    simp only [List.cons_append, List.takeWhile_cons, List.dropWhile_cons, hx, ne_eq, not_false_eq_true,
      decide_true, if_true, this.1, this.2, and_self]

theorem takeWhile_plain_self (n : Str) (h : n.contains '=' = false) :
    n.takeWhile (· ≠ '=') = n ∧ n.dropWhile (· ≠ '=') = [] := by
  induction n with
  | nil => simp
  | cons x xs ih =>
    simp only [List.contains_cons, Bool.or_eq_false_iff, beq_eq_false_iff_ne, ne_eq] at h
    have hx : x ≠ '=' := fun hh => h.1 hh.symm
    have := ih h.2
    simp only [List.takeWhile_cons, List.dropWhile_cons, hx, ne_eq, not_false_eq_true,
      decide_true, if_true, this.1, this.2, and_self]

theorem lex_long_equals (n v : Str) (o : Opt) (hn : findOpt n = some o) (hp : plainName n = true) :
    lex ('-' :: '-' :: (n ++ '=' :: v)) = .opt o (some v) := by
  simp only [plainName, Bool.and_eq_true, Bool.not_eq_true', List.isEmpty_eq_false_iff] at hp
  have ht := takeWhile_plain n v hp.2
  have hne : n ++ '=' :: v ≠ [] := by simp
  simp only [lex, hne, if_false, ht.1, ht.2, hn]

theorem lex_long_bare (n : Str) (o : Opt) (hn : findOpt n = some o) (hp : plainName n = true) :
    lex ('-' :: '-' :: n) = .opt o none := by
  simp only [plainName, Bool.and_eq_true, Bool.not_eq_true', List.isEmpty_eq_false_iff] at hp
  have ht := takeWhile_plain_self n hp.2
  simp only [lex, hp.1, if_false, ht.1, ht.2, hn]

/-- `--name=value` -/
theorem long_equals (n v : Str) (o : Opt) (rest : List Str) (hn : findOpt n = some o) (hp : plainName n = true) :
    lexAll (('-' :: '-' :: (n ++ '=' :: v)) :: rest) = .opt o (some v) :: lexAll rest := by
  rw [lexAll_cons, shortBody_long, lex_long_equals n v o hn hp]

/-- `--name value` (two arguments) -/
theorem long_two_args (n v : Str) (o : Opt) (rest : List Str) (hn : findOpt n = some o) (hp : plainName n = true)
    (hk : o.kind ≠ .flag) (hv : isValue v = true) :
    lexAll (('-' :: '-' :: n) :: v :: rest) = .opt o (some v) :: lexAll rest := by
  rw [lexAll_cons, shortBody_long, lex_long_bare n o hn hp]
  simp [hk, hv]

/-- every long name and visible alias of the table is plain -/
theorem names_plain : (Opt.all.all fun o => o.names.all fun n => plainName n.toList) = true := by decide +kernel

/-- an option that takes a value gives the same token — hence, by `parseArgs`, the same configuration — however
it is written: `--name=value`, `--name value`, `-c value`, `-c=value`, `-cvalue`, under any of its names -/
theorem option_spellings (n n' v : Str) (c : Char) (o : Opt) (rest : List Str)
    (hn : findOpt n = some o) (hp : plainName n = true) (hn' : findOpt n' = some o) (hp' : plainName n' = true)
    (hc : findShort c = some o) (hk : o.kind ≠ .flag)
    (hv : isValue v = true) (hv0 : v ≠ []) (hv1 : v.head? ≠ some '=') :
    let canonical := lexAll (('-' :: '-' :: (n ++ '=' :: v)) :: rest)
    lexAll (('-' :: '-' :: (n' ++ '=' :: v)) :: rest) = canonical ∧
    lexAll (('-' :: '-' :: n') :: v :: rest) = canonical ∧
    lexAll (['-', c] :: v :: rest) = canonical ∧
    lexAll (('-' :: c :: '=' :: v) :: rest) = canonical ∧
    lexAll (('-' :: c :: v) :: rest) = canonical := by
  simp only [long_equals n v o rest hn hp, long_equals n' v o rest hn' hp', long_two_args n' v o rest hn' hp' hk hv,
    short_two_args c o v rest hc hk hv, short_equals c o v rest hc hk, short_attached c o v rest hc hk hv0 hv1,
    and_self]

/-- an option written in TWO arguments (`--name value`) moves as a pair: swapping the pair with a neighbouring
one-token argument of another family changes nothing -/
theorem swap_adjacent_two_args (l₁ l₂ : List Str) (n v s₂ : Str) (o : Opt)
    (hn : findOpt n = some o) (hp : plainName n = true) (hk : o.kind ≠ .flag) (hv : isValue v = true)
    (h₁ : OneTokenEach l₁) (h₂ : OneTokenEach (s₂ :: l₂)) (hf : sameFamily (.opt o (some v)) (lex s₂) = false) :
    parseArgs (l₁ ++ ('-' :: '-' :: n) :: v :: s₂ :: l₂) = parseArgs (l₁ ++ s₂ :: ('-' :: '-' :: n) :: v :: l₂) := by
  apply parseArgs_order_independent
  have h2' : OneTokenEach l₂ := fun x hx => h₂ x (List.mem_cons_of_mem _ hx)
  have e1 : lexAll (l₁ ++ ('-' :: '-' :: n) :: v :: s₂ :: l₂) =
      l₁.map lex ++ .opt o (some v) :: lex s₂ :: l₂.map lex := by
    rw [lexAll_append_oneToken _ _ h₁, long_two_args n v o _ hn hp hk hv, lexAll_eq_map _ h₂, List.map_cons]
  have e2 : lexAll (l₁ ++ s₂ :: ('-' :: '-' :: n) :: v :: l₂) =
      l₁.map lex ++ lex s₂ :: .opt o (some v) :: l₂.map lex := by
    rw [lexAll_append_oneToken _ _ h₁, lexAll_cons_oneToken _ _ (h₂ s₂ List.mem_cons_self),
      long_two_args n v o _ hn hp hk hv, lexAll_eq_map _ h2']
  rw [e1, e2]
  exact same_of_swap _ _ _ _ hf

/-- anywhere on the line: behind any arguments that are one token each, the occurrence of an option may be
written in any of its spellings — the whole command line is parsed to the same record -/
theorem respell_anywhere (pre rest : List Str) (n n' v : Str) (c : Char) (o : Opt)
    (hpre : OneTokenEach pre)
    (hn : findOpt n = some o) (hp : plainName n = true) (hn' : findOpt n' = some o) (hp' : plainName n' = true)
    (hc : findShort c = some o) (hk : o.kind ≠ .flag)
    (hv : isValue v = true) (hv0 : v ≠ []) (hv1 : v.head? ≠ some '=') :
    let canonical := parseArgs (pre ++ ('-' :: '-' :: (n ++ '=' :: v)) :: rest)
    parseArgs (pre ++ ('-' :: '-' :: (n' ++ '=' :: v)) :: rest) = canonical ∧
    parseArgs (pre ++ ('-' :: '-' :: n') :: v :: rest) = canonical ∧
    parseArgs (pre ++ ['-', c] :: v :: rest) = canonical ∧
    parseArgs (pre ++ ('-' :: c :: '=' :: v) :: rest) = canonical ∧
    parseArgs (pre ++ ('-' :: c :: v) :: rest) = canonical := by
  have h := option_spellings n n' v c o rest hn hp hn' hp' hc hk hv hv0 hv1
  simp only at h
  simp only [parseArgs, lexAll_append_oneToken _ _ hpre, h.1, h.2.1, h.2.2.1, h.2.2.2.1, h.2.2.2.2, and_self]

/-- non-vacuity, and the spellings on a concrete line -/
example : parseArgs ["--choose=.a".toList, "--skip=2".toList, "--unique".toList, "f.json".toList]
    = parseArgs ["-uc".toList, ".a".toList, "-k2".toList, "f.json".toList] := by
  have h : lexAll ["--choose=.a".toList, "--skip=2".toList, "--unique".toList, "f.json".toList] =
        [.opt .select (some ".a".toList), .opt .skip (some "2".toList), .opt .unique none, .file "f.json".toList] ∧
      lexAll ["-uc".toList, ".a".toList, "-k2".toList, "f.json".toList] =
        [.opt .unique none, .opt .select (some ".a".toList), .opt .skip (some "2".toList), .file "f.json".toList] := by
    decide +kernel
  apply parseArgs_order_independent
  rw [h.1, h.2]
  refine ⟨by decide +kernel, fun o => ?_, by decide +kernel⟩
  cases o <;> decide +kernel

/-- what clap does NOT take as a value: an argument that starts with `-` (other than the lone `-`) -/
theorem value_must_not_look_like_an_option :
    (parseArgs ["--skip".toList, "-1".toList]).isNone = true ∧
    (parseArgs ["--choose".toList, "-x".toList]).isNone = true ∧
    lexAll ["--choose".toList, "-".toList] = [.opt .select (some "-".toList)] ∧
    lexAll ["-cu".toList, ".a".toList] = [.opt .select (some "u".toList), .file ".a".toList] := by
  decide +kernel

/-! ## the exception is real; non-vacuity -/

/-- what the examples compare (`Parsed` has no decidable equality) -/
structure View where
  selects : List Str
  sorts : List Str
  skip : Nat
  take : Option Nat
  unique : Bool
  files : List Str
  deriving DecidableEq, Repr

def view (p : Parsed) : View :=
  { selects := p.cfg.selects, sorts := p.cfg.sorts, skip := p.cfg.skip, take := p.cfg.take, unique := p.cfg.unique,
    files := p.files }

/-- the relative order of repeated options DOES matter: swapping two `--select=…` changes the record -/
theorem repeated_order_matters :
    (parseArgs ["--select=.a".toList, "--select=.b".toList]).map view
      ≠ (parseArgs ["--select=.b".toList, "--select=.a".toList]).map view := by
  decide +kernel

theorem repeated_order_matters' :
    parseArgs ["--select=.a".toList, "--select=.b".toList] ≠ parseArgs ["--select=.b".toList, "--select=.a".toList] :=
  fun h => repeated_order_matters (congrArg (Option.map view) h)

/-- … and so does the order of the positionals -/
theorem files_order_matters :
    (parseArgs ["a.json".toList, "b.json".toList]).map view ≠ (parseArgs ["b.json".toList, "a.json".toList]).map view := by
  decide +kernel

/-- a flag given twice is rejected -/
theorem unique_twice_rejected : (parseArgs ["--unique".toList, "--unique".toList]).isNone = true := by
  decide +kernel

theorem unique_once_accepted : (parseArgs ["--unique".toList]).isSome = true := by
  decide +kernel

/-- a command line with two selects, a sort, skip, take, unique and two files … -/
def exA : List Str :=
  ["--select=.a".toList, "--select=.b=B".toList, "--sort-by=.a".toList, "--skip=1".toList, "--take=+10".toList,
   "--unique".toList, "in1.json".toList, "in2.json".toList]

/-- … and a shuffle of it that keeps the selects and the files in their relative order -/
def exB : List Str :=
  ["in1.json".toList, "--unique".toList, "--limit=+10".toList, "--choose=.a".toList, "--skip=1".toList,
   "in2.json".toList, "--order-by=.a".toList, "--select=.b=B".toList]

/-- moving the second select in front of the first is NOT covered by the hypothesis, and indeed changes the record -/
def exC : List Str :=
  ["--select=.b=B".toList, "in1.json".toList, "--unique".toList, "--limit=+10".toList, "--choose=.a".toList,
   "--skip=1".toList, "in2.json".toList, "--order-by=.a".toList]

/-- The tokens of the three lines, in one evaluation: looking a long name up decodes the strings of the name table
in front of it, which the kernel does once per evaluation. -/
theorem ex_toks :
    lexAll exA =
      [.opt .select (some ".a".toList), .opt .select (some ".b=B".toList), .opt .sort (some ".a".toList),
       .opt .skip (some "1".toList), .opt .take (some "+10".toList), .opt .unique none,
       .file "in1.json".toList, .file "in2.json".toList] ∧
    lexAll exB =
      [.file "in1.json".toList, .opt .unique none, .opt .take (some "+10".toList), .opt .select (some ".a".toList),
       .opt .skip (some "1".toList), .file "in2.json".toList, .opt .sort (some ".a".toList),
       .opt .select (some ".b=B".toList)] ∧
    lexAll exC = .opt .select (some ".b=B".toList) :: (lexAll exB).dropLast := by
  decide +kernel

/-- the hypothesis of `parseArgs_order_independent` holds for the pair -/
theorem exAB_same : SameUpToFamilyOrder (lexAll exA) (lexAll exB) := by
  rw [ex_toks.1, ex_toks.2.1]
  refine ⟨by decide +kernel, fun o => ?_, by decide +kernel⟩
  cases o <;> decide +kernel

/-- both are accepted, with the same record (by the theorem) … -/
theorem exAB_eq : parseArgs exA = parseArgs exB := parseArgs_order_independent _ _ exAB_same

/-- … which is the expected one (by evaluation, on both sides) -/
theorem exA_view : (parseArgs exA).map view =
    some { selects := [".a".toList, ".b=B".toList], sorts := [".a".toList], skip := 1, take := some 10, unique := true,
           files := ["in1.json".toList, "in2.json".toList] } := by
  rw [parseArgs, ex_toks.1]
  decide +kernel

theorem exB_view : (parseArgs exB).map view = (parseArgs exA).map view :=
  congrArg _ exAB_eq.symm

theorem exC_differs : (parseArgs exC).map view ≠ (parseArgs exA).map view := by
  rw [exA_view, parseArgs, ex_toks.2.2, ex_toks.2.1]
  decide +kernel

theorem exAC_not_same : ¬ SameUpToFamilyOrder (lexAll exA) (lexAll exC) := by
  intro h
  have := h.2.1 .select
  rw [ex_toks.1, ex_toks.2.2, ex_toks.2.1] at this
  exact absurd this (by decide +kernel)

/-- the `Perm` part of the hypothesis is needed (only) because of unknown tokens: the family filters do not see them -/
example : (∀ o, [Tok.other].filter (isOpt o) = ([] : List Tok).filter (isOpt o))
    ∧ [Tok.other].filter isFile = ([] : List Tok).filter isFile
    ∧ (collect {} [Tok.other]).isSome ≠ (collect {} []).isSome :=
  ⟨fun _ => rfl, rfl, by decide +kernel⟩

/-- the swap corollary on a concrete line: `--skip=1` and `in1.json` change places -/
example : parseArgs ["--unique".toList, "--skip=1".toList, "in1.json".toList, "--take=2".toList]
    = parseArgs ["--unique".toList, "in1.json".toList, "--skip=1".toList, "--take=2".toList] :=
  have h : sameFamily (lex "--skip=1".toList) (lex "in1.json".toList) = false ∧
      ["--unique".toList, "--skip=1".toList, "in1.json".toList, "--take=2".toList].all oneToken = true := by
    decide +kernel
  swap_adjacent ["--unique".toList] ["--take=2".toList] "--skip=1".toList "in1.json".toList h.1 (List.all_eq_true.mp h.2)

/-- rejection is order independent too: an invalid number is rejected wherever it stands -/
example : (parseArgs ["--skip=x".toList, "--unique".toList]).isNone = true
    ∧ (parseArgs ["--unique".toList, "--skip=x".toList]).isNone = true := by
  decide +kernel

end Jawk.Args
