/-
  C02 (fixpoint): feeding jawk's JSON output back into jawk reproduces it byte for byte — the printed rows are read
  back as the values printed, and what the parser returns (on any input) is printable.
-/
import Jawk.Lemmas.NoiseStream
import Jawk.Lemmas.ParseSer
namespace Jawk.Fix
open Jawk Jawk.Pipe Jawk.Fuel Jawk.RunSpec Jawk.RT Jawk.Noise Jawk.C06 Reader

/-! ## the fixpoint (C02) -/

/-- an output-only configuration: JSON output options `jo`, row separator `sep`, everything else default -/
def outCfg (jo : Option JsonOpts) (sep : Str) : Cfg := { jsonOpts := jo, rowSep := sep }

def outPipeline (jo : Option JsonOpts) (sep : Str) : Pipeline :=
  { cfgs := [], sts := [], sink := .json (jo.getD {}) sep, sinkLen := 0, titles := [] }

theorem build_outCfg (orc : Oracles) (jo : Option JsonOpts) (sep : Str) :
    build orc (outCfg jo sep) = .ok (outPipeline jo sep) := rfl


/-! ### printing does not see the difference between a value and its normal form -/

theorem printNum_normNum (n : Num) : printNum (normNum n) = printNum n := by
  cases n with
  | pos n => rfl
  | flt f => rfl
  | neg i =>
    by_cases h : i < 0
    · simp only [normNum, h, if_true]
    · simp only [normNum, printNum, h, if_false]
      congr 1
      omega

mutual
theorem printAt_norm (o : JsonOpts) : ∀ (ind : Nat) (v : JV), printJsonAt o ind (norm v) = printJsonAt o ind v
  | _, .null => by rw [norm]
  | _, .bool b => by rw [norm]
  | _, .num n => by rw [norm, printJsonAt, printJsonAt, printNum_normNum]
  | _, .str s => by rw [norm]
  | _, .arr [] => by rw [norm, normList]
  | ind, .arr (v :: vs) => by
    have h := printElems_norm o (ind + 1) (v :: vs)
    rw [normList] at h
    rw [norm, normList, printJsonAt, printJsonAt, h]
  | _, .obj [] => by rw [norm, normMembers]
  | ind, .obj ((k, v) :: kvs) => by
    have h := printMembers_norm o (ind + 1) ((k, v) :: kvs)
    rw [normMembers] at h
    rw [norm, normMembers, printJsonAt, printJsonAt, h]
theorem printElems_norm (o : JsonOpts) : ∀ (ind : Nat) (vs : List JV),
    printElems o ind (normList vs) = printElems o ind vs
  | _, [] => by rw [normList]
  | ind, [v] => by rw [normList, normList, printElems, printElems, printAt_norm o ind v]
  | ind, v :: w :: vs => by
    have h := printElems_norm o ind (w :: vs)
    rw [normList] at h
    rw [normList, normList, printElems, printElems, printAt_norm o ind v, h]
theorem printMembers_norm (o : JsonOpts) : ∀ (ind : Nat) (kvs : List (Str × JV)),
    printMembers o ind (normMembers kvs) = printMembers o ind kvs
  | _, [] => by rw [normMembers]
  | ind, [(k, v)] => by rw [normMembers, normMembers, printMembers, printMembers, printAt_norm o ind v]
  | ind, (k, v) :: kv :: kvs => by
    have h := printMembers_norm o ind (kv :: kvs)
    obtain ⟨k', v'⟩ := kv
    rw [normMembers] at h
    rw [normMembers, normMembers, printMembers, printMembers, printAt_norm o ind v, h]
end

/-- a value and its normal form (`-0` read back as `0`) are printed alike -/
theorem printJson_norm (o : JsonOpts) (v : JV) : printJson o (norm v) = printJson o v :=
  printAt_norm o 0 v

/-! ### what an output-only run writes -/

/-- With only output options (`jo`, `sep`), every value read is written back as one
JSON row in the chosen style followed by the separator; nothing else is written. -/
theorem run_output_only (orc : Oracles) (jo : Option JsonOpts) (sep : Str) (sources : List Source)
    (wOut wErr : Writer) (hw : Unbounded wOut) (hcl : CleanIO sources) :
    (run orc (outCfg jo sep) sources wOut wErr).result = .ok ()
      ∧ (run orc (outCfg jo sep) sources wOut wErr).stdout
          = wOut.out ++ (ctxsOfSources (outCfg jo sep) sources 0).flatMap
              (fun ctx => utf8 (printJson (jo.getD {}) ctx.input) ++ utf8 sep)
      ∧ (run orc (outCfg jo sep) sources wOut wErr).stderr = wErr.out := by
  obtain ⟨h1, h2, h3⟩ := run_ignore_spec orc (outCfg jo sep) sources wOut wErr (outPipeline jo sep) rfl
    (build_outCfg orc jo sep) (fun c hc => by cases hc) hw hcl (fun h => h)
  refine ⟨h1, ?_, h3⟩
  rw [h2]
  have hh : headerBytes (outPipeline jo sep) = [] := rfl
  rw [hh, List.append_nil]
  congr 1
  show (ctxsOfSources (outCfg jo sep) sources 0).flatMap
    (sinkBytes (outPipeline jo sep).sink (outPipeline jo sep).sinkLen) = _
  apply flatMap_congr'
  intro ctx hctx
  simp only [outPipeline, sinkBytes,
    build_of_results_nil (ctxsOfSources_results _ _ _ ctx hctx), rowBytes]

/-! ### the printed rows are read back -/

/-- the four white-space characters -/
def WsSep (sep : Str) : Prop := ∀ ch ∈ sep, ch ∈ [' ', '\n', '\t', '\r']

theorem utf8_wsSep {sep : Str} (h : WsSep sep) : ∀ b ∈ utf8 sep, isWs b = true := by
  intro b hb
  simp only [utf8, List.mem_flatMap] at hb
  obtain ⟨ch, hch, hb⟩ := hb
  have := h ch hch
  simp only [List.mem_cons, List.not_mem_nil, or_false] at this
  rcases this with rfl | rfl | rfl | rfl <;>
    (simp only [show String.utf8EncodeChar ' ' = [32] from by decide,
      show String.utf8EncodeChar '\n' = [10] from by decide,
      show String.utf8EncodeChar '\t' = [9] from by decide,
      show String.utf8EncodeChar '\r' = [13] from by decide, List.mem_singleton] at hb
     subst hb
     decide)

theorem utf8_ne_nil {sep : Str} (h : sep ≠ []) : utf8 sep ≠ [] := by
  cases sep with
  | nil => exact absurd rfl h
  | cons c s =>
    rw [utf8_cons]
    intro h'
    have hl := congrArg List.length (List.append_eq_nil_iff.mp h').1
    rw [String.length_utf8EncodeChar] at hl
    have := Char.utf8Size_pos c
    simp at hl
    omega

/-- the text of the rows `vs`: every value printed with options `o`, followed by the separator -/
def rowsBytes (o : JsonOpts) (sep : Str) (vs : List JV) : List Byte :=
  vs.flatMap (fun v => utf8 (printJson o v) ++ utf8 sep)

/-- the rows as a stream in the sense of `Noise`: no leading gap, after every value the separator, no garbage -/
def rowItems (sep : Str) (vs : List JV) : List (JV × Gap) := vs.map (fun v => (v, { ws := utf8 sep }))

theorem stream_rowItems (o : JsonOpts) (sep : Str) (vs : List JV) :
    stream o {} (rowItems sep vs) = rowsBytes o sep vs := by
  simp only [stream, rowItems, rowsBytes, Gap.bytes, toksBytes, List.flatMap_nil, List.append_nil, List.nil_append,
    List.flatMap_map]

theorem rowItems_values (sep : Str) (vs : List JV) : (rowItems sep vs).map (·.1) = vs := by
  simp [rowItems, Function.comp_def]

theorem rowItems_ok (o : JsonOpts) (sep : Str) (hsep : WsSep sep) (hne : sep ≠ []) (vs : List JV)
    (hvs : ∀ v ∈ vs, Printable o v) : ItemsOK o (rowItems sep vs) := by
  induction vs with
  | nil => trivial
  | cons v vs ih =>
    refine ⟨hvs v List.mem_cons_self, ⟨utf8_wsSep hsep, fun t ht => by cases ht⟩, .inl (utf8_ne_nil hne),
      ih (fun w hw => hvs w (List.mem_cons_of_mem _ hw))⟩

/-- The text of printable rows `vs`, printed in any style and each
followed by a non-empty white-space separator, is read (from stdin or a named file, with any sufficient fuel,
under any configuration that does not drop scalars) as the normal forms of `vs`, in order. -/
theorem printed_rows_read_back_norm (c : Cfg) (hc : c.onlyObjectsAndArrays = false) (o : JsonOpts) (sep : Str)
    (hsep : WsSep sep) (hne : sep ≠ []) (vs : List JV) (hvs : ∀ v ∈ vs, Printable o v)
    (name : Option Str) (fuel : Nat) (hf : (rowsBytes o sep vs).length + 2 ≤ fuel) (i k : Nat) :
    (ctxsOf c fuel (Reader.ofBytes (rowsBytes o sep vs) name) i k).map (·.input) = vs.map norm := by
  have h := (noisy_rows c o {} (rowItems sep vs) emptyGap_ok (rowItems_ok o sep hsep hne vs hvs) name fuel
    (by rw [stream_rowItems]; exact hf) i k).1
  rw [stream_rowItems, rowItems_values, applyOnlyObj_off c hc] at h
  exact h

theorem map_norm_id {vs : List JV} (h : ∀ v ∈ vs, norm v = v) : vs.map norm = vs := by
  induction vs with
  | nil => rfl
  | cons v vs ih =>
    rw [List.map_cons, h v List.mem_cons_self, ih (fun w hw => h w (List.mem_cons_of_mem _ hw))]

/-- Printable values in normal form are read back exactly. -/
theorem printed_rows_read_back (c : Cfg) (hc : c.onlyObjectsAndArrays = false) (o : JsonOpts) (sep : Str)
    (hsep : WsSep sep) (hne : sep ≠ []) (vs : List JV) (hvs : ∀ v ∈ vs, Printable o v ∧ norm v = v)
    (fuel : Nat) (hf : (rowsBytes o sep vs).length + 2 ≤ fuel) :
    (ctxsOf c fuel (Reader.ofBytes (rowsBytes o sep vs) none) 0 0).map (·.input) = vs := by
  rw [printed_rows_read_back_norm c hc o sep hsep hne vs (fun v hv => (hvs v hv).1) none fuel hf 0 0]
  exact map_norm_id (fun v hv => (hvs v hv).2)

/-- the rows printed again: the normal forms give the same text -/
theorem rowsBytes_norm (o : JsonOpts) (sep : Str) (vs : List JV) :
    rowsBytes o sep (vs.map norm) = rowsBytes o sep vs := by
  simp only [rowsBytes, List.flatMap_map, printJson_norm]

/-! ### the fixpoint -/

theorem unbounded_empty : Unbounded ({} : Writer) := ⟨rfl, rfl⟩

/-- stdout of an output-only run with fresh writers, as the text of the values read -/
theorem stdout_output_only (orc : Oracles) (jo : Option JsonOpts) (sep : Str) (sources : List Source)
    (hcl : CleanIO sources) :
    (run orc (outCfg jo sep) sources {} {}).stdout
      = rowsBytes (jo.getD {}) sep ((ctxsOfSources (outCfg jo sep) sources 0).map (·.input)) := by
  rw [(run_output_only orc jo sep sources {} {} unbounded_empty hcl).2.1]
  show [] ++ _ = _
  rw [List.nil_append, rowsBytes,
    ← flatMap_input (fun v => utf8 (printJson (jo.getD {}) v) ++ utf8 sep)]

theorem cleanIO_stdin_bytes (bs : List Byte) : CleanIO [⟨none, cleanInput bs⟩] :=
  cleanIO_of_bytes [(none, bs)]

/-- The fixpoint (C02), any number of sources.  Run jawk with output options only (any JSON style, ASCII or UTF-8 strings,
any non-empty white-space row separator) on any sources without I/O error — malformed regions are skipped —
such that every value read is printable.  Feeding the bytes written on stdout back into the same jawk (on stdin)
writes exactly the same bytes.  (No normal-form hypothesis is needed: `-0` is written `0`, read back as `0`
and written `0` again.) -/
theorem fixpoint_sources (orc : Oracles) (jo : Option JsonOpts) (sep : Str) (hsep : WsSep sep) (hne : sep ≠ [])
    (sources : List Source) (hcl : CleanIO sources)
    (hvals : ∀ ctx ∈ ctxsOfSources (outCfg jo sep) sources 0, Printable (jo.getD {}) ctx.input) :
    (run orc (outCfg jo sep) [⟨none, cleanInput (run orc (outCfg jo sep) sources {} {}).stdout⟩] {} {}).stdout
      = (run orc (outCfg jo sep) sources {} {}).stdout := by
  rw [stdout_output_only orc jo sep sources hcl]
  generalize hvs : (ctxsOfSources (outCfg jo sep) sources 0).map (·.input) = vs
  have hp : ∀ v ∈ vs, Printable (jo.getD {}) v := by
    intro v hv
    rw [← hvs] at hv
    obtain ⟨ctx, hctx, rfl⟩ := List.mem_map.mp hv
    exact hvals ctx hctx
  rw [stdout_output_only orc jo sep _ (cleanIO_stdin_bytes _)]
  have hsrc : ctxsOfSources (outCfg jo sep) [⟨none, cleanInput (rowsBytes (jo.getD {}) sep vs)⟩] 0
      = ctxsOf (outCfg jo sep) ((rowsBytes (jo.getD {}) sep vs).length + 2)
          (Reader.ofBytes (rowsBytes (jo.getD {}) sep vs) none) 0 0 := by
    simp only [ctxsOfSources, List.append_nil, cleanInput, List.length_map]
    rfl
  rw [hsrc, printed_rows_read_back_norm (outCfg jo sep) rfl (jo.getD {}) sep hsep hne vs hp none _
    (Nat.le_refl _) 0 0, rowsBytes_norm]

/-- The fixpoint (C02) for one stream on stdin. -/
theorem fixpoint (orc : Oracles) (jo : Option JsonOpts) (sep : Str) (hsep : WsSep sep) (hne : sep ≠ [])
    (items : List RItem) (hcl : ∀ it ∈ items, it ≠ RItem.err)
    (hvals : ∀ ctx ∈ ctxsOf (outCfg jo sep) (items.length + 2) (Reader.ofItems items none) 0 0,
      Printable (jo.getD {}) ctx.input ∧ norm ctx.input = ctx.input) :
    let out1 := (run orc (outCfg jo sep) [⟨none, items⟩] {} {}).stdout
    (run orc (outCfg jo sep) [⟨none, cleanInput out1⟩] {} {}).stdout = out1 := by
  intro out1
  apply fixpoint_sources orc jo sep hsep hne [⟨none, items⟩]
  · intro s hs
    simp only [List.mem_singleton] at hs
    subst hs
    exact hcl
  · intro ctx hctx
    simp only [ctxsOfSources, List.append_nil] at hctx
    exact (hvals ctx hctx).1


/-! ### `parsed_values`: what the parser returns is printable

Whatever `next_json_value` returns (on ANY input, well formed or not, after any number of skipped regions) is a
value whose numbers are `u64` / non-positive `i64` integers or finite canonical doubles that `From<f64>` leaves
alone, and whose objects have pairwise distinct member names. -/

open Jawk.Ser in
/-- numbers the parser produces; floats are in canonical form -/
def NumC (n : Num) : Prop := ParsedNum n ∧ ∀ f, n = .flt f → f.Canonical

mutual
/-- the values the parser can produce -/
def PV : JV → Prop
  | .null => True
  | .bool _ => True
  | .num n => NumC n
  | .str _ => True
  | .arr vs => PVList vs
  | .obj kvs => PVMembers kvs ∧ (kvs.map (·.1)).Nodup
def PVList : List JV → Prop
  | [] => True
  | v :: vs => PV v ∧ PVList vs
def PVMembers : List (Str × JV) → Prop
  | [] => True
  | (_, v) :: kvs => PV v ∧ PVMembers kvs
end

theorem pvList_snoc {acc : List JV} {v : JV} (ha : PVList acc) (hv : PV v) : PVList (acc ++ [v]) := by
  induction acc with
  | nil => rw [List.nil_append, PVList, PVList]; exact ⟨hv, True.intro⟩
  | cons a acc ih =>
    rw [PVList] at ha
    rw [List.cons_append, PVList]
    exact ⟨ha.1, ih ha.2⟩

theorem pvMembers_insert {acc : List (Str × JV)} (k : Str) {v : JV} (ha : PVMembers acc) (hv : PV v) :
    PVMembers (objInsert acc k v) := by
  induction acc with
  | nil => rw [objInsert, PVMembers, PVMembers]; exact ⟨hv, True.intro⟩
  | cons a acc ih =>
    obtain ⟨k', v'⟩ := a
    rw [PVMembers] at ha
    unfold objInsert
    split
    · rw [PVMembers]; exact ⟨hv, ha.2⟩
    · rw [PVMembers]; exact ⟨ha.1, ih ha.2⟩

/-- every successful result of the action satisfies `P`.  Not an instance of `PM.Closed`, which asks for `pure a`
whatever `a` is: here `pure a` passes only when `P a`, and `bind` hands the postcondition of `m` to `f`. -/
def Post {α} (P : α → Prop) (m : PM α) : Prop := ∀ r a r', m r = (.ok a, r') → P a

theorem post_pure {α} {P : α → Prop} {a : α} (h : P a) : Post P (pure a : PM α) := by
  intro r b r' hb
  simp only [PM.pure_apply, Prod.mk.injEq, Except.ok.injEq] at hb
  rw [← hb.1]; exact h

theorem post_fail {α} {P : α → Prop} (e : PErr) : Post P (PM.fail e : PM α) := by
  intro r b r' hb; simp at hb

theorem post_locErr {α} {P : α → Prop} (mk : Loc → PErr) : Post P (locErr mk : PM α) := by
  intro r b r' hb; simp at hb

theorem post_bind {α β} {Q : α → Prop} {P : β → Prop} {m : PM α} {f : α → PM β}
    (hm : Post Q m) (hf : ∀ a, Q a → Post P (f a)) : Post P (m >>= f) := by
  intro r b r' hb
  obtain ⟨a, r1, h1, h2⟩ := PM.bind_ok_inv hb
  exact hf a (hm r a r1 h1) r1 b r' h2

theorem post_bind' {α β} {P : β → Prop} {m : PM α} {f : α → PM β}
    (hf : ∀ a, Post P (f a)) : Post P (m >>= f) :=
  post_bind (Q := fun _ => True) (fun _ _ _ _ => True.intro) (fun a _ => hf a)

open Jawk.Ser in
theorem parseToDouble_numC {text : List Byte} {r r' : Reader} {v : JV}
    (h : parseToDouble text r = (.ok v, r')) : ∃ n, v = .num n ∧ NumC n := by
  cases hp : F64.parseDecimal (bytesToStr text) with
  | none => simp [parseToDouble, hp] at h
  | some f =>
    by_cases hfin : f.isFinite = true
    · simp only [parseToDouble, hp, hfin, if_true, PM.pure_apply, Prod.mk.injEq, Except.ok.injEq] at h
      refine ⟨_, h.1.symm, parsedNum_ofF64 f hfin, ?_⟩
      intro g hg
      rw [ofF64_flt_inv hg]
      exact parseDecimal_canonical hp
    · simp [parseToDouble, hp, hfin] at h

open Jawk.Ser in
theorem finishNumber_numC {negative : Bool} {ip chars : List Byte} {double : Bool} {r r' : Reader} {v : JV}
    (h : RT.finishNumber negative ip chars double r = (.ok v, r')) : ∃ n, v = .num n ∧ NumC n := by
  obtain ⟨n, hn, hp⟩ := finishNumber_parsed h
  refine ⟨n, hn, hp, ?_⟩
  intro f hf
  subst hf
  subst hn
  -- a float can only come from `parse_to_double`: an integer spelling in range gives `pos` or `neg`
  rw [RT.finishNumber_eq] at h
  have pd : parseToDouble chars r = (.ok (.num (.flt f)), r') → f.Canonical := fun h => by
    obtain ⟨n, e, hc⟩ := parseToDouble_numC h
    cases e; exact hc.2 f rfl
  cases negative <;> simp only [if_true, Bool.false_eq_true, if_false, false_and, true_and] at h
  · split at h
    · simp only [PM.pure_apply, Prod.mk.injEq, Except.ok.injEq] at h
      cases h.1
    · exact pd h
  · split at h
    · split at h
      · simp at h
      · simp only [PM.pure_apply, Prod.mk.injEq, Except.ok.injEq] at h
        cases h.1
    · exact pd h

theorem readNumber_post (fuel : Nat) : Post PV (readNumber fuel) := by
  intro r v r' h
  rw [RT.readNumber_eq] at h
  obtain ⟨_, _, _, h⟩ := PM.bind_ok_inv h
  obtain ⟨_, _, _, h⟩ := PM.bind_ok_inv h
  obtain ⟨_, _, _, h⟩ := PM.bind_ok_inv h
  obtain ⟨_, _, _, h⟩ := PM.bind_ok_inv h
  obtain ⟨n, rfl, hn⟩ := finishNumber_numC h
  rw [PV]; exact hn

/-- the result of `next_json_value`, when there is one -/
def PVOpt (o : Option JV) : Prop := ∀ v, o = some v → PV v

theorem pvOpt_some {v : JV} (h : PV v) : PVOpt (some v) := by
  intro w hw; cases hw; exact h

structure ValuePV (fuel : Nat) : Prop where
  value : Post PVOpt (nextValue fuel)
  array : Post PV (readArray fuel)
  arrayLoop : ∀ acc, PVList acc → Post PV (readArrayLoop fuel acc)
  object : Post PV (readObject fuel)
  objectLoop : ∀ acc, PVMembers acc → (acc.map (·.1)).Nodup → Post PV (readObjectLoop fuel acc)

theorem pv_arr_nil : PV (.arr []) := by rw [PV, PVList]; exact True.intro
theorem pv_obj_nil : PV (.obj []) := by rw [PV, PVMembers]; exact ⟨True.intro, List.nodup_nil⟩
theorem pv_leaf {v : JV} (h : PV v) : Post PVOpt (pure (some v) : PM (Option JV)) := post_pure (pvOpt_some h)

theorem valuePV : ∀ fuel, ValuePV fuel
  | 0 => ⟨post_fail _, post_fail _, fun _ _ => post_fail _, post_fail _, fun _ _ _ => post_fail _⟩
  | fuel + 1 => by
    have ih := valuePV fuel
    refine ⟨?_, ?_, fun acc hacc => ?_, ?_, fun acc hacc hnd => ?_⟩
    · rw [Jawk.nextValue]
      exact post_bind' fun _ => post_bind' fun
        | none => post_pure (fun v hv => by cases hv)
        | some c =>
          PM.ite (post_bind' fun _ => pv_leaf (by rw [PV]; exact True.intro)) <|
          PM.ite (post_bind' fun _ => pv_leaf (by rw [PV]; exact True.intro)) <|
          PM.ite (post_bind' fun _ => pv_leaf (by rw [PV]; exact True.intro)) <|
          PM.ite (post_bind' fun _ => pv_leaf (by rw [PV]; exact True.intro)) <|
          PM.ite (post_bind (readNumber_post _) fun _ => pv_leaf) <|
          PM.ite (post_bind ih.array fun _ => pv_leaf) <|
          PM.ite (post_bind ih.object fun _ => pv_leaf) <|
          post_bind' fun _ => post_locErr _
    · rw [Jawk.readArray]
      exact post_bind' fun _ => post_bind' fun _ => post_bind' fun _ =>
        PM.ite (post_bind' fun _ => post_pure pv_arr_nil) (ih.arrayLoop [] True.intro)
    · rw [Jawk.readArrayLoop]
      exact post_bind ih.value fun
        | none, _ => post_locErr _
        | some v, hv =>
          have hacc' := pvList_snoc hacc (hv v rfl)
          post_bind' fun _ => post_bind' fun
          | none => post_locErr _
          | some ch =>
            PM.ite (post_bind' fun _ => post_pure (by rw [PV]; exact hacc')) <|
            PM.ite (post_bind' fun _ => ih.arrayLoop _ hacc') <|
            post_locErr _
    · rw [Jawk.readObject]
      exact post_bind' fun _ => post_bind' fun _ => post_bind' fun _ =>
        PM.ite (post_bind' fun _ => post_pure pv_obj_nil) (ih.objectLoop [] True.intro List.nodup_nil)
    · rw [Jawk.readObjectLoop]
      refine post_bind' fun key => ?_
      split
      · exact post_locErr _
      · rename_i key
        exact post_bind' fun _ => post_bind' fun
          | none => post_locErr _
          | some ch => PM.ite (post_locErr _) <| post_bind' fun _ => post_bind ih.value fun
            | none, _ => post_locErr _
            | some v, hv =>
              have hacc' := pvMembers_insert key hacc (hv v rfl)
              have hnd' := objInsert_nodup key v hnd
              post_bind' fun _ => post_bind' fun
              | none => post_locErr _
              | some ch =>
                PM.ite (post_bind' fun _ => post_pure (by rw [PV]; exact ⟨hacc', hnd'⟩)) <|
                PM.ite (post_bind' fun _ => ih.objectLoop _ hacc' hnd') <|
                post_locErr _
      · exact post_locErr _

/-- Every value `next_json_value` returns — with any fuel, from any reader, whatever the
input — satisfies `PV`. -/
theorem parsed_values {r r' : Reader} {v : JV} (h : r.nextJson = (.ok (some v), r')) : PV v :=
  (valuePV _).value r (some v) r' h v rfl


mutual
/-- under `H17` (17 significant digits suffice) and `utf8Strings`, every value the parser can produce is a value
of the kind `Ser.Parsed`, hence printable -/
theorem parsed_of_pv (h17 : Ser.H17) (o : JsonOpts) (ho : o.utf8Strings = true) :
    ∀ (v : JV), PV v → Ser.Parsed o v
  | .null, _ => by rw [Ser.Parsed]; exact True.intro
  | .bool _, _ => by rw [Ser.Parsed]; exact True.intro
  | .num n, h => by
    rw [PV] at h; rw [Ser.Parsed]
    refine ⟨h.1, ?_⟩
    intro f hf
    subst hf
    exact h17 f (h.2 f rfl) h.1.1
  | .str s, _ => by rw [Ser.Parsed]; exact Ser.strOK_utf8 o ho s
  | .arr vs, h => by
    rw [PV] at h; rw [Ser.Parsed]
    exact parsedList_of_pv h17 o ho vs h
  | .obj kvs, h => by
    rw [PV] at h; rw [Ser.Parsed]
    exact ⟨parsedMembers_of_pv h17 o ho kvs h.1, h.2⟩
theorem parsedList_of_pv (h17 : Ser.H17) (o : JsonOpts) (ho : o.utf8Strings = true) :
    ∀ (vs : List JV), PVList vs → Ser.ParsedList o vs
  | [], _ => by rw [Ser.ParsedList]; exact True.intro
  | v :: vs, h => by
    rw [PVList] at h; rw [Ser.ParsedList]
    exact ⟨parsed_of_pv h17 o ho v h.1, parsedList_of_pv h17 o ho vs h.2⟩
theorem parsedMembers_of_pv (h17 : Ser.H17) (o : JsonOpts) (ho : o.utf8Strings = true) :
    ∀ (kvs : List (Str × JV)), PVMembers kvs → Ser.ParsedMembers o kvs
  | [], _ => by rw [Ser.ParsedMembers]; exact True.intro
  | (k, v) :: kvs, h => by
    rw [PVMembers] at h; rw [Ser.ParsedMembers]
    exact ⟨Ser.strOK_utf8 o ho k, parsed_of_pv h17 o ho v h.1, parsedMembers_of_pv h17 o ho kvs h.2⟩
end

theorem printable_of_pv (h17 : Ser.H17) (o : JsonOpts) (ho : o.utf8Strings = true) (v : JV) (h : PV v) :
    Printable o v :=
  Ser.printable_of_parsed o v (parsed_of_pv h17 o ho v h)

/-- every row the read loop makes carries a value the parser returned -/
theorem ctxsOf_pv (c : Cfg) (fuel : Nat) (r : Reader) (inFile idx : Nat) :
    ∀ ctx ∈ ctxsOf c fuel r inFile idx, PV ctx.input := by
  induction fuel generalizing r inFile idx with
  | zero => intro ctx h; cases h
  | succ fuel ih =>
    intro ctx h
    unfold ctxsOf at h
    split at h
    · rename_i v r' hn
      split at h
      · exact ih _ _ _ ctx h
      · rcases List.mem_cons.mp h with rfl | h
        · exact parsed_values hn
        · exact ih _ _ _ ctx h
    · cases h
    · split at h
      · exact ih _ _ _ ctx h
      · cases h

theorem ctxsOfSources_pv (c : Cfg) (sources : List Source) (idx : Nat) :
    ∀ ctx ∈ ctxsOfSources c sources idx, PV ctx.input := by
  induction sources generalizing idx with
  | nil => intro ctx h; cases h
  | cons src rest ih =>
    intro ctx h
    unfold ctxsOfSources at h
    rcases List.mem_append.mp h with h | h
    · exact ctxsOf_pv _ _ _ _ _ ctx h
    · exact ih _ ctx h

/-- The fixpoint (C02) for all inputs.  Assume only `H17` (the digit search of `Display for f64` succeeds on
every finite canonical double; it is the theorem `Ser.h17`).  With UTF-8 string output (`--utf8-strings`; any style) and a non-empty
white-space row separator, for ANY input bytes in any number of sources (no I/O error; malformed regions are
skipped): feeding jawk's output back into jawk reproduces it byte for byte. -/
theorem fixpoint_all (h17 : Ser.H17) (orc : Oracles) (o : JsonOpts) (ho : o.utf8Strings = true) (sep : Str)
    (hsep : WsSep sep) (hne : sep ≠ []) (sources : List Source) (hcl : CleanIO sources) :
    (run orc (outCfg (some o) sep) [⟨none, cleanInput (run orc (outCfg (some o) sep) sources {} {}).stdout⟩] {} {}).stdout
      = (run orc (outCfg (some o) sep) sources {} {}).stdout :=
  fixpoint_sources orc (some o) sep hsep hne sources hcl
    (fun ctx hctx => printable_of_pv h17 o ho _ (ctxsOfSources_pv _ _ _ ctx hctx))

/-- the same for input bytes on stdin -/
theorem fixpoint_all_stdin (h17 : Ser.H17) (orc : Oracles) (o : JsonOpts) (ho : o.utf8Strings = true) (sep : Str)
    (hsep : WsSep sep) (hne : sep ≠ []) (input : List Byte) :
    let c := outCfg (some o) sep
    let out1 := (run orc c [⟨none, cleanInput input⟩] {} {}).stdout
    (run orc c [⟨none, cleanInput out1⟩] {} {}).stdout = out1 :=
  fixpoint_all h17 orc o ho sep hsep hne _ (cleanIO_stdin_bytes input)

/-! ### non-vacuity and the counter-example for separators that are not white space -/

example : WsSep ['\n'] ∧ ['\n'] ≠ [] := ⟨by intro ch h; simp at h; subst h; simp, by simp⟩

/-- `1 2` → `1\n2\n` -/
example (orc : Oracles) :
    (run orc (outCfg none ['\n']) [⟨none, cleanInput [49, 32, 50]⟩] {} {}).stdout = [49, 10, 50, 10] := by
  rw [stdout_output_only orc none _ _ (cleanIO_stdin_bytes _)]
  decide +kernel

/-- `1\n2\n` → `1\n2\n` -/
example (orc : Oracles) :
    (run orc (outCfg none ['\n']) [⟨none, cleanInput [49, 10, 50, 10]⟩] {} {}).stdout = [49, 10, 50, 10] := by
  rw [stdout_output_only orc none _ _ (cleanIO_stdin_bytes _)]
  decide +kernel

/-- counter-example: with the separator `0` (not white space) the output of `1 2` is `1020`, which jawk reads as
one number and prints as `10200` -/
example (orc : Oracles) :
    (run orc (outCfg none ['0']) [⟨none, cleanInput [49, 32, 50]⟩] {} {}).stdout = [49, 48, 50, 48] ∧
    (run orc (outCfg none ['0']) [⟨none, cleanInput [49, 48, 50, 48]⟩] {} {}).stdout = [49, 48, 50, 48, 48] := by
  rw [stdout_output_only orc none _ _ (cleanIO_stdin_bytes _), stdout_output_only orc none _ _ (cleanIO_stdin_bytes _)]
  decide +kernel


/-- counter-example for ASCII string output (`utf8Strings = false`) and characters outside the BMP: the string
`"\u{D8000}"` (raw UTF-8 on input) is written `"\ud8000"`; read back, `\ud800` is a lone surrogate, the region is
skipped, and the second run writes `0`.  Hence `fixpoint_all` needs `utf8Strings` (or `StrOK`: no such character). -/
example (orc : Oracles) :
    (run orc (outCfg none ['\n']) [⟨none, cleanInput [34, 0xF3, 0x98, 0x80, 0x80, 34]⟩] {} {}).stdout
      = [34, 92, 117, 100, 56, 48, 48, 48, 34, 10] ∧
    (run orc (outCfg none ['\n']) [⟨none, cleanInput [34, 92, 117, 100, 56, 48, 48, 48, 34, 10]⟩] {} {}).stdout
      = [48, 10] := by
  rw [stdout_output_only orc none _ _ (cleanIO_stdin_bytes _), stdout_output_only orc none _ _ (cleanIO_stdin_bytes _)]
  decide +kernel

/-- non-vacuity of `fixpoint`: all hypotheses hold for the input `1 2` -/
example (orc : Oracles) :
    let out1 := (run orc (outCfg none ['\n']) [⟨none, cleanInput [49, 32, 50]⟩] {} {}).stdout
    (run orc (outCfg none ['\n']) [⟨none, cleanInput out1⟩] {} {}).stdout = out1 := by
  apply fixpoint orc none ['\n'] (by intro ch h; simp at h; subst h; simp) (by simp) _ (cleanInput_clean _)
  intro ctx hctx
  have hv : (ctxsOf (outCfg none ['\n']) ((cleanInput [49, 32, 50]).length + 2)
      (Reader.ofItems (cleanInput [49, 32, 50]) none) 0 0).map (·.input) = [.num (.pos 1), .num (.pos 2)] := by
    rfl
  have hm := List.mem_map_of_mem (f := (·.input)) hctx
  rw [hv] at hm
  simp only [List.mem_cons, List.not_mem_nil, or_false] at hm
  rcases hm with h | h <;> rw [h] <;> exact ⟨by show _ < 2 ^ 64; decide, by simp [norm, normNum]⟩

end Jawk.Fix
