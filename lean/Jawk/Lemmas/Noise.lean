/-
  C06 — noise between values never changes them; `--on-error=panic`; clean streams produce no report.

  Bytes that cannot start a JSON value (`Garbage`), placed between values in white-space delimited
  tokens, are skipped by the read loop one byte at a time, each costing exactly one recoverable
  `unexpectedChar` error; the values read (and hence the rows fed to the pipeline) are those of the
  stream with the garbage removed.

  This file holds what does not depend on how the values are spelled: the skipping of garbage (`Skips`), the
  pure read functions one step at a time (`rowsAt`, `perrsAt`, `untilAt`), gaps, the run under `panic`, runs
  without errors, and the streams of printed values as definitions (rows up to their locations are in `Erase`).
  `Noise2` reads streams of values in any conforming spelling; `NoiseStream` gets the theorems about the streams
  of printed values defined here from it.
-/
import Jawk.Lemmas.RunSpec
import Jawk.Lemmas.RoundTrip
import Jawk.Props.C06Steps
namespace Jawk.Noise
open Jawk Jawk.Pipe Jawk.Fuel Jawk.RunSpec Jawk.RT Jawk.C06 Reader

/-! ### one garbage byte, a run of garbage bytes -/

theorem dispatch_garbage (fuel : Nat) (b : Byte) (hg : Garbage b = true) :
    dispatch fuel b = (do let _ ← next; locErr (fun l => .unexpectedChar l b valueExpected)) := by
  simp only [Garbage, Bool.and_eq_true, Bool.not_eq_true', bne_iff_ne, ne_eq] at hg
  obtain ⟨⟨⟨⟨⟨⟨⟨⟨hws, hd⟩, ht⟩, hf⟩, hn⟩, hq⟩, hm⟩, hb⟩, ho⟩ := hg
  have hd' : (b = 45 || isDigit b) = false := by simp [hm, hd]
  unfold dispatch
  simp only [ht, hf, hn, hq, hd', hb, ho, if_false, Bool.false_eq_true]

theorem garbage_not_ws {b : Byte} (hg : Garbage b = true) : isWs b = false := by
  simp only [Garbage, Bool.and_eq_true, Bool.not_eq_true'] at hg
  exact hg.1.1.1.1.1.1.1.1

/-- One `nextJson` call on `ws ++ b :: rest` (`ws` white space, `b` garbage): the white space and exactly
the byte `b` are consumed; the result is the recoverable error `unexpectedChar` located after `b`. -/
theorem garbage_one (ws : List Byte) (hws : ∀ b ∈ ws, isWs b = true) (b : Byte) (hg : Garbage b = true)
    (rest : List Byte) (r : Reader) (hr : Ready r (ws ++ b :: rest)) :
    ∃ r', r.nextJson = (.error (.unexpectedChar r'.loc b valueExpected), r') ∧ Ready r' rest := by
  have hl := ready_length hr
  simp only [List.length_append, List.length_cons] at hl
  -- `4 * pending + 10` is the fuel `Reader.nextJson` gives `nextValue`
  obtain ⟨r1, hat, hnv⟩ := nextValue_dispatch ws hws b rest (garbage_not_ws hg) r hr
    (4 * r.rest.length + 9) (by omega)
  obtain ⟨x, r', hn, hr'⟩ := next_at_ready hat
  refine ⟨r', ?_, hr'⟩
  rw [Reader.nextJson, show 4 * r.rest.length + 10 = 4 * r.rest.length + 9 + 1 from rfl, hnv,
    dispatch_garbage _ _ hg, PM.bind_ok hn]
  rfl

/-- successive `nextJson` calls that all return recoverable errors: the errors, the final reader -/
inductive Skips : Reader → List PErr → Reader → Prop
  | nil (r : Reader) : Skips r [] r
  | cons {r r1 r' : Reader} {e : PErr} {es : List PErr} :
      r.nextJson = (.error e, r1) → e.canRecover = true → Skips r1 es r' → Skips r (e :: es) r'

theorem Skips.append {r r1 r2 : Reader} {es fs : List PErr} (h1 : Skips r es r1) (h2 : Skips r1 fs r2) :
    Skips r (es ++ fs) r2 := by
  induction h1 with
  | nil r => exact h2
  | cons hn hrec _ ih => exact Skips.cons hn hrec (ih h2)

theorem Skips.canRecover {r r' : Reader} {es : List PErr} (h : Skips r es r') :
    ∀ e ∈ es, e.canRecover = true := by
  induction h with
  | nil r => intro e he; cases he
  | cons hn hrec _ ih =>
    intro e he
    rcases List.mem_cons.mp he with rfl | he
    · exact hrec
    · exact ih e he

/-- `ws ++ g ++ rest` with `ws` white space and `g` a non-empty run of garbage bytes:
`|g|` successive `nextJson` calls each return a recoverable error, and the reader then stands before `rest`. -/
theorem garbage_run (ws : List Byte) (hws : ∀ b ∈ ws, isWs b = true) (g : List Byte)
    (hg : ∀ b ∈ g, Garbage b = true) (hne : g ≠ []) (rest : List Byte) (r : Reader)
    (hr : Ready r (ws ++ (g ++ rest))) :
    ∃ es r', Skips r es r' ∧ es.length = g.length ∧ Ready r' rest := by
  induction g generalizing ws r with
  | nil => exact absurd rfl hne
  | cons b g ih =>
    obtain ⟨r1, h1, hr1⟩ := garbage_one ws hws b (hg b (by simp)) (g ++ rest) r (by simpa using hr)
    cases g with
    | nil => exact ⟨[_], r1, Skips.cons h1 rfl (Skips.nil _), rfl, by simpa using hr1⟩
    | cons b' g =>
      obtain ⟨es, r', h2, hlen, hr'⟩ := ih [] (by simp) (fun x hx => hg x (by simp [hx])) (by simp) r1
        (by simpa using hr1)
      exact ⟨_ :: es, r', Skips.cons h1 rfl h2, by simp [hlen], hr'⟩

/-! ### fuel independence of the pure read functions -/

theorem ready_wf {r : Reader} {bs : List Byte} (h : Ready r bs) : WF r := by
  intro he
  have hb := h.2 he
  subst hb
  have hp := h.1
  cases hc : r.cur with
  | none => rfl
  | some b => simp [Reader.pending, hc, cleanInput] at hp

/-- above `μ r + 1` the fuel of `ctxsOf` does not matter -/
theorem ctxsOf_fuel (c : Cfg) (f₁ f₂ : Nat) (r : Reader) (i k : Nat) (hw : WF r)
    (h1 : μ r + 1 ≤ f₁) (h2 : μ r + 1 ≤ f₂) : ctxsOf c f₁ r i k = ctxsOf c f₂ r i k := by
  induction f₁ generalizing f₂ r i k with
  | zero => omega
  | succ f₁ ih =>
    obtain ⟨f₂, rfl⟩ : ∃ m, f₂ = m + 1 := ⟨f₂ - 1, by omega⟩
    have hm := nextJson_mono r
    rcases hn : r.nextJson with ⟨res, r'⟩
    rw [hn] at hm
    have hw' := hm.wf hw
    cases res with
    | error e =>
      have hp := (nextJson_progress r hw hn (by intro h; cases h)).2
      simp only [ctxsOf, hn]
      split
      · exact ih f₂ r' i k hw' (by omega) (by omega)
      · rfl
    | ok o =>
      cases o with
      | none => simp only [ctxsOf, hn]
      | some v =>
        have hp := (nextJson_progress r hw hn (by intro h; cases h)).2
        simp only [ctxsOf, hn]
        split
        · exact ih f₂ r' i k hw' (by omega) (by omega)
        · rw [ih f₂ r' (i + 1) (k + 1) hw' (by omega) (by omega)]

/-- the same for `errsOf` -/
theorem errsOf_fuel (ev : Expr → Ctx → Option JV) (c : Cfg) (cfgs : List StageCfg) (f₁ f₂ : Nat) (r : Reader)
    (i k : Nat) (sts : List StageSt) (hw : WF r) (h1 : μ r + 1 ≤ f₁) (h2 : μ r + 1 ≤ f₂) :
    errsOf ev c cfgs f₁ r i k sts = errsOf ev c cfgs f₂ r i k sts := by
  induction f₁ generalizing f₂ r i k sts with
  | zero => omega
  | succ f₁ ih =>
    obtain ⟨f₂, rfl⟩ : ∃ m, f₂ = m + 1 := ⟨f₂ - 1, by omega⟩
    have hm := nextJson_mono r
    rcases hn : r.nextJson with ⟨res, r'⟩
    rw [hn] at hm
    have hw' := hm.wf hw
    cases res with
    | error e =>
      have hp := (nextJson_progress r hw hn (by intro h; cases h)).2
      simp only [errsOf, hn]
      split
      · rw [ih f₂ r' i k sts hw' (by omega) (by omega)]
      · rfl
    | ok o =>
      cases o with
      | none => simp only [errsOf, hn]
      | some v =>
        have hp := (nextJson_progress r hw hn (by intro h; cases h)).2
        simp only [errsOf, hn]
        split
        · exact ih f₂ r' i k sts hw' (by omega) (by omega)
        · split
          · rfl
          · exact ih f₂ r' (i + 1) (k + 1) _ hw' (by omega) (by omega)

/-- the recoverable errors a reader meets up to the end of its input (or an I/O error), whatever the
pipeline does: what `errsOf` lists when the chain never answers `Break` -/
def perrsOf : Nat → Reader → List PErr
  | 0, _ => []
  | fuel + 1, r =>
    match r.nextJson with
    | (.ok (some _), r') => perrsOf fuel r'
    | (.ok none, _) => []
    | (.error e, r') => if e.canRecover then e :: perrsOf fuel r' else []

theorem perrsOf_fuel (f₁ f₂ : Nat) (r : Reader) (hw : WF r)
    (h1 : μ r + 1 ≤ f₁) (h2 : μ r + 1 ≤ f₂) : perrsOf f₁ r = perrsOf f₂ r := by
  induction f₁ generalizing f₂ r with
  | zero => omega
  | succ f₁ ih =>
    obtain ⟨f₂, rfl⟩ : ∃ m, f₂ = m + 1 := ⟨f₂ - 1, by omega⟩
    have hm := nextJson_mono r
    rcases hn : r.nextJson with ⟨res, r'⟩
    rw [hn] at hm
    have hw' := hm.wf hw
    cases res with
    | error e =>
      have hp := (nextJson_progress r hw hn (by intro h; cases h)).2
      simp only [perrsOf, hn]
      split
      · rw [ih f₂ r' hw' (by omega) (by omega)]
      · rfl
    | ok o =>
      cases o with
      | none => simp only [perrsOf, hn]
      | some v =>
        have hp := (nextJson_progress r hw hn (by intro h; cases h)).2
        simp only [perrsOf, hn]
        exact ih f₂ r' hw' (by omega) (by omega)

/-- `errsOf` lists a prefix of the errors in the input: it stops early only when the chain answers `Break` -/
theorem errsOf_prefix (ev : Expr → Ctx → Option JV) (c : Cfg) (cfgs : List StageCfg) (fuel : Nat) (r : Reader)
    (i k : Nat) (sts : List StageSt) : errsOf ev c cfgs fuel r i k sts <+: perrsOf fuel r := by
  induction fuel generalizing r i k sts with
  | zero => exact List.prefix_refl _
  | succ fuel ih =>
    rcases hn : r.nextJson with ⟨res, r'⟩
    cases res with
    | error e =>
      simp only [errsOf, perrsOf, hn]
      split
      · exact List.cons_prefix_cons.mpr ⟨rfl, ih _ _ _ _⟩
      · exact List.prefix_refl _
    | ok o =>
      cases o with
      | none => simp only [errsOf, perrsOf, hn]; exact List.prefix_refl _
      | some v =>
        simp only [errsOf, perrsOf, hn]
        split
        · exact ih _ _ _ _
        · split
          · exact List.nil_prefix
          · exact ih _ _ _ _

/-- when the chain never answers `Break` on the rows read, `errsOf` lists every error in the input -/
theorem errsOf_eq_perrsOf (ev : Expr → Ctx → Option JV) (c : Cfg) (cfgs : List StageCfg) (fuel : Nat) (r : Reader)
    (i k : Nat) (sts : List StageSt)
    (h : (feedBrk (processP ev cfgs) sts (ctxsOf c fuel r i k)).2.2 = .cont) :
    errsOf ev c cfgs fuel r i k sts = perrsOf fuel r := by
  induction fuel generalizing r i k sts with
  | zero => rfl
  | succ fuel ih =>
    rcases hn : r.nextJson with ⟨res, r'⟩
    cases res with
    | error e =>
      simp only [errsOf, perrsOf, ctxsOf, hn] at h ⊢
      split
      · rename_i hrec
        simp only [hrec, if_true] at h
        rw [ih _ _ _ _ h]
      · rfl
    | ok o =>
      cases o with
      | none => simp only [errsOf, perrsOf, hn]
      | some v =>
        simp only [errsOf, perrsOf, ctxsOf, hn] at h ⊢
        split
        · rename_i hsk
          simp only [hsk, if_true] at h
          exact ih _ _ _ _ h
        · rename_i hsk
          simp only [hsk, Bool.false_eq_true, if_false] at h
          rcases hP : processP ev cfgs sts
            { input := v, ictx := some { startLoc := r.loc, endLoc := r'.loc, fileIndex := i, index := k } }
            with ⟨s1, o1, d⟩
          cases d with
          | brk => rw [feedBrk_cons_brk hP] at h; cases h
          | cont =>
            rw [feedBrk_cons_cont hP] at h
            exact ih _ _ _ _ h

/-- with no stage at all the chain never answers `Break` -/
theorem feedBrk_nil_chain (sts : List StageSt) (rows : List Ctx) :
    (feedBrk (processP ev []) sts rows).2.2 = .cont := by
  induction rows generalizing sts with
  | nil => rfl
  | cons x rows ih =>
    have hP : processP ev [] sts x = ([], [x], .cont) := by simp [processP]
    rw [feedBrk_cons_cont hP]
    exact ih _

/-! ### the pure read functions at their canonical fuel, one step at a time -/

/-- the rows of the rest of the input behind reader `r` -/
def rowsAt (c : Cfg) (r : Reader) (i k : Nat) : List Ctx := ctxsOf c (μ r + 1) r i k

/-- the recoverable errors in the rest of the input behind reader `r` -/
def perrsAt (r : Reader) : List PErr := perrsOf (μ r + 1) r

theorem ctxsOf_eq_rowsAt (c : Cfg) (f : Nat) (r : Reader) (i k : Nat) (hw : WF r) (hf : μ r + 1 ≤ f) :
    ctxsOf c f r i k = rowsAt c r i k := ctxsOf_fuel c f _ r i k hw hf (Nat.le_refl _)

theorem perrsOf_eq_perrsAt (f : Nat) (r : Reader) (hw : WF r) (hf : μ r + 1 ≤ f) :
    perrsOf f r = perrsAt r := perrsOf_fuel f _ r hw hf (Nat.le_refl _)

theorem step_facts {r r' : Reader} {res : Except PErr (Option JV)} (hw : WF r)
    (hn : r.nextJson = (res, r')) (h : res ≠ .ok none) : WF r' ∧ μ r' + 1 ≤ μ r := by
  have hm := nextJson_mono r
  rw [hn] at hm
  have hp := (nextJson_progress r hw hn h).2
  exact ⟨hm.wf hw, by omega⟩

theorem rowsAt_error (c : Cfg) {r r' : Reader} {e : PErr} (i k : Nat) (hw : WF r)
    (hn : r.nextJson = (.error e, r')) (hrec : e.canRecover = true) : rowsAt c r i k = rowsAt c r' i k := by
  obtain ⟨hw', hμ⟩ := step_facts hw hn (by intro h; cases h)
  rw [rowsAt, ctxsOf]
  simp only [hn, hrec, if_true]
  exact ctxsOf_eq_rowsAt c _ r' i k hw' hμ

theorem rowsAt_value (c : Cfg) {r r' : Reader} {v : JV} (i k : Nat) (hw : WF r)
    (hn : r.nextJson = (.ok (some v), r')) :
    rowsAt c r i k =
      if c.onlyObjectsAndArrays && !v.isObjOrArr then rowsAt c r' i k
      else { input := v, ictx := some { startLoc := r.loc, endLoc := r'.loc, fileIndex := i, index := k } }
        :: rowsAt c r' (i + 1) (k + 1) := by
  obtain ⟨hw', hμ⟩ := step_facts hw hn (by intro h; cases h)
  rw [rowsAt, ctxsOf]
  simp only [hn]
  rw [ctxsOf_eq_rowsAt c _ r' i k hw' hμ, ctxsOf_eq_rowsAt c _ r' (i + 1) (k + 1) hw' hμ]

theorem rowsAt_end (c : Cfg) {r r' : Reader} (i k : Nat) (hn : r.nextJson = (.ok none, r')) :
    rowsAt c r i k = [] := by
  rw [rowsAt, ctxsOf]
  simp only [hn]

theorem perrsAt_error {r r' : Reader} {e : PErr} (hw : WF r)
    (hn : r.nextJson = (.error e, r')) (hrec : e.canRecover = true) : perrsAt r = e :: perrsAt r' := by
  obtain ⟨hw', hμ⟩ := step_facts hw hn (by intro h; cases h)
  rw [perrsAt, perrsOf]
  simp only [hn, hrec, if_true]
  rw [perrsOf_eq_perrsAt _ r' hw' hμ]

theorem perrsAt_value {r r' : Reader} {v : JV} (hw : WF r)
    (hn : r.nextJson = (.ok (some v), r')) : perrsAt r = perrsAt r' := by
  obtain ⟨hw', hμ⟩ := step_facts hw hn (by intro h; cases h)
  rw [perrsAt, perrsOf]
  simp only [hn]
  exact perrsOf_eq_perrsAt _ r' hw' hμ

theorem perrsAt_end {r r' : Reader} (hn : r.nextJson = (.ok none, r')) : perrsAt r = [] := by
  rw [perrsAt, perrsOf]
  simp only [hn]

theorem Skips.wf {r r' : Reader} {es : List PErr} (h : Skips r es r') (hw : WF r) : WF r' := by
  induction h with
  | nil r => exact hw
  | cons hn hrec _ ih => exact ih (step_facts hw hn (by intro h; cases h)).1

/-- skipped errors do not show in the rows: the rows behind `r` are the rows behind `r'`
(same contexts, locations included; the index is not advanced) -/
theorem Skips.rowsAt (c : Cfg) {r r' : Reader} {es : List PErr} (h : Skips r es r') (hw : WF r) (i k : Nat) :
    rowsAt c r i k = rowsAt c r' i k := by
  induction h with
  | nil r => rfl
  | cons hn hrec _ ih =>
    rw [rowsAt_error c i k hw hn hrec]
    exact ih (step_facts hw hn (by intro h; cases h)).1

/-- … and are exactly what is added to the error list -/
theorem Skips.perrsAt {r r' : Reader} {es : List PErr} (h : Skips r es r') (hw : WF r) :
    perrsAt r = es ++ perrsAt r' := by
  induction h with
  | nil r => rfl
  | cons hn hrec _ ih =>
    rw [perrsAt_error hw hn hrec, ih (step_facts hw hn (by intro h; cases h)).1]
    rfl

/-- For `ctxsOf`: over `ws ++ g ++ rest` (`g` a non-empty garbage run) the rows are the
rows behind a reader `r'` standing before `rest` — for every sufficient fuel on either side — and the list of
errors in the input is `|g|` entries longer. -/
theorem garbage_run_ctxsOf (c : Cfg) (ws : List Byte) (hws : ∀ b ∈ ws, isWs b = true) (g : List Byte)
    (hg : ∀ b ∈ g, Garbage b = true) (hne : g ≠ []) (rest : List Byte) (r : Reader)
    (hr : Ready r (ws ++ (g ++ rest))) :
    ∃ es r', Ready r' rest ∧ es.length = g.length ∧ (∀ e ∈ es, e.canRecover = true) ∧
      ∀ (fuel fuel' : Nat), μ r + 1 ≤ fuel → μ r' + 1 ≤ fuel' →
        (∀ i k, ctxsOf c fuel r i k = ctxsOf c fuel' r' i k) ∧
        perrsOf fuel r = es ++ perrsOf fuel' r' := by
  obtain ⟨es, r', hs, hlen, hr'⟩ := garbage_run ws hws g hg hne rest r hr
  refine ⟨es, r', hr', hlen, hs.canRecover, fun fuel fuel' hf hf' => ⟨fun i k => ?_, ?_⟩⟩
  · rw [ctxsOf_eq_rowsAt c fuel r i k (ready_wf hr) hf, ctxsOf_eq_rowsAt c fuel' r' i k (ready_wf hr') hf',
      hs.rowsAt c (ready_wf hr)]
  · rw [perrsOf_eq_perrsAt fuel r (ready_wf hr) hf, perrsOf_eq_perrsAt fuel' r' (ready_wf hr') hf', hs.perrsAt (ready_wf hr)]

/-! ### noisy streams

A stream is `gap₀ text(v₁) gap₁ … text(vₙ) gapₙ`.  A gap is a white-space run followed by garbage tokens,
each token a non-empty run of garbage bytes followed by a white-space run. -/

/-- what stands between two values: white space `ws`, then tokens `(garbage, white space)` -/
structure Gap where
  ws : List Byte := []
  toks : List (List Byte × List Byte) := []
  deriving Inhabited

def toksBytes (toks : List (List Byte × List Byte)) : List Byte := toks.flatMap (fun t => t.1 ++ t.2)

def Gap.bytes (g : Gap) : List Byte := g.ws ++ toksBytes g.toks

/-- the number of garbage bytes in the gap -/
def Gap.garbage (g : Gap) : Nat := (g.toks.map (fun t => t.1.length)).sum

/-- the gap with its garbage bytes deleted (all white space kept) -/
def Gap.strip (g : Gap) : Gap := { ws := g.ws ++ g.toks.flatMap (·.2), toks := [] }

/-- `ws` is white space; every token is a non-empty run of garbage bytes followed by white space -/
def Gap.OK (g : Gap) : Prop :=
  (∀ b ∈ g.ws, isWs b = true) ∧
  ∀ t ∈ g.toks, t.1 ≠ [] ∧ (∀ b ∈ t.1, Garbage b = true) ∧ (∀ b ∈ t.2, isWs b = true)

/-- the bytes of the stream: first gap, then every value (printed with options `o`) followed by its gap -/
def stream (o : JsonOpts) (g0 : Gap) (items : List (JV × Gap)) : List Byte :=
  g0.bytes ++ items.flatMap (fun x => utf8 (printJson o x.1) ++ x.2.bytes)

/-- every value is printable, every gap well formed; the gap after a value starts with white space
(garbage never touches a value) unless it is empty and ends the stream -/
def ItemsOK (o : JsonOpts) : List (JV × Gap) → Prop
  | [] => True
  | (v, g) :: rest =>
    Printable o v ∧ g.OK ∧ (g.ws ≠ [] ∨ (g.toks = [] ∧ rest = [])) ∧ ItemsOK o rest

/-- the clean twin: same values, same white space, no garbage -/
def stripItems (items : List (JV × Gap)) : List (JV × Gap) := items.map (fun x => (x.1, x.2.strip))

/-- total number of garbage bytes -/
def garbageCount (g0 : Gap) (items : List (JV × Gap)) : Nat :=
  g0.garbage + (items.map (fun x => x.2.garbage)).sum

/-- number of gaps that contain garbage (the "malformed regions") -/
def noisyGaps (g0 : Gap) (items : List (JV × Gap)) : Nat :=
  ((g0 :: items.map (·.2)).filter (fun g => !g.toks.isEmpty)).length

/-- top-level scalars are dropped under `--only-objects-and-arrays` -/
def applyOnlyObj (c : Cfg) (vs : List JV) : List JV :=
  vs.filter (fun v => !(c.onlyObjectsAndArrays && !v.isObjOrArr))

theorem applyOnlyObj_off (c : Cfg) (h : c.onlyObjectsAndArrays = false) (vs : List JV) :
    applyOnlyObj c vs = vs := by
  simp [applyOnlyObj, h]

theorem applyOnlyObj_on (c : Cfg) (h : c.onlyObjectsAndArrays = true) (vs : List JV) :
    applyOnlyObj c vs = vs.filter (·.isObjOrArr) := by
  simp [applyOnlyObj, h]

theorem Gap.strip_OK {g : Gap} (h : g.OK) : g.strip.OK := by
  refine ⟨?_, fun t ht => by cases ht⟩
  intro b hb
  simp only [Gap.strip, List.mem_append, List.mem_flatMap] at hb
  rcases hb with hb | ⟨t, ht, hb⟩
  · exact h.1 b hb
  · exact (h.2 t ht).2.2 b hb

theorem Gap.strip_garbage (g : Gap) : g.strip.garbage = 0 := rfl

theorem stripItems_OK (o : JsonOpts) (items : List (JV × Gap)) (h : ItemsOK o items) :
    ItemsOK o (stripItems items) := by
  induction items with
  | nil => trivial
  | cons x rest ih =>
    obtain ⟨v, g⟩ := x
    obtain ⟨hv, hg, hsep, hrest⟩ := h
    refine ⟨hv, Gap.strip_OK hg, ?_, ih hrest⟩
    rcases hsep with hsep | ⟨h1, h2⟩
    · left
      simp only [Gap.strip]
      intro h
      exact hsep (List.append_eq_nil_iff.mp h).1
    · right
      subst h2
      exact ⟨rfl, rfl⟩

theorem stripItems_values (items : List (JV × Gap)) : (stripItems items).map (·.1) = items.map (·.1) := by
  simp [stripItems, Function.comp_def]

theorem garbageCount_strip (g0 : Gap) (items : List (JV × Gap)) :
    garbageCount g0.strip (stripItems items) = 0 := by
  simp only [garbageCount, Gap.strip_garbage, stripItems, List.map_map, Nat.zero_add]
  induction items with
  | nil => rfl
  | cons x rest ih => simpa [Gap.strip_garbage] using ih

/-- a gap that contains garbage contains at least one garbage byte -/
theorem Gap.garbage_pos {g : Gap} (h : g.OK) (hne : g.toks.isEmpty = false) : 1 ≤ g.garbage := by
  obtain ⟨ws, toks⟩ := g
  cases toks with
  | nil => cases hne
  | cons t toks =>
    have := (h.2 t (by simp)).1
    have hl : 1 ≤ t.1.length := List.length_pos_iff.mpr this
    simp only [Gap.garbage, List.map_cons, List.sum_cons]
    omega

/-! ### skipping a gap -/

theorem toks_skips (toks : List (List Byte × List Byte))
    (htoks : ∀ t ∈ toks, t.1 ≠ [] ∧ (∀ b ∈ t.1, Garbage b = true) ∧ (∀ b ∈ t.2, isWs b = true))
    (w : List Byte) (hw : ∀ b ∈ w, isWs b = true) (rest : List Byte) (r : Reader)
    (hr : Ready r (w ++ (toksBytes toks ++ rest))) :
    ∃ es r' w', Skips r es r' ∧ es.length = (toks.map (fun t => t.1.length)).sum ∧
      (∀ b ∈ w', isWs b = true) ∧ Ready r' (w' ++ rest) := by
  induction toks generalizing w r with
  | nil => exact ⟨[], r, w, Skips.nil r, rfl, hw, by simpa [toksBytes] using hr⟩
  | cons t toks ih =>
    obtain ⟨hne, hg, hws⟩ := htoks t (by simp)
    have hr1 : Ready r (w ++ (t.1 ++ (t.2 ++ (toksBytes toks ++ rest)))) := by
      simpa [toksBytes, List.append_assoc] using hr
    obtain ⟨es1, r1, hs1, hlen1, hr1'⟩ := garbage_run w hw t.1 hg hne _ r hr1
    obtain ⟨es2, r2, w', hs2, hlen2, hw', hr2⟩ :=
      ih (fun x hx => htoks x (by simp [hx])) t.2 hws r1 hr1'
    exact ⟨es1 ++ es2, r2, w', hs1.append hs2, by simp [hlen1, hlen2], hw', hr2⟩

/-- a gap (after any white space `w`): its garbage bytes are skipped one error each; the reader then stands
before some white space and what follows the gap -/
theorem gap_skips (g : Gap) (hg : g.OK) (w : List Byte) (hw : ∀ b ∈ w, isWs b = true) (rest : List Byte)
    (r : Reader) (hr : Ready r (w ++ (g.bytes ++ rest))) :
    ∃ es r' w', Skips r es r' ∧ es.length = g.garbage ∧ (∀ b ∈ w', isWs b = true) ∧ Ready r' (w' ++ rest) := by
  have hr1 : Ready r ((w ++ g.ws) ++ (toksBytes g.toks ++ rest)) := by
    simpa [Gap.bytes, List.append_assoc] using hr
  exact toks_skips g.toks hg.2 (w ++ g.ws) (ws_append hw hg.1) rest r hr1

theorem μ_ofBytes (bs : List Byte) (name : Option Str) : μ (Reader.ofBytes bs name) = bs.length + 1 := by
  simp [Reader.ofBytes, μ_ofItems, cleanInput]

/-! non-vacuity: the stream `1 x 2\n` -/

example : Garbage 120 = true := by decide

/-- `1 x 2\n`: values `1`, `2`; the gap after `1` is `" x "`, the gap after `2` is `"\n"` -/
def exItems : List (JV × Gap) :=
  [(.num (.pos 1), { ws := [32], toks := [([120], [32])] }), (.num (.pos 2), { ws := [10] })]

example : stream {} {} exItems = [49, 32, 120, 32, 50, 10] := by decide
example : stream {} ({} : Gap).strip (stripItems exItems) = [49, 32, 32, 50, 10] := by decide
example : garbageCount {} exItems = 1 ∧ noisyGaps {} exItems = 1 := by decide

theorem emptyGap_ok : ({} : Gap).OK := by
  constructor
  · intro b hb; cases hb
  · intro t ht; cases ht

theorem exItems_ok : ItemsOK {} exItems := by
  refine ⟨?_, ⟨?_, ?_⟩, .inl (by simp), ?_, ⟨?_, ?_⟩, .inl (by simp), trivial⟩
  · show (1 : Nat) < 2 ^ 64
    decide
  · intro b hb; simp at hb; subst hb; rfl
  · intro t ht
    simp only [List.mem_singleton] at ht
    subst ht
    refine ⟨by simp, ?_, ?_⟩ <;> intro b hb <;> simp at hb <;> subst hb <;> decide
  · show (2 : Nat) < 2 ^ 64
    decide
  · intro b hb; simp at hb; subst hb; rfl
  · intro t ht; cases ht

/-! ### streams as input sources -/

/-- a stream as an input source -/
def streamSource (name : Option Str) (o : JsonOpts) (g0 : Gap) (items : List (JV × Gap)) : Source :=
  ⟨name, cleanInput (stream o g0 items)⟩

theorem cleanIO_streams (l : List Source) (h : ∀ s ∈ l, ∃ bs, s.items = cleanInput bs) : CleanIO l := by
  intro s hs
  obtain ⟨bs, hbs⟩ := h s hs
  rw [hbs]
  exact cleanInput_clean bs

theorem flatMap_input {β} (f : JV → List β) (l : List Ctx) :
    l.flatMap (fun ctx => f ctx.input) = (l.map (·.input)).flatMap f := by
  induction l with
  | nil => rfl
  | cons x l ih => simp [ih]

/-! ### `--on-error=panic` -/

/-- how the run fails on a parser error under `panic`: with that error, or with `io` when the stream itself
failed -/
def failOf (e : PErr) : Fail := if e.canRecover then .json e else .io

/-- the rows read before the first error of any kind, and that error, if there is one -/
def ctxsUntilError (c : Cfg) : Nat → Reader → Nat → Nat → List Ctx × Option PErr
  | 0, _, _, _ => ([], none)
  | fuel + 1, r, inFile, idx =>
    match r.nextJson with
    | (.ok (some v), r') =>
      if c.onlyObjectsAndArrays && !v.isObjOrArr then ctxsUntilError c fuel r' inFile idx
      else
        ({ input := v, ictx := some { startLoc := r.loc, endLoc := r'.loc, fileIndex := inFile, index := idx } }
            :: (ctxsUntilError c fuel r' (inFile + 1) (idx + 1)).1,
          (ctxsUntilError c fuel r' (inFile + 1) (idx + 1)).2)
    | (.ok none, _) => ([], none)
    | (.error e, _) => ([], some e)

/-- what the chain does with the rows read before the first error -/
abbrev panicRes (orc : Oracles) (c : Cfg) (p : Pipeline) (fuel : Nat) (r : Reader) (inFile : Nat)
    (s : RunState) : Pipe.Step :=
  feedBrk (processP (evalT orc) p.cfgs) s.sts (ctxsUntilError c fuel r inFile s.index).1

/-- Under `--on-error=panic` the read loop feeds the chain the rows that precede the first
error.  If the chain has not answered `Break` by then, the loop fails with that error, having written exactly
the rows the chain delivered for that prefix; otherwise (no error, or `Break` first) it ends normally. -/
theorem readLoop_panic (orc : Oracles) (c : Cfg) (p : Pipeline)
    (hpol : c.onError = .panic) (hna : NoAbort orc p.cfgs)
    (fuel : Nat) (r : Reader) (inFile : Nat) (s : RunState)
    (hw : Unbounded s.out) (hs : Shape p.cfgs s.sts) (hwf : WF r) (hf : μ r + 1 ≤ fuel) :
    (∀ e, (ctxsUntilError c fuel r inFile s.index).2 = some e →
        (panicRes orc c p fuel r inFile s).2.2 = .cont →
      ∃ s', readLoop orc c p fuel r inFile s = .error ⟨.error (failOf e), s'⟩
        ∧ s'.sts = (panicRes orc c p fuel r inFile s).1
        ∧ s'.out = wappend s.out ((panicRes orc c p fuel r inFile s).2.1.flatMap (sinkBytes p.sink p.sinkLen))
        ∧ s'.err = s.err)
    ∧ (((ctxsUntilError c fuel r inFile s.index).2 = none ∨ (panicRes orc c p fuel r inFile s).2.2 = .brk) →
      ∃ s' r', readLoop orc c p fuel r inFile s = .ok (s', r', (panicRes orc c p fuel r inFile s).2.2)
        ∧ s'.sts = (panicRes orc c p fuel r inFile s).1
        ∧ s'.out = wappend s.out ((panicRes orc c p fuel r inFile s).2.1.flatMap (sinkBytes p.sink p.sinkLen))
        ∧ s'.err = s.err
        ∧ ((panicRes orc c p fuel r inFile s).2.2 = .cont →
            s'.index = s.index + (ctxsUntilError c fuel r inFile s.index).1.length)
        ∧ Shape p.cfgs s'.sts) := by
  induction fuel generalizing r inFile s with
  | zero => omega
  | succ fuel ih =>
    have hm := nextJson_mono r
    rcases hn : r.nextJson with ⟨res, r'⟩
    rw [hn] at hm
    cases res with
    | error e =>
      simp only [panicRes, readLoop, ctxsUntilError, hn, feedBrk]
      constructor
      · intro e' he' _
        cases he'
        refine ⟨{ s with pulled := s.pulled ++ [r'.pulled] }, ?_, rfl, by simp [wappend_nil], rfl⟩
        unfold failOf
        cases hrec : e.canRecover <;> simp [hpol]
      · rintro (h | h) <;> cases h
    | ok o =>
      cases o with
      | none =>
        simp only [panicRes, readLoop, ctxsUntilError, hn, feedBrk]
        constructor
        · intro e he; cases he
        · intro _
          exact ⟨s, r', rfl, rfl, by simp [wappend_nil], rfl, fun _ => rfl, hs⟩
      | some v =>
        have hp := nextJson_progress r hwf hn (by intro h; cases h)
        simp only [panicRes, readLoop, ctxsUntilError, hn]
        split
        · exact ih r' inFile s hw hs (hm.wf hwf) (by omega)
        · obtain ⟨p1, p2⟩ := process_pure orc p.sink p.sinkLen p.cfgs s.sts s.out
            { input := v, ictx := some { startLoc := r.loc, endLoc := r'.loc, fileIndex := inFile, index := s.index } }
            hna hw hs
          rcases hP : processP (evalT orc) p.cfgs s.sts
            { input := v, ictx := some { startLoc := r.loc, endLoc := r'.loc, fileIndex := inFile, index := s.index } }
            with ⟨s1, o1, d⟩
          rw [hP] at p1 p2
          cases d with
          | brk =>
            rw [feedBrk_cons_brk hP]
            simp only [p1]
            constructor
            · intro e _ h; cases h
            · intro _
              exact ⟨_, r', rfl, rfl, rfl, rfl, (fun h => by cases h), p2⟩
          | cont =>
            rw [feedBrk_cons_cont hP]
            simp only [p1]
            obtain ⟨ihE, ihO⟩ :=
              ih r' (inFile + 1) { s with sts := s1, out := wappend s.out (o1.flatMap (sinkBytes p.sink p.sinkLen)),
                                          index := s.index + 1 }
                (hw.wappend _) p2 (hm.wf hwf) (by omega)
            constructor
            · intro e he hc
              obtain ⟨s', h1, h2, h3, h4⟩ := ihE e he hc
              refine ⟨s', h1, h2, ?_, h4⟩
              rw [h3, wappend_wappend, List.flatMap_append]
            · intro hc
              obtain ⟨s', r'', h1, h2, h3, h4, h5, h6⟩ := ihO hc
              refine ⟨s', r'', h1, h2, ?_, h4, ?_, h6⟩
              · rw [h3, wappend_wappend, List.flatMap_append]
              · intro hd
                rw [h5 hd]
                simp only [List.length_cons]
                omega

/-- the rows of a list of sources before the first error, and that error -/
def ctxsUntilErrorSources (c : Cfg) : List Source → Nat → List Ctx × Option PErr
  | [], _ => ([], none)
  | src :: rest, idx =>
    match (ctxsUntilError c (src.items.length + 2) (Reader.ofItems src.items src.name) 0 idx).2 with
    | some e => ((ctxsUntilError c (src.items.length + 2) (Reader.ofItems src.items src.name) 0 idx).1, some e)
    | none =>
      ((ctxsUntilError c (src.items.length + 2) (Reader.ofItems src.items src.name) 0 idx).1 ++
        (ctxsUntilErrorSources c rest
          (idx + (ctxsUntilError c (src.items.length + 2) (Reader.ofItems src.items src.name) 0 idx).1.length)).1,
       (ctxsUntilErrorSources c rest
          (idx + (ctxsUntilError c (src.items.length + 2) (Reader.ofItems src.items src.name) 0 idx).1.length)).2)

abbrev panicSrcRes (orc : Oracles) (c : Cfg) (p : Pipeline) (sources : List Source) (s : RunState) : Pipe.Step :=
  feedBrk (processP (evalT orc) p.cfgs) s.sts (ctxsUntilErrorSources c sources s.index).1

/-- the file loop under `panic` -/
theorem readSources_panic (orc : Oracles) (c : Cfg) (p : Pipeline)
    (hpol : c.onError = .panic) (hna : NoAbort orc p.cfgs)
    (sources : List Source) (s : RunState) (hw : Unbounded s.out) (hs : Shape p.cfgs s.sts) :
    (∀ e, (ctxsUntilErrorSources c sources s.index).2 = some e →
        (panicSrcRes orc c p sources s).2.2 = .cont →
      ∃ s', readSources orc c p sources s = .error ⟨.error (failOf e), s'⟩
        ∧ s'.sts = (panicSrcRes orc c p sources s).1
        ∧ s'.out = wappend s.out ((panicSrcRes orc c p sources s).2.1.flatMap (sinkBytes p.sink p.sinkLen))
        ∧ s'.err = s.err)
    ∧ (((ctxsUntilErrorSources c sources s.index).2 = none ∨ (panicSrcRes orc c p sources s).2.2 = .brk) →
      ∃ s', readSources orc c p sources s = .ok s'
        ∧ s'.sts = (panicSrcRes orc c p sources s).1
        ∧ s'.out = wappend s.out ((panicSrcRes orc c p sources s).2.1.flatMap (sinkBytes p.sink p.sinkLen))
        ∧ s'.err = s.err
        ∧ Shape p.cfgs s'.sts) := by
  induction sources generalizing s with
  | nil =>
    simp only [panicSrcRes, ctxsUntilErrorSources, readSources, feedBrk]
    constructor
    · intro e he; cases he
    · intro _
      exact ⟨s, rfl, rfl, by simp [wappend_nil], rfl, hs⟩
  | cons src rest ih =>
    obtain ⟨hE, hO⟩ := readLoop_panic orc c p hpol hna (src.items.length + 2)
      (Reader.ofItems src.items src.name) 0 s hw hs (wf_ofItems _ _) (by rw [μ_ofItems]; omega)
    simp only [panicRes] at hE hO
    simp only [panicSrcRes, readSources, ctxsUntilErrorSources]
    rcases ht : (ctxsUntilError c (src.items.length + 2) (Reader.ofItems src.items src.name) 0 s.index).2
      with _ | e
    · -- no error in this source
      simp only []
      obtain ⟨s1, r1, h1, h2, h3, h4, h5, h6⟩ := hO (.inl ht)
      rw [h1]
      rcases hd : (feedBrk (processP (evalT orc) p.cfgs) s.sts
          (ctxsUntilError c (src.items.length + 2) (Reader.ofItems src.items src.name) 0 s.index).1).2.2
        with _ | _
      · -- `.cont`: next source
        have hw1 : Unbounded s1.out := by rw [h3]; exact hw.wappend _
        obtain ⟨gE, gO⟩ := ih { s1 with pulled := s1.pulled ++ [r1.pulled] } hw1 h6
        simp only [panicSrcRes] at gE gO
        have hidx := h5 hd
        rw [feedBrk_append_cont _ _ _ _ hd]
        simp only [show (Decision.cont = Decision.brk) = False from by simp, if_false]
        rw [← h2, ← hidx]
        constructor
        · intro e he hc
          obtain ⟨s', g1, g2, g3, g4⟩ := gE e he hc
          refine ⟨s', g1, g2, ?_, by rw [g4, h4]⟩
          rw [g3, h3, wappend_wappend, List.flatMap_append]
        · intro hc
          obtain ⟨s', g1, g2, g3, g4, g5⟩ := gO hc
          refine ⟨s', g1, g2, ?_, by rw [g4, h4], g5⟩
          rw [g3, h3, wappend_wappend, List.flatMap_append]
      · -- `.brk`: the remaining sources are not opened
        rw [feedBrk_append_brk _ _ _ _ hd]
        simp only [if_true]
        constructor
        · intro e _ hc; rw [hd] at hc; cases hc
        · intro _
          exact ⟨_, rfl, h2, h3, h4, h6⟩
    · -- this source holds the first error
      simp only []
      constructor
      · intro e' he' hc
        cases he'
        obtain ⟨s', h1, h2, h3, h4⟩ := hE e ht hc
        rw [h1]
        exact ⟨s', rfl, h2, h3, h4⟩
      · rintro (h | h)
        · cases h
        · obtain ⟨s1, r1, h1, h2, h3, h4, h5, h6⟩ := hO (.inr h)
          rw [h1, h]
          simp only [if_true]
          exact ⟨_, rfl, h2, h3, h4, h6⟩

/-- a chain without whole-input stage: no sorter, grouper or merger -/
def Streaming : List StageCfg → Prop
  | [] => True
  | .sort _ _ :: _ => False
  | .group _ :: _ => False
  | .merge :: _ => False
  | _ :: cs => Streaming cs

/-- a streaming chain holds nothing back: `complete` delivers no row -/
theorem completeP_streaming (ev : Expr → Ctx → Option JV) (cfgs : List StageCfg) (sts : List StageSt)
    (h : Streaming cfgs) : completeP ev cfgs sts = [] := by
  induction cfgs generalizing sts with
  | nil => simp [completeP]
  | cons c cs ih =>
    cases sts with
    | nil => simp [completeP]
    | cons st sts =>
      cases c <;> first
        | exact h.elim
        | (cases st <;> simp only [completeP] <;> exact ih sts h)

/-- for a streaming chain what has been delivered when the feeding stops is the documented composition
applied to the rows fed -/
theorem feedBrk_streaming_spec (ev : Expr → Ctx → Option JV) {cfgs : List StageCfg} {sts : List StageSt}
    (hi : Initial cfgs sts) (hg : GroupLast cfgs) (hst : Streaming cfgs) (rows : List Ctx) :
    (feedBrk (processP ev cfgs) sts rows).2.1 = specRows ev cfgs sts rows := by
  rw [← runP_eq_spec ev hi hg rows, runP, completeP_streaming ev cfgs _ hst, List.append_nil]

/-- Under `--on-error=panic`, with a configuration that builds, expressions that never
abort and a standard output that never fails: let `pre` be the rows read before the first error.
* If there is such an error and the chain has not answered `Break` on `pre`, the run fails with that error;
  standard output holds the header and the rows the chain delivered while being fed `pre` — `complete` is not
  run — and for a streaming chain these are exactly `specRows pre`.  Nothing is written to standard error
  by the run itself.
* Otherwise the run succeeds and writes exactly what it writes under `ignore`: `specRows pre`. -/
theorem run_panic_spec (orc : Oracles) (c : Cfg) (sources : List Source) (wOut wErr : Writer) (p : Pipeline)
    (hpol : c.onError = .panic) (hb : build orc c = .ok p)
    (hna : NoAbort orc p.cfgs) (hw : Unbounded wOut) (hh : ¬ HeaderMissing p) :
    (∀ e, (ctxsUntilErrorSources c sources 0).2 = some e →
        (feedBrk (processP (evalT orc) p.cfgs) p.sts (ctxsUntilErrorSources c sources 0).1).2.2 = .cont →
      (run orc c sources wOut wErr).result = .error (failOf e)
      ∧ (run orc c sources wOut wErr).stdout
          = wOut.out ++ headerBytes p ++
            (feedBrk (processP (evalT orc) p.cfgs) p.sts (ctxsUntilErrorSources c sources 0).1).2.1.flatMap
              (sinkBytes p.sink p.sinkLen)
      ∧ (Streaming p.cfgs →
          (run orc c sources wOut wErr).stdout
            = wOut.out ++ headerBytes p ++
              (specRows (evalT orc) p.cfgs p.sts (ctxsUntilErrorSources c sources 0).1).flatMap
                (sinkBytes p.sink p.sinkLen))
      ∧ (run orc c sources wOut wErr).stderr = wErr.out)
    ∧ (((ctxsUntilErrorSources c sources 0).2 = none ∨
        (feedBrk (processP (evalT orc) p.cfgs) p.sts (ctxsUntilErrorSources c sources 0).1).2.2 = .brk) →
      (run orc c sources wOut wErr).result = .ok ()
      ∧ (run orc c sources wOut wErr).stdout
          = wOut.out ++ headerBytes p ++
            (specRows (evalT orc) p.cfgs p.sts (ctxsUntilErrorSources c sources 0).1).flatMap
              (sinkBytes p.sink p.sinkLen)
      ∧ (run orc c sources wOut wErr).stderr = wErr.out) := by
  obtain ⟨hi, hg, -, -⟩ := build_initial orc c p hb
  obtain ⟨hE, hO⟩ := readSources_panic orc c p hpol hna sources
    { sts := p.sts, out := wappend wOut (headerBytes p), err := wErr } (hw.wappend _) hi.shape
  simp only [panicSrcRes] at hE hO
  constructor
  · intro e he hc
    obtain ⟨s', g1, g2, g3, g4⟩ := hE e he hc
    have hout : (run orc c sources wOut wErr).stdout
          = wOut.out ++ headerBytes p ++
            (feedBrk (processP (evalT orc) p.cfgs) p.sts (ctxsUntilErrorSources c sources 0).1).2.1.flatMap
              (sinkBytes p.sink p.sinkLen) := by
      simp only [run, hb, sinkStart_unbounded p hw hh, g1, RunEnd.toResult, g3, wappend_out]
    refine ⟨?_, hout, ?_, ?_⟩
    · simp only [run, hb, sinkStart_unbounded p hw hh, g1, RunEnd.toResult]
    · intro hst
      rw [hout, feedBrk_streaming_spec (evalT orc) hi hg hst]
    · simp only [run, hb, sinkStart_unbounded p hw hh, g1, RunEnd.toResult, g4]
  · intro hc
    obtain ⟨s', g1, g2, g3, g4, g5⟩ := hO hc
    have hw' : Unbounded s'.out := by rw [g3]; exact (hw.wappend _).wappend _
    have hcp := complete_pure orc p.sink p.sinkLen p.cfgs s'.sts s'.out hna hw' g5
    have hspec := runP_eq_spec (evalT orc) hi hg (ctxsUntilErrorSources c sources 0).1
    simp only [run, hb, sinkStart_unbounded p hw hh, g1, hcp]
    refine ⟨trivial, ?_, by rw [g4]⟩
    simp only [wappend_out, g3, g2]
    rw [← hspec, runP, List.flatMap_append]
    simp [List.append_assoc]

/-! ### reading up to the first error, one step at a time -/

theorem ctxsUntilError_fuel (c : Cfg) (f₁ f₂ : Nat) (r : Reader) (i k : Nat) (hw : WF r)
    (h1 : μ r + 1 ≤ f₁) (h2 : μ r + 1 ≤ f₂) : ctxsUntilError c f₁ r i k = ctxsUntilError c f₂ r i k := by
  induction f₁ generalizing f₂ r i k with
  | zero => omega
  | succ f₁ ih =>
    obtain ⟨f₂, rfl⟩ : ∃ m, f₂ = m + 1 := ⟨f₂ - 1, by omega⟩
    rcases hn : r.nextJson with ⟨res, r'⟩
    cases res with
    | error e => simp only [ctxsUntilError, hn]
    | ok o =>
      cases o with
      | none => simp only [ctxsUntilError, hn]
      | some v =>
        obtain ⟨hw', hμ⟩ := step_facts hw hn (by intro h; cases h)
        simp only [ctxsUntilError, hn]
        split
        · exact ih f₂ r' i k hw' (by omega) (by omega)
        · rw [ih f₂ r' (i + 1) (k + 1) hw' (by omega) (by omega)]

/-- the rows before the first error behind reader `r`, and that error -/
def untilAt (c : Cfg) (r : Reader) (i k : Nat) : List Ctx × Option PErr := ctxsUntilError c (μ r + 1) r i k

theorem ctxsUntilError_eq_untilAt (c : Cfg) (f : Nat) (r : Reader) (i k : Nat) (hw : WF r) (hf : μ r + 1 ≤ f) :
    ctxsUntilError c f r i k = untilAt c r i k := ctxsUntilError_fuel c f _ r i k hw hf (Nat.le_refl _)

theorem untilAt_error (c : Cfg) {r r' : Reader} {e : PErr} (i k : Nat)
    (hn : r.nextJson = (.error e, r')) : untilAt c r i k = ([], some e) := by
  rw [untilAt, ctxsUntilError]
  simp only [hn]

theorem untilAt_end (c : Cfg) {r r' : Reader} (i k : Nat)
    (hn : r.nextJson = (.ok none, r')) : untilAt c r i k = ([], none) := by
  rw [untilAt, ctxsUntilError]
  simp only [hn]

theorem untilAt_value (c : Cfg) {r r' : Reader} {v : JV} (i k : Nat) (hw : WF r)
    (hn : r.nextJson = (.ok (some v), r')) :
    untilAt c r i k =
      if c.onlyObjectsAndArrays && !v.isObjOrArr then untilAt c r' i k
      else ({ input := v, ictx := some { startLoc := r.loc, endLoc := r'.loc, fileIndex := i, index := k } }
              :: (untilAt c r' (i + 1) (k + 1)).1, (untilAt c r' (i + 1) (k + 1)).2) := by
  obtain ⟨hw', hμ⟩ := step_facts hw hn (by intro h; cases h)
  rw [untilAt, ctxsUntilError]
  simp only [hn]
  rw [ctxsUntilError_eq_untilAt c _ r' i k hw' hμ, ctxsUntilError_eq_untilAt c _ r' (i + 1) (k + 1) hw' hμ]

/-- the values that precede the first gap containing garbage -/
def cleanPrefix (g0 : Gap) : List (JV × Gap) → List JV
  | [] => []
  | (v, g) :: rest => if g0.toks.isEmpty then v :: cleanPrefix g rest else []

/-- the first garbage byte of the stream -/
def firstGarbage (g0 : Gap) : List (JV × Gap) → Option Byte
  | [] => g0.toks.head?.bind (·.1.head?)
  | (_, g) :: rest =>
    match g0.toks with
    | t :: _ => t.1.head?
    | [] => firstGarbage g rest

theorem ctxsUntilErrorSources_single (c : Cfg) (src : Source) (k : Nat) :
    (ctxsUntilErrorSources c [src] k).1
        = (ctxsUntilError c (src.items.length + 2) (Reader.ofItems src.items src.name) 0 k).1 ∧
    (ctxsUntilErrorSources c [src] k).2
        = (ctxsUntilError c (src.items.length + 2) (Reader.ofItems src.items src.name) 0 k).2 := by
  simp only [ctxsUntilErrorSources]
  split
  · rename_i e he
    exact ⟨rfl, he.symm⟩
  · rename_i he
    exact ⟨by simp, he.symm⟩

/-- the clean twin holds no garbage: all its values precede "the first garbage byte" -/
theorem strip_clean (g0 : Gap) (items : List (JV × Gap)) :
    firstGarbage g0.strip (stripItems items) = none ∧
    cleanPrefix g0.strip (stripItems items) = items.map (·.1) := by
  induction items generalizing g0 with
  | nil => exact ⟨rfl, rfl⟩
  | cons x rest ih =>
    obtain ⟨v, g⟩ := x
    obtain ⟨i1, i2⟩ := ih g
    constructor
    · simp only [stripItems, List.map_cons, firstGarbage, Gap.strip] at i1 ⊢
      exact i1
    · simp only [stripItems, List.map_cons, cleanPrefix, Gap.strip, List.isEmpty_nil, if_true] at i2 ⊢
      rw [i2]

/-- `1 x 2\n` under `panic`: the first garbage byte is `x`, the value `1` precedes it -/
example : firstGarbage {} exItems = some 120 ∧ cleanPrefix {} exItems = [.num (.pos 1)] := ⟨rfl, rfl⟩

def panicCfg : Cfg := { onError := .panic }

theorem build_panicCfg (orc : Oracles) : build orc panicCfg = .ok defaultPipeline := rfl

/-- the same run, computed: it fails at `x` (the reader has pulled the byte after it: column 5), having
printed the row of the value `1` -/
example (orc : Oracles) :
    (run orc panicCfg [⟨none, cleanInput [49, 32, 120, 32, 50, 10]⟩] {} {}).result
        = .error (.json (.unexpectedChar { name := none, line := 1, col := 5 } 120 valueExpected)) ∧
    (run orc panicCfg [⟨none, cleanInput [49, 32, 120, 32, 50, 10]⟩] {} {}).stdout = [49, 10] :=
  ⟨rfl, rfl⟩

/-! ### runs without a recoverable error write no report, under any policy -/

/-- no source holds a recoverable error -/
def NoErrors (sources : List Source) : Prop :=
  ∀ src ∈ sources, perrsOf (src.items.length + 2) (Reader.ofItems src.items src.name) = []

theorem errsOfSources_nil (ev : Expr → Ctx → Option JV) (c : Cfg) (cfgs : List StageCfg)
    (sources : List Source) (h : NoErrors sources) (k : Nat) (sts : List StageSt) :
    errsOfSources ev c cfgs sources k sts = [] := by
  induction sources generalizing k sts with
  | nil => rfl
  | cons src rest ih =>
    have h1 : errsOf ev c cfgs (src.items.length + 2) (Reader.ofItems src.items src.name) 0 k sts = [] := by
      have := errsOf_prefix ev c cfgs (src.items.length + 2) (Reader.ofItems src.items src.name) 0 k sts
      rw [h src (by simp)] at this
      exact List.prefix_nil.mp this
    simp only [errsOfSources, h1, List.nil_append]
    split
    · rfl
    · exact ih (fun s hs => h s (by simp [hs])) _ _

/-- without errors, the rows before the first error are all the rows -/
theorem ctxsUntilError_of_noErrors (c : Cfg) (fuel : Nat) (r : Reader) (i k : Nat) (hcl : Clean r)
    (h : perrsOf fuel r = []) : ctxsUntilError c fuel r i k = (ctxsOf c fuel r i k, none) := by
  induction fuel generalizing r i k with
  | zero => rfl
  | succ fuel ih =>
    have hc2 := (nextJson_clean r hcl).2
    rcases hn : r.nextJson with ⟨res, r'⟩
    rw [hn] at hc2
    cases res with
    | error e =>
      have hrec := nextJson_canRecover hcl hn
      simp [perrsOf, hn, hrec] at h
    | ok o =>
      cases o with
      | none => simp only [ctxsUntilError, ctxsOf, hn]
      | some v =>
        simp only [perrsOf, hn] at h
        simp only [ctxsUntilError, ctxsOf, hn]
        split
        · exact ih r' i k hc2 h
        · rw [ih r' (i + 1) (k + 1) hc2 h]

theorem ctxsUntilErrorSources_of_noErrors (c : Cfg) (sources : List Source) (hcl : CleanIO sources)
    (h : NoErrors sources) (k : Nat) :
    ctxsUntilErrorSources c sources k = (ctxsOfSources c sources k, none) := by
  induction sources generalizing k with
  | nil => rfl
  | cons src rest ih =>
    have h1 := ctxsUntilError_of_noErrors c (src.items.length + 2) (Reader.ofItems src.items src.name) 0 k
      hcl.head (h src (by simp))
    simp only [ctxsUntilErrorSources, ctxsOfSources, h1, ih hcl.tail (fun s hs => h s (by simp [hs]))]

theorem Chunks.bytes_of_no_reports (ch : Chunks) (h : ch.reports = []) : ch.bytes = ch.rowPart := by
  induction ch with
  | nil => rfl
  | cons x ch ih =>
    obtain ⟨b, bs⟩ := x
    cases b with
    | true => simp [Chunks.reports] at h
    | false =>
      have h' : Chunks.reports ch = [] := by simpa [Chunks.reports] using h
      have := ih h'
      simp only [Chunks.bytes, Chunks.rowPart] at this ⊢
      simp [this]

/-- Sources that hold no recoverable error and no I/O error: under every
`--on-error` policy the run succeeds, standard output is the header and the rows of the documented composition
— no report line —, standard error is untouched. -/
theorem no_errors_no_reports (orc : Oracles) (c : Cfg) (sources : List Source) (wOut wErr : Writer) (p : Pipeline)
    (hb : build orc c = .ok p) (hna : NoAbort orc p.cfgs) (hw : Unbounded wOut)
    (he : c.onError = .stderr → Unbounded wErr)
    (hcl : CleanIO sources) (hne : NoErrors sources) (hh : ¬ HeaderMissing p) :
    errsOfSources (evalT orc) c p.cfgs sources 0 p.sts = []
    ∧ (run orc c sources wOut wErr).result = .ok ()
    ∧ (run orc c sources wOut wErr).stdout
        = wOut.out ++ headerBytes p ++
          (specRows (evalT orc) p.cfgs p.sts (ctxsOfSources c sources 0)).flatMap (sinkBytes p.sink p.sinkLen)
    ∧ (run orc c sources wOut wErr).stderr = wErr.out := by
  have hnil := errsOfSources_nil (evalT orc) c p.cfgs sources hne 0 p.sts
  refine ⟨hnil, ?_⟩
  cases hpol : c.onError with
  | ignore => exact run_ignore_spec orc c sources wOut wErr p hpol hb hna hw hcl hh
  | stderr =>
    obtain ⟨h1, h2, h3⟩ := policy_stderr_same_rows orc c sources wOut wErr p hpol hb hna hw (he hpol) hcl hh
    exact ⟨h1, h2, by rw [h3, hnil]; simp⟩
  | stdout =>
    obtain ⟨ch, h1, h2, h3, h4, h5⟩ := RunSpec.policy_stdout orc c sources wOut wErr p hpol hb hna hw hcl hh
    rw [hnil] at h4
    exact ⟨h1, by rw [h2, Chunks.bytes_of_no_reports ch h4, h3], h5⟩
  | panic =>
    obtain ⟨_, hO⟩ := run_panic_spec orc c sources wOut wErr p hpol hb hna hw hh
    rw [ctxsUntilErrorSources_of_noErrors c sources hcl hne 0] at hO
    exact hO (.inl rfl)

/-! ### the errors a run meets are not the errors of its input

"`(errsOf … noisy …).length` = number of garbage bytes" does not hold for every chain: `errsOf` lists the errors
the RUN meets, and the run stops reading when the chain answers `Break`.  With `--take 1` on `1 x 2\n` the
limiter answers `Break` on the value `1`; the garbage byte `x` is never read and nothing is reported.  What holds
is `≤` always and `=` when the chain does not answer `Break` (`noisy_errsOf` in `NoiseStream`); the errors in the
input itself are counted by `perrsOf` (`noisy_errors`, same file). -/
example :
    errsOf (fun _ _ => none) {} [.limit 0 (some 1)] 8 (Reader.ofBytes [49, 32, 120, 32, 50, 10] none) 0 0
      [.limit 0 0] = [] ∧
    (perrsOf 8 (Reader.ofBytes [49, 32, 120, 32, 50, 10] none)).length = 1 := ⟨by decide +kernel, by decide +kernel⟩

end Jawk.Noise
