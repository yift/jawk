/-
  C11 (concatenation) for whole runs, as bytes: out(A·B) = out(A)·out(B) for two streams of printed values separated
  by white space, under a chain of per-row stages that reads neither positions nor ordinals (`erase'`, `NoOrd`,
  `chainNoOrd`: the instances of `Erase` for line, column and the two ordinals).
  (Namespace `Jawk.Fix`, shared with Fixpoint.lean.)
-/
import Jawk.Lemmas.NoiseStream
namespace Jawk.Fix
open Jawk Jawk.Pipe Jawk.Fuel Jawk.RunSpec Jawk.RT Jawk.Noise Jawk.C06 Reader

/-! ### the rows of `A ++ B` -/

/-- append white space to the last token of a gap -/
def toksSnocWs : List (List Byte × List Byte) → List Byte → List (List Byte × List Byte)
  | [], _ => []
  | [t], w => [(t.1, t.2 ++ w)]
  | t :: u :: rest, w => t :: toksSnocWs (u :: rest) w

theorem toksBytes_cons (t : List Byte × List Byte) (ts : List (List Byte × List Byte)) :
    toksBytes (t :: ts) = t.1 ++ t.2 ++ toksBytes ts := by
  simp [toksBytes]

theorem toksBytes_append (a b : List (List Byte × List Byte)) : toksBytes (a ++ b) = toksBytes a ++ toksBytes b := by
  simp [toksBytes]

theorem toksBytes_snocWs : ∀ (toks : List (List Byte × List Byte)), toks ≠ [] → ∀ w : List Byte,
    toksBytes (toksSnocWs toks w) = toksBytes toks ++ w
  | [], h, _ => absurd rfl h
  | [t], _, w => by simp [toksSnocWs, toksBytes]
  | t :: u :: rest, _, w => by
    rw [toksSnocWs, toksBytes_cons, toksBytes_snocWs (u :: rest) (by simp) w, toksBytes_cons t]
    simp only [List.append_assoc]

theorem toksSnocWs_ok : ∀ (toks : List (List Byte × List Byte)) (w : List Byte), (∀ b ∈ w, isWs b = true) →
    (∀ t ∈ toks, t.1 ≠ [] ∧ (∀ b ∈ t.1, Garbage b = true) ∧ (∀ b ∈ t.2, isWs b = true)) →
    ∀ t ∈ toksSnocWs toks w, t.1 ≠ [] ∧ (∀ b ∈ t.1, Garbage b = true) ∧ (∀ b ∈ t.2, isWs b = true)
  | [], _, _, _ => by intro t ht; cases ht
  | [t], w, hw, h => by
    intro t' ht'
    simp only [toksSnocWs, List.mem_singleton] at ht'
    subst ht'
    obtain ⟨h1, h2, h3⟩ := h t (by simp)
    exact ⟨h1, h2, ws_append h3 hw⟩
  | t :: u :: rest, w, hw, h => by
    intro t' ht'
    rw [toksSnocWs] at ht'
    rcases List.mem_cons.mp ht' with rfl | ht'
    · exact h _ (by simp)
    · exact toksSnocWs_ok (u :: rest) w hw (fun x hx => h x (List.mem_cons_of_mem _ hx)) t' ht'

/-- two gaps one after the other, as one gap -/
def gapAppend (g1 g2 : Gap) : Gap :=
  match g1.toks with
  | [] => { ws := g1.ws ++ g2.ws, toks := g2.toks }
  | t :: ts => { ws := g1.ws, toks := toksSnocWs (t :: ts) g2.ws ++ g2.toks }

theorem gapAppend_bytes (g1 g2 : Gap) : (gapAppend g1 g2).bytes = g1.bytes ++ g2.bytes := by
  obtain ⟨ws1, toks1⟩ := g1
  cases toks1 with
  | nil => simp [gapAppend, Gap.bytes, toksBytes]
  | cons t ts =>
    simp only [gapAppend, Gap.bytes, toksBytes_append, toksBytes_snocWs (t :: ts) (by simp), List.append_assoc]

theorem gapAppend_ok {g1 g2 : Gap} (h1 : g1.OK) (h2 : g2.OK) : (gapAppend g1 g2).OK := by
  obtain ⟨ws1, toks1⟩ := g1
  cases toks1 with
  | nil => exact ⟨ws_append h1.1 h2.1, h2.2⟩
  | cons t ts =>
    refine ⟨h1.1, ?_⟩
    intro t' ht'
    simp only [gapAppend, List.mem_append] at ht'
    rcases ht' with ht' | ht'
    · exact toksSnocWs_ok (t :: ts) g2.ws h2.1 h1.2 t' ht'
    · exact h2.2 t' ht'

theorem gapAppend_ws_left {g1 : Gap} (g2 : Gap) (h : g1.ws ≠ []) : (gapAppend g1 g2).ws ≠ [] := by
  obtain ⟨ws1, toks1⟩ := g1
  cases toks1 with
  | nil =>
    simp only [gapAppend]
    intro e
    exact h (List.append_eq_nil_iff.mp e).1
  | cons t ts => exact h

theorem gapAppend_ws_right {g1 g2 : Gap} (h1 : g1.toks = []) (h : g2.ws ≠ []) : (gapAppend g1 g2).ws ≠ [] := by
  obtain ⟨ws1, toks1⟩ := g1
  simp only at h1
  subst h1
  simp only [gapAppend]
  intro e
  exact h (List.append_eq_nil_iff.mp e).2

/-- the gap of the last item followed by `gB` -/
def joinItems : List (JV × Gap) → Gap → List (JV × Gap)
  | [], _ => []
  | [x], gB => [(x.1, gapAppend x.2 gB)]
  | x :: y :: rest, gB => x :: joinItems (y :: rest) gB

/-- the stream `A ++ B` as (first gap, items): the last gap of `A` and the first gap of `B` are merged -/
def joined (gA : Gap) (itemsA : List (JV × Gap)) (gB : Gap) (itemsB : List (JV × Gap)) : Gap × List (JV × Gap) :=
  match itemsA with
  | [] => (gapAppend gA gB, itemsB)
  | x :: rest => (gA, joinItems (x :: rest) gB ++ itemsB)

theorem joinItems_bytes (o : JsonOpts) : ∀ (items : List (JV × Gap)), items ≠ [] → ∀ gB : Gap,
    (joinItems items gB).flatMap (fun x => utf8 (printJson o x.1) ++ x.2.bytes)
      = items.flatMap (fun x => utf8 (printJson o x.1) ++ x.2.bytes) ++ gB.bytes
  | [], h, _ => absurd rfl h
  | [x], _, gB => by simp [joinItems, gapAppend_bytes]
  | x :: y :: rest, _, gB => by
    rw [joinItems, List.flatMap_cons, joinItems_bytes o (y :: rest) (by simp) gB]
    simp only [List.flatMap_cons, List.append_assoc]

theorem joinItems_values : ∀ (items : List (JV × Gap)) (gB : Gap),
    (joinItems items gB).map (·.1) = items.map (·.1)
  | [], _ => rfl
  | [x], _ => rfl
  | x :: y :: rest, gB => by
    rw [joinItems, List.map_cons, joinItems_values (y :: rest) gB]
    rfl

/-- the bytes of the joined stream are the bytes of `A` followed by the bytes of `B` -/
theorem stream_joined (o : JsonOpts) (gA : Gap) (itemsA : List (JV × Gap)) (gB : Gap) (itemsB : List (JV × Gap)) :
    stream o (joined gA itemsA gB itemsB).1 (joined gA itemsA gB itemsB).2
      = stream o gA itemsA ++ stream o gB itemsB := by
  cases itemsA with
  | nil => simp [joined, stream, gapAppend_bytes]
  | cons x rest =>
    simp only [joined, stream, List.flatMap_append, joinItems_bytes o (x :: rest) (by simp) gB, List.append_assoc]

theorem joined_values (gA : Gap) (itemsA : List (JV × Gap)) (gB : Gap) (itemsB : List (JV × Gap)) :
    (joined gA itemsA gB itemsB).2.map (·.1) = itemsA.map (·.1) ++ itemsB.map (·.1) := by
  cases itemsA with
  | nil => rfl
  | cons x rest => simp only [joined, List.map_append, joinItems_values]

/-- the last gap of the stream starts with white space (true of the empty item list) -/
def EndsWs : List (JV × Gap) → Prop
  | [] => True
  | [x] => x.2.ws ≠ []
  | _ :: y :: rest => EndsWs (y :: rest)

theorem joinItems_ok (o : JsonOpts) (gB : Gap) (hB0 : gB.OK) (itemsB : List (JV × Gap)) (hB : ItemsOK o itemsB) :
    ∀ (itemsA : List (JV × Gap)), itemsA ≠ [] → ItemsOK o itemsA → (gB.ws ≠ [] ∨ EndsWs itemsA) →
      ItemsOK o (joinItems itemsA gB ++ itemsB)
  | [], h, _, _ => absurd rfl h
  | [(v, g)], _, hA, hsep => by
    obtain ⟨hv, hg, hs, _⟩ := hA
    refine ⟨hv, gapAppend_ok hg hB0, .inl ?_, hB⟩
    by_cases hw : g.ws = []
    · rcases hs with hs | ⟨hs, _⟩
      · exact absurd hw hs
      · rcases hsep with hsep | hsep
        · exact gapAppend_ws_right hs hsep
        · exact absurd hw hsep
    · exact gapAppend_ws_left gB hw
  | (v, g) :: y :: rest, _, hA, hsep => by
    obtain ⟨hv, hg, hs, hrest⟩ := hA
    have hs' : g.ws ≠ [] := by
      rcases hs with hs | ⟨_, hs⟩
      · exact hs
      · cases hs
    have ih := joinItems_ok o gB hB0 itemsB hB (y :: rest) (by simp) hrest
      (by rcases hsep with hsep | hsep
          · exact .inl hsep
          · exact .inr hsep)
    exact ⟨hv, hg, .inl hs', ih⟩

/-- the joined stream is well formed as soon as white space separates `A` from `B` -/
theorem joined_ok (o : JsonOpts) (gA : Gap) (itemsA : List (JV × Gap)) (gB : Gap) (itemsB : List (JV × Gap))
    (hA0 : gA.OK) (hA : ItemsOK o itemsA) (hB0 : gB.OK) (hB : ItemsOK o itemsB)
    (hsep : gB.ws ≠ [] ∨ EndsWs itemsA) :
    (joined gA itemsA gB itemsB).1.OK ∧ ItemsOK o (joined gA itemsA gB itemsB).2 := by
  cases itemsA with
  | nil => exact ⟨gapAppend_ok hA0 hB0, hB⟩
  | cons x rest => exact ⟨hA0, joinItems_ok o gB hB0 itemsB hB (x :: rest) (by simp) hA hsep⟩

theorem applyOnlyObj_append (c : Cfg) (a b : List JV) :
    applyOnlyObj c (a ++ b) = applyOnlyObj c a ++ applyOnlyObj c b := by
  simp [applyOnlyObj]

theorem number_append (i k : Nat) (a b : List JV) :
    number i k (a ++ b) = number i k a ++ number (i + a.length) (k + a.length) b := by
  induction a generalizing i k with
  | nil => rfl
  | cons v a ih =>
    simp only [List.cons_append, number, ih, List.length_cons]
    congr 3 <;> omega

/-- `A` and `B` are two streams of printed values (any gaps, noise included) with white space
between them (`B` starts with white space or `A` ends in its white-space run).  The rows read from `A ++ B` are
the rows of `A` followed by the rows of `B`: same values, ordinals (`index`, `index-in-file`) running on, same
file name; they differ from the rows of the separate streams in line/column only. -/
theorem ctxs_concat (c : Cfg) (o : JsonOpts) (gA : Gap) (itemsA : List (JV × Gap)) (gB : Gap)
    (itemsB : List (JV × Gap)) (hA0 : gA.OK) (hA : ItemsOK o itemsA) (hB0 : gB.OK) (hB : ItemsOK o itemsB)
    (hsep : gB.ws ≠ [] ∨ EndsWs itemsA) (name : Option Str) (fA fB fAB : Nat)
    (hfA : (stream o gA itemsA).length + 2 ≤ fA) (hfB : (stream o gB itemsB).length + 2 ≤ fB)
    (hfAB : (stream o gA itemsA ++ stream o gB itemsB).length + 2 ≤ fAB) (i k : Nat) :
    let rowsA := ctxsOf c fA (Reader.ofBytes (stream o gA itemsA) name) i k
    let rowsB := ctxsOf c fB (Reader.ofBytes (stream o gB itemsB) name) (i + rowsA.length) (k + rowsA.length)
    let rowsAB := ctxsOf c fAB (Reader.ofBytes (stream o gA itemsA ++ stream o gB itemsB) name) i k
    rowsAB.map (·.input) = rowsA.map (·.input) ++ rowsB.map (·.input)
    ∧ rowsAB.map posFree = rowsA.map posFree ++ rowsB.map posFree
    ∧ rowsAB.map erase = rowsA.map erase ++ rowsB.map erase := by
  intro rowsA rowsB rowsAB
  obtain ⟨hJ0, hJ⟩ := joined_ok o gA itemsA gB itemsB hA0 hA hB0 hB hsep
  have eAB := noisy_rows c o _ _ hJ0 hJ name fAB (by rw [stream_joined]; exact hfAB) i k
  rw [stream_joined, joined_values, List.map_append, applyOnlyObj_append] at eAB
  have eA := noisy_rows c o gA itemsA hA0 hA name fA hfA i k
  have eB := noisy_rows c o gB itemsB hB0 hB name fB hfB (i + rowsA.length) (k + rowsA.length)
  have hlen : rowsA.length = (applyOnlyObj c ((itemsA.map (·.1)).map norm)).length := by
    have := congrArg List.length eA.1
    simpa using this
  refine ⟨?_, ?_, ?_⟩
  · show List.map _ (ctxsOf _ _ _ _ _) = _
    rw [eAB.1, eA.1, eB.1]
  · show List.map _ (ctxsOf _ _ _ _ _) = _
    rw [eAB.2, eA.2, eB.2, number_append, hlen]
  · show List.map _ (ctxsOf _ _ _ _ _) = _
    rw [ctxsOf_erase, ctxsOf_erase, ctxsOf_erase, eAB.1, eA.1, eB.1, number_append, List.map_append, hlen,
      ofBytes_name, ofBytes_name, ofBytes_name]


/-! ### a stateless chain that reads neither positions nor ordinals

`erase'` zeroes line, column AND the two ordinals of a row (the file name is kept).  `erase'` is
`eraseBy eraseI'` (`erase'_eq_eraseBy`), so what `Erase` proves for any rewriting of the input context applies: `eval_eraseBy` for the
evaluator, `specRows_congr` for the chain. -/

def eraseI' (ic : InputCtx) : InputCtx :=
  { startLoc := eraseLoc ic.startLoc, endLoc := eraseLoc ic.endLoc, fileIndex := 0, index := 0 }

/-- a row without line/column and without ordinals (file name kept) -/
def erase' (x : Ctx) : Ctx := { x with ictx := x.ictx.map eraseI' }

theorem erase'_eq_eraseBy : erase' = eraseBy eraseI' := rfl

mutual
/-- the expression reads no position and no ordinal: its only input-context node is `&file-name`, and it does
not call `parse_selection` -/
def NoOrd : Expr → Bool
  | .ictx k => k == .fileName
  | .call fn args => fn != "parse_selection" && NoOrdList args
  | _ => true
def NoOrdList : List Expr → Bool
  | [] => true
  | e :: es => NoOrd e && NoOrdList es
end

theorem noOrdList_iff (l : List Expr) : NoOrdList l = true ↔ ∀ e ∈ l, NoOrd e = true := by
  induction l with
  | nil => simp [NoOrdList]
  | cons x xs ih => simp [NoOrdList, ih]

/-- an expression without ordinals is in particular position free -/
theorem noPos_of_noOrd : ∀ (e : Expr), NoOrd e = true → NoPos e = true
  | .ictx k, h => by
    have : k = .fileName := by simpa [NoOrd] using h
    subst this; rfl
  | .call fn args, h => by
    simp only [NoOrd, Bool.and_eq_true] at h
    simp only [NoPos, Bool.and_eq_true]
    exact ⟨h.1, noPosList_of_noOrdList args h.2⟩
  | .extract _ _, _ => rfl
  | .const _, _ => rfl
  | .var _, _ => rfl
  | .macro _, _ => rfl
  | .selected _, _ => rfl
where
  noPosList_of_noOrdList : ∀ (l : List Expr), NoOrdList l = true → NoPosList l = true
  | [], _ => rfl
  | e :: es, h => by
    simp only [NoOrdList, Bool.and_eq_true] at h
    simp only [NoPosList, Bool.and_eq_true]
    exact ⟨noPos_of_noOrd e h.1, noPosList_of_noOrdList es h.2⟩

def DefsNoOrd (defs : List (Str × Expr)) : Prop := ∀ p ∈ defs, NoOrd p.2 = true

theorem defsNoOrd_nil : DefsNoOrd [] := fun _ h => by cases h

def OrdIndep (ev : Expr → Ctx → Option JV) (e : Expr) : Prop :=
  ∀ x : Ctx, DefsNoOrd x.defs → ev e (erase' x) = ev e x

section EvalErase
/-- local hypotheses on the evaluator handed to a function body: it does not see the erasure -/
structure HypE' (ev : Ev) (fn : String) (args : List Expr) (x : Ctx) : Prop where
  arg : ∀ e ∈ args, ∀ c : Ctx, c.defs = x.defs → ev e (erase' c) = ev e c
  defn : fn = "define" → ∀ e ∈ args, ∀ n, ∀ d ∈ args, ev e (erase' (x.withDefinition n d)) = ev e (x.withDefinition n d)
  mac : fn = "@" → ∀ n d, x.getDefinition n = some d → ev d (erase' x) = ev d x
  parsed : fn ≠ "parse_selection"

theorem erase'_withVariable (x : Ctx) (n : Str) (v : JV) : (erase' x).withVariable n v = erase' (x.withVariable n v) := rfl
theorem erase'_withDefinition (x : Ctx) (n : Str) (d : Expr) : (erase' x).withDefinition n d = erase' (x.withDefinition n d) := rfl
theorem erase'_input (x : Ctx) : (erase' x).input = x.input := rfl
theorem erase'_getVariable (x : Ctx) (n : Str) : (erase' x).getVariable n = x.getVariable n := rfl
theorem erase'_getDefinition (x : Ctx) (n : Str) : (erase' x).getDefinition n = x.getDefinition n := rfl

theorem DefsNoOrd.lookup {defs : List (Str × Expr)} (h : DefsNoOrd defs) {n : Str} {d : Expr}
    (hd : Ctx.lookup defs n = some d) : NoOrd d = true := by
  exact h _ (Ctx.lookup_mem hd)

/-- A `NoOrd` expression evaluates to the same result (value, nothing, or abort) whatever the
line/column and ordinals of the row, provided the macros in scope are `NoOrd` too — at every fuel, for every oracle. -/
theorem eval_erase' (orc : Oracles) (fuel : Nat) (e : Expr) (x : Ctx) (he : NoOrd e = true)
    (hd : DefsNoOrd x.defs) : eval orc fuel e (erase' x) = eval orc fuel e x :=
  erase'_eq_eraseBy ▸ eval_eraseBy eraseI' (NoOrd · = true)
    (fun k hk ic => by
      have : k = .fileName := by simpa [NoOrd] using hk
      subst this; rfl)
    (fun fn args h => by simpa [NoOrd, noOrdList_iff] using h) orc fuel e x he hd

/-- a `NoOrd` expression is ordinal independent, for every oracle -/
theorem ordIndep_of_noOrd (orc : Oracles) (e : Expr) (h : NoOrd e = true) : OrdIndep (evalT orc) e := by
  intro x hx
  simp only [evalT, eval_erase' orc evalFuel e x h hx]

end EvalErase

/-- no expression of the chain, and no macro a `--set @name=…` defines, reads a position or an ordinal -/
def ChainOrdIndep (ev : Expr → Ctx → Option JV) (cfgs : List StageCfg) : Prop :=
  (∀ c ∈ cfgs, ∀ e ∈ stageExprs c, OrdIndep ev e) ∧
  (∀ vars defs, StageCfg.preset vars defs ∈ cfgs → DefsNoOrd defs)

def RowsOK' (rows : List Ctx) : Prop := ∀ x ∈ rows, DefsNoOrd x.defs

/-- For a chain none of whose expressions (or macros) reads a position or an ordinal, the
bytes written depend on the rows only through their values and file names. -/
theorem specRows_congr_ord (ev : Expr → Ctx → Option JV) (cfgs : List StageCfg) (sts : List StageSt)
    (sink : SinkCfg) (n : Nat) (h : ChainOrdIndep ev cfgs) (rows₁ rows₂ : List Ctx)
    (h₁ : RowsOK' rows₁) (h₂ : RowsOK' rows₂) (heq : rows₁.map erase' = rows₂.map erase') :
    (specRows ev cfgs sts rows₁).flatMap (sinkBytes sink n)
      = (specRows ev cfgs sts rows₂).flatMap (sinkBytes sink n) :=
  specRows_congr (g := eraseI') defsNoOrd_nil cfgs sts sink n h rows₁ rows₂ h₁ h₂ (erase'_eq_eraseBy ▸ heq)

/-- the decidable check: every stage expression and every `--set @name=…` macro is `NoOrd`
(`chainNoPos` plus: no `&index` / `&index-in-file` node) -/
def chainNoOrd : List StageCfg → Bool
  | [] => true
  | c :: cs =>
    NoOrdList (stageExprs c) &&
    (match c with
      | .preset _ defs => NoOrdList (defs.map (·.2))
      | _ => true) && chainNoOrd cs

/-- `chainNoOrd` is `chainNoPos` and more -/
theorem chainNoPos_of_chainNoOrd (cfgs : List StageCfg) (h : chainNoOrd cfgs = true) : chainNoPos cfgs = true := by
  induction cfgs with
  | nil => rfl
  | cons c cs ih =>
    simp only [chainNoOrd, Bool.and_eq_true] at h
    obtain ⟨⟨h1, h2⟩, h3⟩ := h
    simp only [chainNoPos, Bool.and_eq_true]
    refine ⟨⟨noPos_of_noOrd.noPosList_of_noOrdList _ h1, ?_⟩, ih h3⟩
    cases c <;> first | rfl | exact noPos_of_noOrd.noPosList_of_noOrdList _ h2

theorem chainOrdIndep_of_noOrd (orc : Oracles) (cfgs : List StageCfg) (h : chainNoOrd cfgs = true) :
    ChainOrdIndep (evalT orc) cfgs := by
  induction cfgs with
  | nil =>
    constructor
    · intro c hc; cases hc
    · intro _ _ hc; cases hc
  | cons c cs ih =>
    simp only [chainNoOrd, Bool.and_eq_true] at h
    obtain ⟨⟨h1, h2⟩, h3⟩ := h
    obtain ⟨i1, i2⟩ := ih h3
    constructor
    · intro c' hc' e he
      rcases List.mem_cons.mp hc' with rfl | hc'
      · exact ordIndep_of_noOrd orc e ((noOrdList_iff _).mp h1 e he)
      · exact i1 c' hc' e he
    · intro vars defs hc'
      rcases List.mem_cons.mp hc' with rfl | hc'
      · intro p hp
        exact (noOrdList_iff _).mp h2 p.2 (List.mem_map.mpr ⟨p, hp, rfl⟩)
      · exact i2 vars defs hc'

/-- the row of a value read from the source `name`, positions and ordinals zeroed -/
def mkRow' (name : Option Str) (v : JV) : Ctx :=
  { input := v,
    ictx := some { startLoc := { name := name, line := 0, col := 0 },
                   endLoc := { name := name, line := 0, col := 0 }, fileIndex := 0, index := 0 } }

theorem erase'_erase (x : Ctx) : erase' (erase x) = erase' x := by
  obtain ⟨_, _, _, _, _, ictx⟩ := x
  cases ictx <;> rfl

/-- the rows of a source, positions and ordinals erased, are determined by the values read and the source's name:
`erase'` after `erase`, whose rows `ctxsOf_erase` gives -/
theorem ctxsOf_erase' (c : Cfg) (fuel : Nat) (r : Reader) (i k : Nat) :
    (ctxsOf c fuel r i k).map erase' = ((ctxsOf c fuel r i k).map (·.input)).map (mkRow' r.loc.name) := by
  have h : ∀ vs i k, ((number i k vs).map (mkRow r.loc.name)).map erase' = vs.map (mkRow' r.loc.name) := by
    intro vs
    induction vs with
    | nil => intro i k; rfl
    | cons v vs ih => intro i k; simp only [number, List.map_cons, ih]; rfl
  rw [← h _ i k, ← ctxsOf_erase, List.map_map]
  exact List.map_congr_left fun x _ => (erase'_erase x).symm

theorem ctxsOf_rowsOK' (c : Cfg) (fuel : Nat) (r : Reader) (i k : Nat) : RowsOK' (ctxsOf c fuel r i k) := by
  intro ctx h
  rw [ctxsOf_defs _ _ _ _ _ ctx h]
  exact defsNoOrd_nil

/-- C11 for whole runs, as bytes.  Configuration with `--on-error=ignore` whose chain has only
per-row stages (`--set`, split, filter, selections) and reads neither positions nor ordinals, output without a
header line (`headerBytes p = []`: JSON output, or text output without `--headers`).  For two streams `A`, `B` of
printed values (any gaps, noise included) with white space between them, read under the same name:
`stdout(A ++ B) = stdout(A) ++ stdout(B)`. -/
theorem concat_hom_run_gen (orc : Oracles) (c : Cfg) (p : Pipeline) (hpol : c.onError = .ignore)
    (hb : build orc c = .ok p) (hst : ∀ s ∈ p.cfgs, StageCfg.stateless s = true)
    (hno : chainNoOrd p.cfgs = true) (hna : NoAbort orc p.cfgs)
    (hhdr : headerBytes p = []) (hh : ¬ HeaderMissing p)
    (o : JsonOpts) (gA : Gap) (itemsA : List (JV × Gap)) (gB : Gap) (itemsB : List (JV × Gap))
    (hA0 : gA.OK) (hA : ItemsOK o itemsA) (hB0 : gB.OK) (hB : ItemsOK o itemsB)
    (hsep : gB.ws ≠ [] ∨ EndsWs itemsA) (name : Option Str) :
    let A := stream o gA itemsA
    let B := stream o gB itemsB
    (run orc c [⟨name, cleanInput (A ++ B)⟩] {} {}).stdout
      = (run orc c [⟨name, cleanInput A⟩] {} {}).stdout ++ (run orc c [⟨name, cleanInput B⟩] {} {}).stdout := by
  intro A B
  have hcl : ∀ bs : List Byte, CleanIO [⟨name, cleanInput bs⟩] := fun bs => cleanIO_of_bytes [(name, bs)]
  have hrun : ∀ bs : List Byte, (run orc c [⟨name, cleanInput bs⟩] {} {}).stdout
      = (specRows (evalT orc) p.cfgs p.sts (ctxsOf c (bs.length + 2) (Reader.ofBytes bs name) 0 0)).flatMap
          (sinkBytes p.sink p.sinkLen) := by
    intro bs
    rw [(run_ignore_spec orc c _ {} {} p hpol hb hna ⟨rfl, rfl⟩ (hcl bs) hh).2.1, hhdr, show (⟨name, cleanInput bs⟩ : Source) = Noise2.bytesSource name bs from rfl, Noise2.ctxsOfSources_bytes]
    show [] ++ [] ++ _ = _
    rfl
  rw [hrun, hrun, hrun, ← List.flatMap_append, ← stateless_hom (evalT orc) p.cfgs p.sts hst]
  obtain ⟨e1, -, -⟩ := ctxs_concat c o gA itemsA gB itemsB hA0 hA hB0 hB hsep name (A.length + 2) (B.length + 2)
    ((A ++ B).length + 2) (Nat.le_refl _) (Nat.le_refl _) (Nat.le_refl _) 0 0
  simp only at e1
  -- the values of `B` do not depend on where the ordinals start
  have eB : ∀ i k, (ctxsOf c (B.length + 2) (Reader.ofBytes B name) i k).map (·.input)
      = (ctxsOf c (B.length + 2) (Reader.ofBytes B name) 0 0).map (·.input) := by
    intro i k
    rw [(noisy_rows c o gB itemsB hB0 hB name _ (Nat.le_refl _) i k).1,
      (noisy_rows c o gB itemsB hB0 hB name _ (Nat.le_refl _) 0 0).1]
  rw [eB] at e1
  apply specRows_congr_ord (evalT orc) p.cfgs p.sts p.sink p.sinkLen (chainOrdIndep_of_noOrd orc _ hno)
  · exact ctxsOf_rowsOK' _ _ _ _ _
  · intro x hx
    rcases List.mem_append.mp hx with hx | hx <;> exact ctxsOf_rowsOK' _ _ _ _ _ x hx
  · rw [List.map_append, ctxsOf_erase', ctxsOf_erase', ctxsOf_erase', e1, List.map_append]
    rfl

/-- the same for JSON output (any style, any row separator): no header, nothing else to assume -/
theorem concat_hom_run (orc : Oracles) (c : Cfg) (p : Pipeline) (hpol : c.onError = .ignore)
    (hb : build orc c = .ok p) (hst : ∀ s ∈ p.cfgs, StageCfg.stateless s = true)
    (hno : chainNoOrd p.cfgs = true) (hna : NoAbort orc p.cfgs)
    (hjson : ∃ jo sep, p.sink = .json jo sep)
    (o : JsonOpts) (gA : Gap) (itemsA : List (JV × Gap)) (gB : Gap) (itemsB : List (JV × Gap))
    (hA0 : gA.OK) (hA : ItemsOK o itemsA) (hB0 : gB.OK) (hB : ItemsOK o itemsB)
    (hsep : gB.ws ≠ [] ∨ EndsWs itemsA) (name : Option Str) :
    (run orc c [⟨name, cleanInput (stream o gA itemsA ++ stream o gB itemsB)⟩] {} {}).stdout
      = (run orc c [⟨name, cleanInput (stream o gA itemsA)⟩] {} {}).stdout
        ++ (run orc c [⟨name, cleanInput (stream o gB itemsB)⟩] {} {}).stdout := by
  obtain ⟨jo, sep, hs⟩ := hjson
  have hhdr : headerBytes p = [] := by simp [headerBytes, hs]
  have hh : ¬ HeaderMissing p := by simp [HeaderMissing, hs]
  exact concat_hom_run_gen orc c p hpol hb hst hno hna hhdr hh o gA itemsA gB itemsB hA0 hA hB0 hB hsep name

/-! ### non-vacuity (concatenation) -/

/-- `-f .b -s .a`: a filter and a selection — per-row stages that read no position and no ordinal -/
def homCfg : Cfg := { selects := [".a".toList], filter := some ".b".toList }

def homPipeline : Pipeline :=
  { cfgs := [.filter (.extract 0 [Jawk.Step.key "b".toList]),
             .select ".a".toList (.extract 0 [Jawk.Step.key "a".toList])],
    sts := [.none, .none], sink := .json {} ['\n'], sinkLen := 1, titles := [".a".toList] }

theorem build_homCfg (orc : Oracles) : build orc homCfg = .ok homPipeline := by rfl

theorem homPipeline_noAbort (orc : Oracles) : NoAbort orc homPipeline.cfgs := by
  intro c hc e he ctx
  simp only [homPipeline, List.mem_cons, List.not_mem_nil, or_false] at hc
  rcases hc with rfl | rfl <;>
    simp only [stageExprs, List.mem_singleton] at he <;>
    subst he <;> exact ⟨_, by simp only [evalFuel, eval]; rfl⟩

example : (∀ s ∈ homPipeline.cfgs, StageCfg.stateless s = true) ∧ chainNoOrd homPipeline.cfgs = true :=
  ⟨by simp [homPipeline, StageCfg.stateless], by rfl⟩

/-- an expression that reads an ordinal is not ordinal independent: `&index` tells row 7 from row 0 (in `A ++ B`
the rows of `B` carry on the ordinals of `A`, in a separate run on `B` they restart at 0) -/
example (orc : Oracles) : ¬ OrdIndep (evalT orc) (.ictx .index) := by
  intro h
  have := h { ictx := some { startLoc := {}, endLoc := {}, fileIndex := 0, index := 7 } } defsNoOrd_nil
  simp [evalT, evalFuel, eval, erase', eraseI', ICtxKind.get] at this

/-- a chain that reads an ordinal does not pass the check -/
example : chainNoOrd [.select "i".toList (.ictx .index)] = false := by rfl

/-- all hypotheses of `concat_hom_run` hold for `homCfg` and any two well-formed streams separated by white
space; e.g. `A = B = "1 x 2\n"` (`exItems` of `Noise`) -/
example (orc : Oracles) (name : Option Str) :
    (run orc homCfg [⟨name, cleanInput (stream {} {} exItems ++ stream {} {} exItems)⟩] {} {}).stdout
      = (run orc homCfg [⟨name, cleanInput (stream {} {} exItems)⟩] {} {}).stdout
        ++ (run orc homCfg [⟨name, cleanInput (stream {} {} exItems)⟩] {} {}).stdout :=
  concat_hom_run orc homCfg homPipeline rfl (build_homCfg orc) (by simp [homPipeline, StageCfg.stateless]) (by rfl)
    (homPipeline_noAbort orc) ⟨_, _, rfl⟩ {} {} exItems {} exItems emptyGap_ok exItems_ok emptyGap_ok exItems_ok
    (.inr (by simp [exItems, EndsWs])) name

/-- the default configuration on `1\n` and `2\n`: `out("1\n2\n") = out("1\n") ++ out("2\n") = "1\n2\n"` -/
example (orc : Oracles) :
    (run orc {} [⟨none, cleanInput [49, 10, 50, 10]⟩] {} {}).stdout
      = (run orc {} [⟨none, cleanInput [49, 10]⟩] {} {}).stdout ++ (run orc {} [⟨none, cleanInput [50, 10]⟩] {} {}).stdout
    ∧ (run orc {} [⟨none, cleanInput [49, 10, 50, 10]⟩] {} {}).stdout = [49, 10, 50, 10] := by
  have hp : ∀ n : Nat, n < 2 ^ 64 → ItemsOK {} [(.num (.pos n), { ws := [10] })] := fun n hn =>
    ⟨hn, ⟨by intro b hb; simp at hb; subst hb; rfl, fun t ht => by cases ht⟩, .inl (by simp), trivial⟩
  have h := concat_hom_run orc {} defaultPipeline rfl (build_default orc)
    (fun s hs => by simp [defaultPipeline] at hs) rfl
    (fun c hc => by simp [defaultPipeline] at hc) ⟨_, _, rfl⟩ {} {} [(.num (.pos 1), { ws := [10] })] {} [(.num (.pos 2), { ws := [10] })]
    emptyGap_ok (hp 1 (by decide)) emptyGap_ok (hp 2 (by decide)) (.inr (by simp [EndsWs])) none
  have e1 : stream {} {} [(.num (.pos 1), { ws := [10] })] = [49, 10] := by decide
  have e2 : stream {} {} [(.num (.pos 2), { ws := [10] })] = [50, 10] := by decide
  rw [e1, e2] at h
  refine ⟨h, ?_⟩
  rw [(default_rows_stdin orc (cleanInput [49, 10, 50, 10]) {} {} ⟨rfl, rfl⟩ (cleanInput_clean _)).2.1]
  decide +kernel

end Jawk.Fix
