/-
  Configuration-level corollaries (C08, C09, C10, C03): a run WITH an option compared with the run WITHOUT it.
-/
import Jawk.Lemmas.RunSpec
namespace Jawk.RunCor
open Jawk Jawk.Pipe Jawk.RunSpec

/-! ### the chain as a list of (stage, state) pairs -/

/-- the rows that reach the printer -/
def R (orc : Oracles) (p : Pipeline) (rows : List Ctx) : List Ctx :=
  specRows (evalT orc) p.cfgs p.sts rows

variable (ev : Expr → Ctx → Option JV)

def specPairs (L : Pairs) (rows : List Ctx) : List Ctx :=
  specRows ev (L.map (·.1)) (L.map (·.2)) rows

theorem specPairs_nil (rows : List Ctx) : specPairs ev [] rows = rows := rfl

theorem specPairs_cons (c : StageCfg) (st : StageSt) (L : Pairs) (rows : List Ctx) :
    specPairs ev ((c, st) :: L) rows = specPairs ev L (stageSpec ev c (capOf st) rows) := rfl

theorem specPairs_append (A B : Pairs) (rows : List Ctx) :
    specPairs ev (A ++ B) rows = specPairs ev B (specPairs ev A rows) := by
  unfold specPairs
  rw [List.map_append, List.map_append, specRows_append ev _ _ _ _ _ (by simp)]

theorem R_mkPipeline (orc : Oracles) (sink : SinkCfg) (all : Pairs) (rows : List Ctx) :
    R orc (mkPipeline sink all) rows = specPairs (evalT orc) all rows := rfl

/-- the composition of a built chain, stage group by stage group -/
theorem specPairs_assemble (c : Cfg) (pre spl fil : List StageCfg) (sels : List (Str × Expr))
    (sorters : List (Expr × Bool)) (grp : List StageCfg) (rows : List Ctx) :
    specPairs ev (assemble c pre spl fil sels sorters grp) rows
      = specPairs ev (simple grp) (specPairs ev (limitStage c.skip c.take)
          (specPairs ev (sortStages (c.take.map (fun t => c.skip + t)) sorters)
            (specPairs ev (uniqStage c.unique) (specPairs ev (front pre spl fil sels) rows)))) := by
  rw [assemble_eq]
  simp only [specPairs_append]

theorem specPairs_uniq_true (rows : List Ctx) : specPairs ev (uniqStage true) rows = dedupFrom [] rows := rfl

theorem specPairs_uniq_false (rows : List Ctx) : specPairs ev (uniqStage false) rows = rows := rfl

theorem specPairs_limit (skip : Nat) (take : Option Nat) (rows : List Ctx) :
    specPairs ev (limitStage skip take) rows = takeOpt take (rows.drop skip) := by
  unfold limitStage
  split
  · rename_i h
    obtain ⟨h1, h2⟩ := h
    subst h1
    cases take with
    | none => rfl
    | some t => cases h2
  · rfl

theorem limitStage_zero_none : limitStage 0 none = [] := rfl

theorem specPairs_grp_nil (rows : List Ctx) : specPairs ev (simple []) rows = rows := rfl

theorem specPairs_grp_group (e : Expr) (rows : List Ctx) :
    specPairs ev (simple [.group e]) rows = [{ input := groupValue (groupOf ev e rows) }] := rfl

theorem specPairs_grp_merge (rows : List Ctx) :
    specPairs ev (simple [.merge]) rows = [{ input := .arr (rows.map Ctx.build) }] := rfl

/-- sorters without any bound, last given outermost -/
def plainSort (sorters : List (Expr × Bool)) : Pairs :=
  (sorters.map (fun (x : Expr × Bool) => (StageCfg.sort x.1 x.2, StageSt.sort [] none))).reverse

theorem sortStages_nil (cap : Option Nat) : sortStages cap [] = [] := rfl

/-- only the first given sorter (innermost, next to the limiter) carries the bound -/
theorem sortStages_cons (cap : Option Nat) (s : Expr × Bool) (rest : List (Expr × Bool)) :
    sortStages cap (s :: rest) = plainSort rest ++ [(.sort s.1 s.2, .sort [] cap)] := by
  unfold sortStages plainSort
  rw [List.zipIdx_cons, List.map_cons, List.reverse_cons]
  congr 2
  have : ∀ x ∈ rest.zipIdx (0 + 1),
      (fun (x : (Expr × Bool) × Nat) =>
        (StageCfg.sort x.1.1 x.1.2, StageSt.sort [] (if x.2 = 0 then cap else none))) x
      = ((fun (x : Expr × Bool) => (StageCfg.sort x.1 x.2, StageSt.sort [] none)) ∘ Prod.fst) x := by
    intro x hx
    have := List.le_snd_of_mem_zipIdx hx
    have h0 : x.2 ≠ 0 := by omega
    simp [h0]
  rw [List.map_congr_left this, ← List.map_map, List.zipIdx_map_fst]

theorem sortStages_none (sorters : List (Expr × Bool)) : sortStages none sorters = plainSort sorters := by
  cases sorters with
  | nil => rfl
  | cons s rest =>
    rw [sortStages_cons]
    simp [plainSort]

/-- a bounded sorter chain is the unbounded one cut at the bound -/
theorem specPairs_sortStages (cap : Option Nat) (sorters : List (Expr × Bool)) (rows : List Ctx) :
    specPairs ev (sortStages cap sorters) rows
      = if sorters = [] then rows else takeOpt cap (specPairs ev (sortStages none sorters) rows) := by
  cases sorters with
  | nil => rfl
  | cons s rest =>
    simp only [sortStages_cons, specPairs_append, reduceCtorEq, if_false]
    rfl

/-- C08 core: behind the sorters, `--skip S --take T` sees the same window whether or not the innermost
sorter is bounded by `S + T` -/
theorem window_sortStages (skip : Nat) (take : Option Nat) (sorters : List (Expr × Bool)) (rows : List Ctx) :
    takeOpt take ((specPairs ev (sortStages (take.map (fun t => skip + t)) sorters) rows).drop skip)
      = takeOpt take ((specPairs ev (sortStages none sorters) rows).drop skip) := by
  cases take with
  | none => rfl
  | some t =>
    rw [specPairs_sortStages]
    split
    · rename_i h; subst h; rfl
    · exact takeOpt_drop_takeOpt _ skip t (skip + t) (Nat.le_refl _)

/-! ### normal form of what a built chain computes -/

/-- the function a built chain computes, in terms of the parsed parts and the three plain options -/
def chainFn (F : Pairs) (u : Bool) (sorters : List (Expr × Bool)) (skip : Nat) (take : Option Nat)
    (grp : List StageCfg) (rows : List Ctx) : List Ctx :=
  specPairs ev (simple grp)
    (takeOpt take ((specPairs ev (plainSort sorters) (specPairs ev (uniqStage u) (specPairs ev F rows))).drop skip))

theorem specPairs_assemble_chainFn (c : Cfg) (pre spl fil : List StageCfg) (sels : List (Str × Expr))
    (sorters : List (Expr × Bool)) (grp : List StageCfg) (rows : List Ctx) :
    specPairs ev (assemble c pre spl fil sels sorters grp) rows
      = chainFn ev (front pre spl fil sels) c.unique sorters c.skip c.take grp rows := by
  rw [specPairs_assemble, specPairs_limit, window_sortStages, sortStages_none]
  rfl

/-- the parsed parts of a configuration (everything `build` obtains by parsing option texts) -/
structure Parts where
  sink : SinkCfg
  grp : List StageCfg
  sorters : List (Expr × Bool)
  sels : List (Str × Expr)
  fil : List StageCfg
  spl : List StageCfg
  pre : List StageCfg

def HasParts (orc : Oracles) (c : Cfg) (P : Parts) : Prop :=
  sinkPart c = .ok P.sink ∧ grpPart c = .ok P.grp ∧ sortPart c = .ok P.sorters ∧ selPart c = .ok P.sels ∧
    filPart c = .ok P.fil ∧ splPart c = .ok P.spl ∧ prePart orc c = .ok P.pre

def Parts.front (P : Parts) : Pairs := RunCor.front P.pre P.spl P.fil P.sels

def Parts.pipeline (P : Parts) (c : Cfg) : Pipeline :=
  mkPipeline P.sink (assemble c P.pre P.spl P.fil P.sels P.sorters P.grp)

theorem build_parts_iff (orc : Oracles) (c : Cfg) (p : Pipeline) :
    build orc c = .ok p ↔ ∃ P, HasParts orc c P ∧ p = P.pipeline c := by
  rw [build_ok_iff]
  constructor
  · rintro ⟨sink, grp, sorters, sels, fil, spl, pre, h1, h2, h3, h4, h5, h6, h7, rfl⟩
    exact ⟨⟨sink, grp, sorters, sels, fil, spl, pre⟩, ⟨h1, h2, h3, h4, h5, h6, h7⟩, rfl⟩
  · rintro ⟨P, ⟨h1, h2, h3, h4, h5, h6, h7⟩, rfl⟩
    exact ⟨_, _, _, _, _, _, _, h1, h2, h3, h4, h5, h6, h7, rfl⟩

theorem R_pipeline (orc : Oracles) (P : Parts) (c : Cfg) (rows : List Ctx) :
    R orc (P.pipeline c) rows
      = chainFn (evalT orc) P.front c.unique P.sorters c.skip c.take P.grp rows := by
  unfold Parts.pipeline
  rw [R_mkPipeline, specPairs_assemble_chainFn]
  rfl

/-- dropping `--group-by` / `--merge` keeps every other part -/
def Parts.noGrp (P : Parts) : Parts := { P with grp := [] }

theorem HasParts.noGrp {orc : Oracles} {c c' : Cfg} {P : Parts} (h : HasParts orc c P)
    (hg : c'.group = none) (h1 : sinkPart c' = sinkPart c) (h3 : sortPart c' = sortPart c)
    (h4 : selPart c' = selPart c) (h5 : filPart c' = filPart c) (h6 : splPart c' = splPart c)
    (h7 : prePart orc c' = prePart orc c) : HasParts orc c' P.noGrp := by
  obtain ⟨a1, -, a3, a4, a5, a6, a7⟩ := h
  exact ⟨h1 ▸ a1, grpPart_of_none hg, h3 ▸ a3, h4 ▸ a4, h5 ▸ a5, h6 ▸ a6, h7 ▸ a7⟩

theorem HasParts.grp_of_none {orc : Oracles} {c : Cfg} {P : Parts} (h : HasParts orc c P) (hg : c.group = none) :
    P.grp = [] :=
  (Except.ok.inj ((grpPart_of_none hg).symm.trans h.2.1)).symm

theorem HasParts.grp_of_merge {orc : Oracles} {c : Cfg} {P : Parts} (h : HasParts orc c P)
    (hg : c.group = some none) : P.grp = [.merge] :=
  (Except.ok.inj ((grpPart_of_merge hg).symm.trans h.2.1)).symm

/-! ### C08 — `--skip` / `--take` -/

/-- C08 `skip_take_config`, without grouping: the rows printed with `--skip S --take T` are rows
`S .. S+T-1` of the rows printed without them; this includes the bounded sorter (`--sort-by` present) -/
theorem skip_take_config (orc : Oracles) (c : Cfg) (p : Pipeline) (h : build orc c = .ok p)
    (hg : c.group = none) :
    ∃ p0, build orc { c with skip := 0, take := none } = .ok p0 ∧
      ∀ rows, R orc p rows = takeOpt c.take ((R orc p0 rows).drop c.skip) := by
  obtain ⟨P, hP, rfl⟩ := (build_parts_iff orc c p).mp h
  have hP0 : HasParts orc { c with skip := 0, take := none } P := hP
  refine ⟨P.pipeline { c with skip := 0, take := none }, (build_parts_iff orc _ _).mpr ⟨P, hP0, rfl⟩, ?_⟩
  intro rows
  have hgrp : P.grp = [] := hP.grp_of_none hg
  rw [R_pipeline, R_pipeline, hgrp]
  rfl

/-- the grouper / merger (if any) is applied to the window of the ungrouped, unlimited chain -/
theorem R_pipeline_window (orc : Oracles) (P : Parts) (c : Cfg) (rows : List Ctx) :
    R orc (P.pipeline c) rows
      = specPairs (evalT orc) (simple P.grp)
          (takeOpt c.take
            ((R orc (P.noGrp.pipeline { c with skip := 0, take := none, group := none }) rows).drop c.skip)) := by
  rw [R_pipeline, R_pipeline]
  rfl

/-- C08 `skip_take_config` with `--group-by E`: the group object is built from exactly the retained rows
(rows `S .. S+T-1` of the ungrouped, unlimited run) and is still emitted -/
theorem skip_take_config_group (orc : Oracles) (c : Cfg) (p : Pipeline) (h : build orc c = .ok p)
    (g : Str) (hg : c.group = some (some g)) :
    ∃ e p0', parseOptionExpr g = .ok e ∧
      build orc { c with skip := 0, take := none, group := none } = .ok p0' ∧
      ∀ rows, R orc p rows
        = [{ input := groupValue (groupOf (evalT orc) e (takeOpt c.take ((R orc p0' rows).drop c.skip))) }] := by
  obtain ⟨P, hP, rfl⟩ := (build_parts_iff orc c p).mp h
  obtain ⟨e, he, hgrp⟩ := grpPart_of_group hg hP.2.1
  refine ⟨e, _, he, (build_parts_iff orc _ _).mpr ⟨P.noGrp, hP.noGrp rfl rfl rfl rfl rfl rfl rfl, rfl⟩, ?_⟩
  intro rows
  rw [R_pipeline_window, hgrp, specPairs_grp_group]

/-- C08 `skip_take_config` with `--merge`: the merged array holds exactly the retained rows -/
theorem skip_take_config_merge (orc : Oracles) (c : Cfg) (p : Pipeline) (h : build orc c = .ok p)
    (hg : c.group = some none) :
    ∃ p0', build orc { c with skip := 0, take := none, group := none } = .ok p0' ∧
      ∀ rows, R orc p rows
        = [{ input := .arr ((takeOpt c.take ((R orc p0' rows).drop c.skip)).map Ctx.build) }] := by
  obtain ⟨P, hP, rfl⟩ := (build_parts_iff orc c p).mp h
  have hgrp : P.grp = [.merge] := hP.grp_of_merge hg
  refine ⟨_, (build_parts_iff orc _ _).mpr ⟨P.noGrp, hP.noGrp rfl rfl rfl rfl rfl rfl rfl, rfl⟩, ?_⟩
  intro rows
  rw [R_pipeline_window, hgrp, specPairs_grp_merge]

/-! #### titles: only selections and the grouper / merger matter -/

/-- stages that leave the titles alone -/
def NoTitle : StageCfg → Prop
  | .select _ _ => False
  | .group _ => False
  | .merge => False
  | _ => True

theorem titlesAtSink_append (A B : List StageCfg) (ts : List Str) :
    titlesAtSink (A ++ B) ts = titlesAtSink B (titlesAtSink A ts) := by
  induction A generalizing ts with
  | nil => rfl
  | cons c A ih => cases c <;> simp only [List.cons_append, titlesAtSink, ih]

theorem titlesAtSink_noTitle (A : List StageCfg) (ts : List Str) (h : ∀ c ∈ A, NoTitle c) :
    titlesAtSink A ts = ts := by
  induction A generalizing ts with
  | nil => rfl
  | cons c A ih =>
    have hc := h c List.mem_cons_self
    have := fun ts => ih ts (fun y hy => h y (List.mem_cons_of_mem _ hy))
    cases c <;> first | exact hc.elim | (simp only [titlesAtSink]; exact this ts)

theorem titlesAtSink_selects (l : List (Str × Expr)) (ts : List Str) :
    titlesAtSink (l.map (fun (n, e) => StageCfg.select n e)) ts = ts ++ l.map (·.1) := by
  induction l generalizing ts with
  | nil => simp [titlesAtSink]
  | cons x l ih =>
    obtain ⟨n, e⟩ := x
    simp only [List.map_cons, titlesAtSink, ih, List.append_assoc, List.cons_append, List.nil_append]

theorem sortStages_noTitle (cap : Option Nat) (sorters : List (Expr × Bool)) :
    ∀ c ∈ (sortStages cap sorters).map (·.1), NoTitle c := fun _ hc =>
  (List.mem_map.mp hc).elim fun x hx => hx.2 ▸ sortStages_forall (fun x => NoTitle x.1) (fun _ _ _ => trivial) _ _ x hx.1

theorem uniqStage_noTitle (u : Bool) : ∀ c ∈ (uniqStage u).map (·.1), NoTitle c := fun _ hc =>
  (List.mem_map.mp hc).elim fun x hx => hx.2 ▸ uniqStage_forall (fun x => NoTitle x.1) trivial _ x hx.1

theorem limitStage_noTitle (skip : Nat) (take : Option Nat) :
    ∀ c ∈ (limitStage skip take).map (·.1), NoTitle c := fun _ hc =>
  (List.mem_map.mp hc).elim fun x hx => hx.2 ▸ limitStage_forall (fun x => NoTitle x.1) (fun _ _ => trivial) _ _ x hx.1

/-- the names of the selections, in the order given on the command line -/
def Parts.names (P : Parts) : List Str := P.sels.reverse.map (·.1)

/-- the titles of a built pipeline: the selection names in command-line order; none behind a grouper / merger -/
theorem titles_pipeline {orc : Oracles} {c0 : Cfg} {P : Parts} (hP : HasParts orc c0 P) (c : Cfg) :
    (P.pipeline c).titles = if P.grp = [] then P.names else [] := by
  obtain ⟨-, h2, -, -, h5, h6, h7⟩ := hP
  show titlesAtSink ((assemble c P.pre P.spl P.fil P.sels P.sorters P.grp).map (·.1)) [] = _
  rw [assemble_eq]
  unfold front
  simp only [List.map_append, titlesAtSink_append, simple_cfgs]
  rw [titlesAtSink_noTitle P.pre, titlesAtSink_noTitle P.spl, titlesAtSink_noTitle P.fil]
  · unfold selStages
    rw [titlesAtSink_selects, titlesAtSink_noTitle _ _ (uniqStage_noTitle _),
      titlesAtSink_noTitle _ _ (sortStages_noTitle _ _), titlesAtSink_noTitle _ _ (limitStage_noTitle _ _)]
    rcases grpPart_shape h2 with hg | ⟨e, hg⟩ | hg <;> rw [hg] <;> simp [titlesAtSink, Parts.names]
  · rcases filPart_shape h5 with hf | ⟨e, hf⟩ <;> rw [hf] <;> simp [NoTitle]
  · rcases splPart_shape h6 with hf | ⟨e, hf⟩ <;> rw [hf] <;> simp [NoTitle]
  · rcases prePart_shape h7 with hf | ⟨v, d, hf⟩ <;> rw [hf] <;> simp [NoTitle]

theorem sinkLen_pipeline (P : Parts) (c : Cfg) : (P.pipeline c).sinkLen = (P.pipeline c).titles.length :=
  sinkLen_mkPipeline _ _

/-- the configuration without `--skip` / `--take` builds whenever the one with them does (the option texts
parse the same way), whatever the grouping -/
theorem skip_take_build (orc : Oracles) (c : Cfg) (p : Pipeline) (h : build orc c = .ok p) :
    ∃ p0, build orc { c with skip := 0, take := none } = .ok p0 ∧
      p0.sink = p.sink ∧ p0.titles = p.titles ∧ p0.sinkLen = p.sinkLen := by
  obtain ⟨P, hP, rfl⟩ := (build_parts_iff orc c p).mp h
  have hP0 : HasParts orc { c with skip := 0, take := none } P := hP
  refine ⟨_, (build_parts_iff orc _ _).mpr ⟨P, hP0, rfl⟩, rfl, ?_⟩
  have ht : (P.pipeline { c with skip := 0, take := none }).titles = (P.pipeline c).titles := by
    rw [titles_pipeline hP, titles_pipeline hP]
  exact ⟨ht, by rw [sinkLen_pipeline, sinkLen_pipeline, ht]⟩

/-! #### non-vacuity (C08) -/

/-- recogniser used to let the kernel evaluate a selection parse (`Expr` has no `DecidableEq`) -/
def isExtractSel (n : Str) (steps : List Jawk.Step) : Except String (Str × Expr) → Bool
  | .ok (n', .extract 0 steps') => n' == n && steps' == steps
  | _ => false

theorem isExtractSel_sound {n : Str} {steps : List Jawk.Step} {r : Except String (Str × Expr)}
    (h : isExtractSel n steps r = true) : r = .ok (n, .extract 0 steps) := by
  unfold isExtractSel at h
  split at h
  · simp only [Bool.and_eq_true, beq_iff_eq] at h
    rw [h.1, h.2]
  · cases h

/-- `.k` -/
abbrev dotK : Expr := .extract 0 [Jawk.Step.key "k".toList]

theorem parseSelection_kx : parseSelection ".k=x".toList = .ok ("x".toList, dotK) :=
  isExtractSel_sound (n := "x".toList) (steps := [Jawk.Step.key "k".toList])
    (r := parseSelection ".k=x".toList) (by decide +kernel)

theorem parseSorter_k : parseSorter ".k".toList = .ok (dotK, false) := by rfl

theorem parseOptionExpr_k : parseOptionExpr ".k".toList = .ok dotK := by rfl

theorem mapRes_singleton {α β} (f : α → Except Fail β) (x : α) (y : β) (h : f x = .ok y) :
    mapRes f [x] = .ok [y] := by
  simp only [mapRes, h, bind, Except.bind]

/-- `-s .k=x -o .k --skip 1 --take 2` -/
def exWindow : Cfg :=
  { selects := [".k=x".toList], sorts := [".k".toList], skip := 1, take := some 2 }

def exWindowParts : Parts :=
  { sink := .json {} ['\n'], grp := [], sorters := [(dotK, false)], sels := [("x".toList, dotK)],
    fil := [], spl := [], pre := [] }

theorem exWindow_parts (orc : Oracles) : HasParts orc exWindow exWindowParts :=
  ⟨rfl, rfl, mapRes_singleton _ _ _ (by rw [parseSorter_k]; rfl),
    mapRes_singleton _ _ _ (by rw [parseSelection_kx]; rfl), rfl, rfl, rfl⟩

theorem exWindow_builds (orc : Oracles) : build orc exWindow = .ok (exWindowParts.pipeline exWindow) :=
  (build_parts_iff orc _ _).mpr ⟨_, exWindow_parts orc, rfl⟩

example : (exWindowParts.pipeline exWindow).cfgs = [.select "x".toList dotK, .sort dotK false, .limit 1 (some 2)]
    ∧ (exWindowParts.pipeline exWindow).sts = [.none, .sort [] (some 3), .limit 0 0] := ⟨rfl, rfl⟩

/-- with a sorter: `p` has the bounded sorter (`some 3`), `p0` the unbounded one, and the printed rows of
`p` are rows 1..2 of those of `p0` -/
example (orc : Oracles) : ∃ p p0, build orc exWindow = .ok p ∧
    build orc { exWindow with skip := 0, take := none } = .ok p0 ∧
    p.sts = [.none, .sort [] (some 3), .limit 0 0] ∧ p0.sts = [.none, .sort [] none] ∧
    ∀ rows, R orc p rows = ((R orc p0 rows).drop 1).take 2 := by
  obtain ⟨p0, hp0, h⟩ := skip_take_config orc exWindow _ (exWindow_builds orc) rfl
  refine ⟨_, p0, exWindow_builds orc, hp0, rfl, ?_, h⟩
  have hb : build orc { exWindow with skip := 0, take := none }
      = .ok (exWindowParts.pipeline { exWindow with skip := 0, take := none }) :=
    (build_parts_iff orc _ _).mpr ⟨_, exWindow_parts orc, rfl⟩
  rw [hb] at hp0
  rw [← Except.ok.inj hp0]
  rfl

/-- the same configuration with `--group-by .k` and with `--merge` builds too -/
example (orc : Oracles) : ∃ p, build orc { exWindow with group := some (some ".k".toList) } = .ok p :=
  ⟨_, (build_parts_iff orc _ _).mpr ⟨{ exWindowParts with grp := [.group dotK] },
    ⟨rfl, grpPart_of_some rfl parseOptionExpr_k,
      (exWindow_parts orc).2.2.1, (exWindow_parts orc).2.2.2.1, rfl, rfl, rfl⟩, rfl⟩⟩

example (orc : Oracles) : ∃ p, build orc { exWindow with group := some none } = .ok p :=
  ⟨_, (build_parts_iff orc _ _).mpr ⟨{ exWindowParts with grp := [.merge] },
    ⟨rfl, rfl, (exWindow_parts orc).2.2.1, (exWindow_parts orc).2.2.2.1, rfl, rfl, rfl⟩, rfl⟩⟩

/-! ### C09 — `--group-by` / `--merge` -/

theorem R_pipeline_grp (orc : Oracles) (P : Parts) (c : Cfg) (rows : List Ctx) :
    R orc (P.pipeline c) rows
      = specPairs (evalT orc) (simple P.grp) (R orc (P.noGrp.pipeline { c with group := none }) rows) := by
  rw [R_pipeline, R_pipeline]
  rfl

/-- C09 `group_config`: with `--group-by E` exactly one row is printed, the group object of the rows the
same configuration without `--group-by` prints -/
theorem group_config (orc : Oracles) (c : Cfg) (p : Pipeline) (h : build orc c = .ok p)
    (g : Str) (hg : c.group = some (some g)) (e : Expr) (he : parseOptionExpr g = .ok e) :
    ∃ p', build orc { c with group := none } = .ok p' ∧
      ∀ rows, R orc p rows = [{ input := groupValue (groupOf (evalT orc) e (R orc p' rows)) }] := by
  obtain ⟨P, hP, rfl⟩ := (build_parts_iff orc c p).mp h
  obtain ⟨e', he', hgrp⟩ := grpPart_of_group hg hP.2.1
  have : e' = e := Except.ok.inj (he'.symm.trans he)
  subst this
  refine ⟨_, (build_parts_iff orc _ _).mpr ⟨P.noGrp, hP.noGrp rfl rfl rfl rfl rfl rfl rfl, rfl⟩, ?_⟩
  intro rows
  rw [R_pipeline_grp, hgrp, specPairs_grp_group]

/-- a configuration with `--group-by E` that builds has a parsable `E` (so `group_config` applies) -/
theorem group_config_parses (orc : Oracles) (c : Cfg) (p : Pipeline) (h : build orc c = .ok p)
    (g : Str) (hg : c.group = some (some g)) : ∃ e, parseOptionExpr g = .ok e := by
  obtain ⟨P, hP, rfl⟩ := (build_parts_iff orc c p).mp h
  obtain ⟨e, he, -⟩ := grpPart_of_group hg hP.2.1
  exact ⟨e, he⟩

/-- C09 `merge_config`: with `--merge` exactly one row is printed, the array of the rows the same
configuration without `--merge` prints -/
theorem merge_config (orc : Oracles) (c : Cfg) (p : Pipeline) (h : build orc c = .ok p)
    (hg : c.group = some none) :
    ∃ p', build orc { c with group := none } = .ok p' ∧
      ∀ rows, R orc p rows = [{ input := .arr ((R orc p' rows).map Ctx.build) }] := by
  obtain ⟨P, hP, rfl⟩ := (build_parts_iff orc c p).mp h
  have hgrp : P.grp = [.merge] := hP.grp_of_merge hg
  refine ⟨_, (build_parts_iff orc _ _).mpr ⟨P.noGrp, hP.noGrp rfl rfl rfl rfl rfl rfl rfl, rfl⟩, ?_⟩
  intro rows
  rw [R_pipeline_grp, hgrp, specPairs_grp_merge]

/-- exactly one row reaches the printer as soon as `--group-by` / `--merge` is given, whatever the input -/
theorem group_one_row (orc : Oracles) (c : Cfg) (p : Pipeline) (h : build orc c = .ok p)
    (hg : c.group ≠ none) (rows : List Ctx) : (R orc p rows).length = 1 := by
  cases hgo : c.group with
  | none => exact absurd hgo hg
  | some o =>
    cases o with
    | none =>
      obtain ⟨p', -, hr⟩ := merge_config orc c p h hgo
      rw [hr]; rfl
    | some g =>
      obtain ⟨e, he⟩ := group_config_parses orc c p h g hgo
      obtain ⟨p', -, hr⟩ := group_config orc c p h g hgo e he
      rw [hr]; rfl

/-- stages other than the grouper / merger deliver nothing when given nothing -/
theorem stageSpec_nil (c : StageCfg) (cap : Option Nat) (h : NotGrp c) : stageSpec ev c cap [] = [] := by
  cases c with
  | group e => exact h.elim
  | merge => exact h.elim
  | sort k d => cases cap <;> simp [stageSpec, takeOpt, keyed, SortSpec.sortDir]
  | limit s t => cases t <;> simp [stageSpec, takeOpt]
  | _ => rfl

theorem specPairs_nil_rows (L : Pairs) (h : ∀ x ∈ L, NotGrp x.1) : specPairs ev L [] = [] := by
  induction L with
  | nil => rfl
  | cons x L ih =>
    obtain ⟨c, st⟩ := x
    rw [specPairs_cons, stageSpec_nil ev c _ (h _ List.mem_cons_self)]
    exact ih (fun y hy => h y (List.mem_cons_of_mem _ hy))

theorem front_notGrp {orc : Oracles} {c : Cfg} {P : Parts} (hP : HasParts orc c P) :
    ∀ x ∈ P.front, NotGrp x.1 :=
  front_forall (fun x => NotGrp x.1) (prePart_forall hP.2.2.2.2.2.2 _ fun _ _ => trivial)
    (splPart_forall hP.2.2.2.2.2.1 _ fun _ => trivial) (filPart_forall hP.2.2.2.2.1 _ fun _ => trivial)
    (fun _ _ => trivial) _

theorem plainSort_notGrp (sorters : List (Expr × Bool)) : ∀ x ∈ plainSort sorters, NotGrp x.1 := by
  intro x hx
  unfold plainSort at hx
  simp only [List.mem_reverse, List.mem_map] at hx
  obtain ⟨s, -, rfl⟩ := hx
  trivial

theorem uniqStage_notGrp (u : Bool) : ∀ x ∈ uniqStage u, NotGrp x.1 :=
  uniqStage_forall (fun x => NotGrp x.1) trivial u

/-- without `--group-by` / `--merge`, no input gives no output -/
theorem R_nil_of_no_group (orc : Oracles) (c : Cfg) (p : Pipeline) (h : build orc c = .ok p)
    (hg : c.group = none) : R orc p [] = [] := by
  obtain ⟨P, hP, rfl⟩ := (build_parts_iff orc c p).mp h
  have hgrp : P.grp = [] := hP.grp_of_none hg
  rw [R_pipeline, hgrp]
  unfold chainFn
  rw [specPairs_nil_rows _ _ (front_notGrp hP), specPairs_nil_rows _ _ (uniqStage_notGrp _),
    specPairs_nil_rows _ _ (plainSort_notGrp _)]
  cases c.take <;> simp [specPairs_grp_nil, takeOpt]

/-- C09 on empty input: `--group-by` still prints one row, the empty object; `--merge` the empty array -/
theorem group_config_empty (orc : Oracles) (c : Cfg) (p : Pipeline) (h : build orc c = .ok p)
    (g : Str) (hg : c.group = some (some g)) : R orc p [] = [{ input := .obj [] }] := by
  obtain ⟨e, he⟩ := group_config_parses orc c p h g hg
  obtain ⟨p', hp', hr⟩ := group_config orc c p h g hg e he
  rw [hr, R_nil_of_no_group orc _ p' hp' rfl]
  rfl

theorem merge_config_empty (orc : Oracles) (c : Cfg) (p : Pipeline) (h : build orc c = .ok p)
    (hg : c.group = some none) : R orc p [] = [{ input := .arr [] }] := by
  obtain ⟨p', hp', hr⟩ := merge_config orc c p h hg
  rw [hr, R_nil_of_no_group orc _ p' hp' rfl]
  rfl

/-! #### non-vacuity (C09) -/

/-- `-s .k=x -o .k --skip 1 --take 2 --group-by .k` -/
def exGroup : Cfg := { exWindow with group := some (some ".k".toList) }

theorem exGroup_builds (orc : Oracles) :
    build orc exGroup = .ok (Parts.pipeline { exWindowParts with grp := [.group dotK] } exGroup) :=
  (build_parts_iff orc _ _).mpr ⟨{ exWindowParts with grp := [.group dotK] },
    ⟨rfl, grpPart_of_some rfl parseOptionExpr_k,
      (exWindow_parts orc).2.2.1, (exWindow_parts orc).2.2.2.1, rfl, rfl, rfl⟩, rfl⟩

example (orc : Oracles) : ∃ p p', build orc exGroup = .ok p ∧ build orc exWindow = .ok p' ∧
    ∀ rows, R orc p rows = [{ input := groupValue (groupOf (evalT orc) dotK (R orc p' rows)) }] := by
  obtain ⟨p', hp', h⟩ := group_config orc exGroup _ (exGroup_builds orc) _ rfl dotK parseOptionExpr_k
  exact ⟨_, p', exGroup_builds orc, hp', h⟩

/-! ### C10 — `--unique` -/

/-- the unique stage with its initial state (nothing seen) -/
def uniqPair : StageCfg × StageSt := (StageCfg.unique, StageSt.unique [])

/-- the stages behind `--unique`: sorters (the innermost one bounded), limiter, grouper / merger -/
def Parts.back (P : Parts) (c : Cfg) : Pairs :=
  sortStages (c.take.map (fun t => c.skip + t)) P.sorters ++ limitStage c.skip c.take ++ simple P.grp

theorem pipeline_chain (P : Parts) (c : Cfg) :
    (P.pipeline c).cfgs = (P.front ++ uniqStage c.unique ++ P.back c).map (·.1) ∧
    (P.pipeline c).sts = (P.front ++ uniqStage c.unique ++ P.back c).map (·.2) := by
  unfold Parts.pipeline Parts.back Parts.front mkPipeline
  rw [assemble_eq]
  simp only [List.append_assoc, and_self]

theorem front_stateless {orc : Oracles} {c : Cfg} {P : Parts} (hP : HasParts orc c P) :
    ∀ x ∈ P.front, StageCfg.stateless x.1 = true :=
  front_forall (fun x => StageCfg.stateless x.1 = true) (prePart_forall hP.2.2.2.2.2.2 _ fun _ _ => rfl)
    (splPart_forall hP.2.2.2.2.2.1 _ fun _ => rfl) (filPart_forall hP.2.2.2.2.1 _ fun _ => rfl)
    (fun _ _ => rfl) _

/-- C10 `unique_config` (general form).  `A` = the stages before `--unique` (preset / split / filter /
selections, all per-row), `B` = the stages after it (sorters, limiter, grouper / merger).  The chain with
`--unique` is `A, unique, B`; the chain without it is `A, B`; what leaves the unique stage is what enters it
minus every row that equals an earlier row; hence `R p = B ∘ dedup ∘ A` and `R pu = B ∘ A`. -/
theorem unique_config (orc : Oracles) (c : Cfg) (p : Pipeline) (h : build orc c = .ok p)
    (hu : c.unique = true) :
    ∃ (pu : Pipeline) (A B : Pairs), build orc { c with unique := false } = .ok pu ∧
      (∀ x ∈ A, StageCfg.stateless x.1 = true) ∧
      p.cfgs = (A ++ [uniqPair] ++ B).map (·.1) ∧
      p.sts = (A ++ [uniqPair] ++ B).map (·.2) ∧
      pu.cfgs = (A ++ B).map (·.1) ∧ pu.sts = (A ++ B).map (·.2) ∧
      (∀ rows, specPairs (evalT orc) (A ++ [uniqPair]) rows
          = dedupFrom [] (specPairs (evalT orc) A rows)) ∧
      (∀ rows, R orc p rows = specPairs (evalT orc) B (dedupFrom [] (specPairs (evalT orc) A rows))) ∧
      (∀ rows, R orc pu rows = specPairs (evalT orc) B (specPairs (evalT orc) A rows)) := by
  obtain ⟨P, hP, rfl⟩ := (build_parts_iff orc c p).mp h
  have hPu : HasParts orc { c with unique := false } P := hP
  have h1 := pipeline_chain P c
  have h2 := pipeline_chain P { c with unique := false }
  rw [hu] at h1
  refine ⟨_, P.front, P.back c, (build_parts_iff orc _ _).mpr ⟨P, hPu, rfl⟩, front_stateless hP,
    h1.1, h1.2, ?_, ?_, ?_, ?_, ?_⟩
  · rw [h2.1]; simp [uniqStage, simple, Parts.back]
  · rw [h2.2]; simp [uniqStage, simple, Parts.back]
  · intro rows
    rw [specPairs_append]; rfl
  · intro rows
    unfold R
    rw [h1.1, h1.2]
    show specPairs (evalT orc) (P.front ++ uniqStage true ++ P.back c) rows = _
    rw [specPairs_append, specPairs_append, specPairs_uniq_true]
  · intro rows
    unfold R
    rw [h2.1, h2.2]
    show specPairs (evalT orc) (P.front ++ uniqStage false ++ P.back c) rows = _
    rw [specPairs_append, specPairs_append, specPairs_uniq_false]

theorem sortPart_of_nil {c : Cfg} {sorters : List (Expr × Bool)} (h : c.sorts = [])
    (hp : sortPart c = .ok sorters) : sorters = [] := by
  unfold sortPart at hp
  rw [h] at hp
  exact (Except.ok.inj hp).symm

/-- C10 `unique_config` (plain form): with no sorter, limiter or grouper behind it, the output with
`--unique` is the output without it minus every row that equals an earlier row -/
theorem unique_config_plain (orc : Oracles) (c : Cfg) (p : Pipeline) (h : build orc c = .ok p)
    (hu : c.unique = true) (hs : c.sorts = []) (hk : c.skip = 0) (ht : c.take = none)
    (hg : c.group = none) :
    ∃ pu, build orc { c with unique := false } = .ok pu ∧
      ∀ rows, R orc p rows = dedupFrom [] (R orc pu rows) := by
  obtain ⟨P, hP, rfl⟩ := (build_parts_iff orc c p).mp h
  have hPu : HasParts orc { c with unique := false } P := hP
  refine ⟨_, (build_parts_iff orc _ _).mpr ⟨P, hPu, rfl⟩, ?_⟩
  intro rows
  have hgrp : P.grp = [] := hP.grp_of_none hg
  have hsort : P.sorters = [] := sortPart_of_nil hs hP.2.2.1
  rw [R_pipeline, R_pipeline, hgrp, hsort]
  show chainFn (evalT orc) P.front c.unique [] c.skip c.take [] rows
    = dedupFrom [] (chainFn (evalT orc) P.front false [] c.skip c.take [] rows)
  rw [hu, hk, ht]
  rfl

/-- the rows printed with `--unique` (plain form) are pairwise different and a sublist of those printed
without it -/
theorem unique_config_sublist (orc : Oracles) (c : Cfg) (p pu : Pipeline) (h : build orc c = .ok p)
    (hpu : build orc { c with unique := false } = .ok pu)
    (hu : c.unique = true) (hs : c.sorts = []) (hk : c.skip = 0) (ht : c.take = none)
    (hg : c.group = none) (rows : List Ctx) : (R orc p rows).Sublist (R orc pu rows) := by
  obtain ⟨pu', hpu', hr⟩ := unique_config_plain orc c p h hu hs hk ht hg
  rw [hpu] at hpu'
  cases hpu'
  rw [hr]
  exact dedupFrom_sublist [] _

/-! #### non-vacuity (C10) -/

/-- `-f .k -s .k=x --unique` -/
def exUnique : Cfg := { selects := [".k=x".toList], filter := some ".k".toList, unique := true }

def exUniqueParts : Parts :=
  { sink := .json {} ['\n'], grp := [], sorters := [], sels := [("x".toList, dotK)],
    fil := [.filter dotK], spl := [], pre := [] }

theorem exUnique_parts (orc : Oracles) : HasParts orc exUnique exUniqueParts :=
  ⟨rfl, rfl, rfl, mapRes_singleton _ _ _ (by rw [parseSelection_kx]; rfl),
    filPart_of_some rfl parseOptionExpr_k, rfl, rfl⟩

theorem exUnique_builds (orc : Oracles) : build orc exUnique = .ok (exUniqueParts.pipeline exUnique) :=
  (build_parts_iff orc _ _).mpr ⟨_, exUnique_parts orc, rfl⟩

example : (exUniqueParts.pipeline exUnique).cfgs = [.filter dotK, .select "x".toList dotK, .unique] := rfl

example (orc : Oracles) : ∃ p pu, build orc exUnique = .ok p ∧
    build orc { exUnique with unique := false } = .ok pu ∧
    ∀ rows, R orc p rows = dedupFrom [] (R orc pu rows) := by
  obtain ⟨pu, hpu, h⟩ := unique_config_plain orc exUnique _ (exUnique_builds orc) rfl rfl rfl rfl rfl
  exact ⟨_, pu, exUnique_builds orc, hpu, h⟩

/-- general form: `--unique` in front of a sorter and a window -/
example (orc : Oracles) : ∃ p, build orc { exWindow with unique := true } = .ok p :=
  ⟨_, (build_parts_iff orc _ _).mpr ⟨exWindowParts, exWindow_parts orc, rfl⟩⟩

/-! ### C03 — absent options are the identity, one option is exactly that stage -/

/-- the sink of a configuration without output options: one-line JSON rows -/
abbrev defaultSink : SinkCfg := .json {} ['\n']

/-- no option at all: no stage, every row read reaches the printer unchanged -/
theorem absent_options_identity (orc : Oracles) :
    build orc {} = .ok defaultPipeline ∧ defaultPipeline.cfgs = [] ∧ defaultPipeline.sts = [] ∧
      ∀ rows, R orc defaultPipeline rows = rows :=
  ⟨rfl, rfl, rfl, fun _ => rfl⟩

/-- only `--filter F` -/
theorem only_filter (orc : Oracles) (f : Str) (e : Expr) (hf : parseOptionExpr f = .ok e) :
    ∃ p, build orc { filter := some f } = .ok p ∧ p.cfgs = [.filter e] ∧
      ∀ rows, R orc p rows = rows.filter (fun c => match evalT orc e c with
        | some (.bool true) => true
        | _ => false) := by
  refine ⟨_, (build_parts_iff orc _ _).mpr
    ⟨⟨defaultSink, [], [], [], [.filter e], [], []⟩,
      ⟨rfl, rfl, rfl, rfl, filPart_of_some rfl hf, rfl, rfl⟩, rfl⟩, ?_, fun _ => ?_⟩
  · rw [(pipeline_chain _ _).1]; rfl
  · rw [R_pipeline]; rfl

/-- only `--break E` (the splitter) -/
theorem only_split (orc : Oracles) (f : Str) (e : Expr) (hf : parseOptionExpr f = .ok e) :
    ∃ p, build orc { split := some f } = .ok p ∧ p.cfgs = [.split e] ∧
      ∀ rows, R orc p rows = rows.flatMap (fun c => match evalT orc e c with
        | some (.arr l) => l.map c.withInput
        | _ => []) := by
  refine ⟨_, (build_parts_iff orc _ _).mpr
    ⟨⟨defaultSink, [], [], [], [], [.split e], []⟩,
      ⟨rfl, rfl, rfl, rfl, rfl, splPart_of_some rfl hf, rfl⟩, rfl⟩, ?_, fun _ => ?_⟩
  · rw [(pipeline_chain _ _).1]; rfl
  · rw [R_pipeline]; rfl

/-- only one `--select S` -/
theorem only_select (orc : Oracles) (s : Str) (n : Str) (e : Expr) (hs : parseSelection s = .ok (n, e)) :
    ∃ p, build orc { selects := [s] } = .ok p ∧ p.cfgs = [.select n e] ∧ p.titles = [n] ∧
      ∀ rows, R orc p rows = rows.map (fun c => c.withResult n (evalT orc e c)) := by
  have hP : HasParts orc { selects := [s] } ⟨defaultSink, [], [], [(n, e)], [], [], []⟩ :=
    ⟨rfl, rfl, rfl, mapRes_singleton _ _ _ (by rw [hs]; rfl), rfl, rfl, rfl⟩
  refine ⟨_, (build_parts_iff orc _ _).mpr ⟨_, hP, rfl⟩, ?_, ?_, fun _ => ?_⟩
  · rw [(pipeline_chain _ _).1]; rfl
  · rw [titles_pipeline hP]; rfl
  · rw [R_pipeline]; rfl

/-- only `--skip S --take T` -/
theorem only_skip_take (orc : Oracles) (S T : Nat) :
    ∃ p, build orc { skip := S, take := some T } = .ok p ∧ p.cfgs = [.limit S (some T)] ∧
      ∀ rows, R orc p rows = (rows.drop S).take T := by
  refine ⟨_, (build_parts_iff orc _ _).mpr
    ⟨⟨defaultSink, [], [], [], [], [], []⟩, ⟨rfl, rfl, rfl, rfl, rfl, rfl, rfl⟩, rfl⟩, ?_, ?_⟩
  · show (assemble _ _ _ _ _ _ _).map (·.1) = _
    simp [assemble]
  · intro rows
    rw [R_pipeline]
    rfl

/-- only `--skip S` -/
theorem only_skip (orc : Oracles) (S : Nat) :
    ∃ p, build orc { skip := S } = .ok p ∧ ∀ rows, R orc p rows = rows.drop S := by
  refine ⟨_, (build_parts_iff orc _ _).mpr
    ⟨⟨defaultSink, [], [], [], [], [], []⟩, ⟨rfl, rfl, rfl, rfl, rfl, rfl, rfl⟩, rfl⟩, ?_⟩
  intro rows
  rw [R_pipeline]
  rfl

/-- only `--take T` -/
theorem only_take (orc : Oracles) (T : Nat) :
    ∃ p, build orc { take := some T } = .ok p ∧ p.cfgs = [.limit 0 (some T)] ∧
      ∀ rows, R orc p rows = rows.take T :=
  ⟨_, (build_parts_iff orc _ _).mpr
    ⟨⟨defaultSink, [], [], [], [], [], []⟩, ⟨rfl, rfl, rfl, rfl, rfl, rfl, rfl⟩, rfl⟩, rfl, fun _ => rfl⟩

/-- only `--unique` -/
theorem only_unique (orc : Oracles) :
    ∃ p, build orc { unique := true } = .ok p ∧ p.cfgs = [.unique] ∧
      ∀ rows, R orc p rows = dedupFrom [] rows :=
  ⟨_, rfl, rfl, fun _ => rfl⟩

/-- only `--merge`: one row, the array of all rows -/
theorem only_merge (orc : Oracles) :
    ∃ p, build orc { group := some none } = .ok p ∧ p.cfgs = [.merge] ∧
      ∀ rows, R orc p rows = [{ input := .arr (rows.map Ctx.build) }] :=
  ⟨_, rfl, rfl, fun _ => rfl⟩

/-- only `--group-by G`: one row, the group object of all rows -/
theorem only_group (orc : Oracles) (g : Str) (e : Expr) (hg : parseOptionExpr g = .ok e) :
    ∃ p, build orc { group := some (some g) } = .ok p ∧ p.cfgs = [.group e] ∧
      ∀ rows, R orc p rows = [{ input := groupValue (groupOf (evalT orc) e rows) }] := by
  refine ⟨_, (build_parts_iff orc _ _).mpr
    ⟨⟨defaultSink, [.group e], [], [], [], [], []⟩,
      ⟨rfl, grpPart_of_some rfl hg, rfl, rfl, rfl, rfl, rfl⟩, rfl⟩, ?_, fun _ => ?_⟩
  · rw [(pipeline_chain _ _).1]; rfl
  · rw [R_pipeline]; rfl

/-- only one `--sort-by K`: the rows that have a key, stably sorted by it (unbounded sorter) -/
theorem only_sort (orc : Oracles) (s : Str) (e : Expr) (d : Bool) (hs : parseSorter s = .ok (e, d)) :
    ∃ p, build orc { sorts := [s] } = .ok p ∧ p.cfgs = [.sort e d] ∧ p.sts = [.sort [] none] ∧
      ∀ rows, R orc p rows
        = (SortSpec.sortDir JV.cmp (·.1) d (keyed (evalT orc) e rows)).map (·.2) := by
  refine ⟨_, (build_parts_iff orc _ _).mpr
    ⟨⟨defaultSink, [], [(e, d)], [], [], [], []⟩,
      ⟨rfl, rfl, mapRes_singleton _ _ _ (by rw [hs]; rfl), rfl, rfl, rfl, rfl⟩, rfl⟩, ?_, ?_, fun _ => ?_⟩
  · rw [(pipeline_chain _ _).1]; rfl
  · rw [(pipeline_chain _ _).2]; rfl
  · rw [R_pipeline]; rfl

/-- what "stably sorted" means for `only_sort`: the keyed rows are permuted, ordered in the requested
direction, and rows with equal keys keep their arrival order -/
theorem only_sort_props (orc : Oracles) (e : Expr) (d : Bool) (rows : List Ctx) :
    let out := SortSpec.sortDir JV.cmp (·.1) d (keyed (evalT orc) e rows)
    out.Perm (keyed (evalT orc) e rows) ∧ SortSpec.SortedDir JV.cmp (·.1) d out ∧
      ∀ k, out.filter (fun x => JV.cmp x.1 k = .eq)
        = (keyed (evalT orc) e rows).filter (fun x => JV.cmp x.1 k = .eq) :=
  ⟨SortSpec.sortDir_perm Order.cmp_total_preorder _ d _, SortSpec.sortDir_sorted Order.cmp_total_preorder _ d _,
    fun k => SortSpec.sortDir_stable Order.cmp_total_preorder _ d _ k⟩

/-! #### non-vacuity (C03, single options) -/

example (orc : Oracles) : ∃ p, build orc { filter := some ".k".toList } = .ok p ∧ p.cfgs = [.filter dotK] := by
  obtain ⟨p, h1, h2, -⟩ := only_filter orc ".k".toList dotK parseOptionExpr_k
  exact ⟨p, h1, h2⟩

example (orc : Oracles) : ∃ p, build orc { selects := [".k=x".toList] } = .ok p ∧ p.titles = ["x".toList] := by
  obtain ⟨p, h1, -, h2, -⟩ := only_select orc ".k=x".toList "x".toList dotK parseSelection_kx
  exact ⟨p, h1, h2⟩

example (orc : Oracles) : ∃ p, build orc { sorts := [".k".toList] } = .ok p ∧ p.cfgs = [.sort dotK false] := by
  obtain ⟨p, h1, h2, -⟩ := only_sort orc ".k".toList dotK false parseSorter_k
  exact ⟨p, h1, h2⟩

example (orc : Oracles) : ∃ p, build orc { group := some (some ".k".toList) } = .ok p ∧ p.cfgs = [.group dotK] := by
  obtain ⟨p, h1, h2, -⟩ := only_group orc ".k".toList dotK parseOptionExpr_k
  exact ⟨p, h1, h2⟩

/-! ### C03 — repeated options keep their command-line order -/

theorem mapRes_ok_iff {α β} (f : α → Except Fail β) (l : List α) (ys : List β) :
    mapRes f l = .ok ys ↔ l.map f = ys.map .ok := by
  induction l generalizing ys with
  | nil =>
    cases ys with
    | nil => simp [mapRes]
    | cons y ys => simp [mapRes]
  | cons x l ih =>
    cases ys with
    | nil =>
      simp only [mapRes, bind, Except.bind, List.map_cons, List.map_nil]
      cases f x <;> cases mapRes f l <;> simp
    | cons y ys =>
      rw [List.map_cons, List.map_cons, List.cons.injEq, ← ih ys]
      simp only [mapRes, bind, Except.bind]
      cases f x <;> cases mapRes f l <;> simp

/-- parsing the reversed list gives the reversed results -/
theorem mapRes_reverse {α β} (f : α → Except Fail β) (l : List α) (ys : List β)
    (h : mapRes f l.reverse = .ok ys) : mapRes f l = .ok ys.reverse := by
  rw [mapRes_ok_iff] at h ⊢
  rw [List.map_reverse] at h
  rw [List.map_reverse, ← h, List.reverse_reverse]

def isSelect : StageCfg → Bool
  | .select _ _ => true
  | _ => false

def isSort : StageCfg → Bool
  | .sort _ _ => true
  | _ => false

theorem filter_none {α} (q : α → Bool) (l : List α) (h : ∀ x ∈ l, q x = false) : l.filter q = [] :=
  List.filter_eq_nil_iff.mpr (fun x hx => by simp [h x hx])

theorem filter_all {α} (q : α → Bool) (l : List α) (h : ∀ x ∈ l, q x = true) : l.filter q = l :=
  List.filter_eq_self.mpr h

theorem isSelect_of_noTitle {c : StageCfg} (h : NoTitle c) : isSelect c = false := by
  cases c <;> first | rfl | exact h.elim

theorem back_noSelect (P : Parts) (c : Cfg) (hg : P.grp = [] ∨ (∃ e, P.grp = [.group e]) ∨ P.grp = [.merge]) :
    ∀ x ∈ (P.back c).map (·.1), isSelect x = false := by
  intro x hx
  unfold Parts.back at hx
  simp only [List.map_append, List.mem_append, simple_cfgs] at hx
  rcases hx with (hx | hx) | hx
  · exact isSelect_of_noTitle (sortStages_noTitle _ _ x hx)
  · exact isSelect_of_noTitle (limitStage_noTitle _ _ x hx)
  · rcases hg with hg | ⟨e, hg⟩ | hg <;> rw [hg] at hx
    · cases hx
    · simp only [List.mem_singleton] at hx; subst hx; rfl
    · simp only [List.mem_singleton] at hx; subst hx; rfl

theorem front_cfgs (P : Parts) :
    P.front.map (·.1) = P.pre ++ P.spl ++ P.fil ++ P.sels.reverse.map (fun (n, e) => StageCfg.select n e) := by
  unfold Parts.front front selStages
  simp only [List.map_append, simple_cfgs]

/-- C03 `selects_in_order`: the texts given with `-s` are parsed one by one (`parsed[i]` comes from
`c.selects[i]`), the select stages of the chain are exactly these, in command-line order, placed after
preset / split / filter and before everything else; the titles are the names in that order (none behind a
grouper / merger) -/
theorem selects_in_order (orc : Oracles) (c : Cfg) (p : Pipeline) (h : build orc c = .ok p) :
    ∃ (parsed : List (Str × Expr)) (A B : List StageCfg),
      mapRes (fun s => cfgErr (parseSelection s)) c.selects = .ok parsed ∧
      c.selects.map (fun s => cfgErr (parseSelection s)) = parsed.map .ok ∧
      p.cfgs = A ++ parsed.map (fun (n, e) => StageCfg.select n e) ++ B ∧
      (∀ x ∈ A, isSelect x = false) ∧ (∀ x ∈ B, isSelect x = false) ∧
      p.cfgs.filter isSelect = parsed.map (fun (n, e) => StageCfg.select n e) ∧
      (c.group = none → p.titles = parsed.map (·.1)) ∧
      (c.group ≠ none → p.titles = []) := by
  obtain ⟨P, hP, rfl⟩ := (build_parts_iff orc c p).mp h
  have hsel := mapRes_reverse _ _ _ hP.2.2.2.1
  have hcf : (P.pipeline c).cfgs
      = (P.pre ++ P.spl ++ P.fil) ++ P.sels.reverse.map (fun (n, e) => StageCfg.select n e)
        ++ ((uniqStage c.unique).map (·.1) ++ (P.back c).map (·.1)) := by
    rw [(pipeline_chain P c).1]
    simp only [List.map_append, front_cfgs, List.append_assoc]
  have hA : ∀ x ∈ P.pre ++ P.spl ++ P.fil, isSelect x = false := by
    intro x hx
    simp only [List.mem_append] at hx
    rcases hx with (hx | hx) | hx
    · exact prePart_forall hP.2.2.2.2.2.2 (isSelect · = false) (fun _ _ => rfl) x hx
    · exact splPart_forall hP.2.2.2.2.2.1 (isSelect · = false) (fun _ => rfl) x hx
    · exact filPart_forall hP.2.2.2.2.1 (isSelect · = false) (fun _ => rfl) x hx
  have hB : ∀ x ∈ (uniqStage c.unique).map (·.1) ++ (P.back c).map (·.1), isSelect x = false := by
    intro x hx
    rcases List.mem_append.mp hx with hx | hx
    · exact isSelect_of_noTitle (uniqStage_noTitle _ x hx)
    · exact back_noSelect P c (grpPart_shape hP.2.1) x hx
  have hS : ∀ x ∈ P.sels.reverse.map (fun (n, e) => StageCfg.select n e), isSelect x = true := by
    intro x hx
    obtain ⟨y, -, rfl⟩ := List.mem_map.mp hx
    rfl
  refine ⟨P.sels.reverse, _, _, hsel, (mapRes_ok_iff _ _ _).mp hsel, hcf, hA, hB, ?_, ?_, ?_⟩
  · rw [hcf, List.filter_append, List.filter_append, filter_none _ _ hA, filter_none _ _ hB,
      filter_all _ _ hS]
    simp
  · intro hg
    have hgrp : P.grp = [] := hP.grp_of_none hg
    rw [titles_pipeline hP, if_pos hgrp]
    rfl
  · intro hg
    have hgrp : P.grp ≠ [] := by
      intro h0
      cases hgo : c.group with
      | none => exact hg hgo
      | some o =>
        cases o with
        | none =>
          have := hP.2.1
          rw [grpPart_of_merge hgo, h0] at this
          cases this
        | some g =>
          obtain ⟨e, -, he⟩ := grpPart_of_group hgo hP.2.1
          rw [h0] at he
          cases he
    rw [titles_pipeline hP, if_neg hgrp]

theorem zip_cfgs_sts (L : Pairs) : (L.map (·.1)).zip (L.map (·.2)) = L := by
  rw [List.zip_map']
  simp

theorem isSort_of_stateless {c : StageCfg} (h : StageCfg.stateless c = true) : isSort c = false := by
  cases c <;> first | rfl | exact absurd h (by simp [StageCfg.stateless])

/-- C03 `sorts_in_order`: the sort stages of the chain are the parsed `--sort-by` options in REVERSE
command-line order (last given outermost = applied first), all unbounded except the first given one, which
sits next to the limiter and is bounded by `skip + take` -/
theorem sorts_in_order (orc : Oracles) (c : Cfg) (p : Pipeline) (h : build orc c = .ok p) :
    ∃ sorters : List (Expr × Bool),
      mapRes (fun s => cfgErr (parseSorter s)) c.sorts = .ok sorters ∧
      c.sorts.map (fun s => cfgErr (parseSorter s)) = sorters.map .ok ∧
      (p.cfgs.zip p.sts).filter (fun x => isSort x.1)
        = sortStages (c.take.map (fun t => c.skip + t)) sorters ∧
      p.cfgs.filter isSort = (sorters.map (fun x => StageCfg.sort x.1 x.2)).reverse := by
  obtain ⟨P, hP, rfl⟩ := (build_parts_iff orc c p).mp h
  have hz : (P.pipeline c).cfgs.zip (P.pipeline c).sts
      = P.front ++ uniqStage c.unique ++ P.back c := by
    rw [(pipeline_chain P c).1, (pipeline_chain P c).2, zip_cfgs_sts]
  have h1 : ∀ x ∈ P.front, isSort x.1 = false :=
    fun x hx => isSort_of_stateless (front_stateless hP x hx)
  have h2 : ∀ x ∈ uniqStage c.unique, isSort x.1 = false :=
    uniqStage_forall (fun x => isSort x.1 = false) rfl _
  have h3 : ∀ x ∈ sortStages (c.take.map (fun t => c.skip + t)) P.sorters, isSort x.1 = true :=
    sortStages_forall (fun x => isSort x.1 = true) (fun _ _ _ => rfl) _ _
  have h4 : ∀ x ∈ limitStage c.skip c.take, isSort x.1 = false :=
    limitStage_forall (fun x => isSort x.1 = false) (fun _ _ => rfl) _ _
  have h5 : ∀ x ∈ simple P.grp, isSort x.1 = false := by
    intro x hx
    unfold simple at hx
    obtain ⟨y, hy, rfl⟩ := List.mem_map.mp hx
    rcases grpPart_shape hP.2.1 with hg | ⟨e, hg⟩ | hg <;> rw [hg] at hy
    · cases hy
    · simp only [List.mem_singleton] at hy; subst hy; rfl
    · simp only [List.mem_singleton] at hy; subst hy; rfl
  have hpairs : ((P.pipeline c).cfgs.zip (P.pipeline c).sts).filter (fun x => isSort x.1)
      = sortStages (c.take.map (fun t => c.skip + t)) P.sorters := by
    rw [hz]
    unfold Parts.back
    simp only [List.filter_append]
    rw [filter_none _ _ h1, filter_none _ _ h2, filter_all _ _ h3, filter_none _ _ h4, filter_none _ _ h5]
    simp
  refine ⟨P.sorters, hP.2.2.1, (mapRes_ok_iff _ _ _).mp hP.2.2.1, hpairs, ?_⟩
  have : (P.pipeline c).cfgs.filter isSort
      = (((P.pipeline c).cfgs.zip (P.pipeline c).sts).filter (fun x => isSort x.1)).map (·.1) := by
    rw [hz]
    rw [(pipeline_chain P c).1]
    generalize P.front ++ uniqStage c.unique ++ P.back c = L
    induction L with
    | nil => rfl
    | cons x L ih =>
      simp only [List.map_cons, List.filter_cons]
      split <;> simp [ih]
  rw [this, hpairs]
  unfold sortStages
  rw [List.map_reverse, List.map_map]
  congr 1
  rw [← List.zipIdx_map_fst 0 P.sorters, List.map_map, List.zipIdx_map_fst]
  rfl

/-- C03 `sorts_first_most_significant`: `--sort-by K1 --sort-by K2` yields the stages
`[sort K2 (unbounded), sort K1 (bounded by skip + take)]` in that order: the rows are sorted by `K2` first and
then stably by `K1`, so the first given key is the most significant one -/
theorem sorts_first_most_significant (orc : Oracles) (c : Cfg) (p : Pipeline) (h : build orc c = .ok p)
    (k1 k2 : Str) (hs : c.sorts = [k1, k2]) (e1 e2 : Expr) (d1 d2 : Bool)
    (h1 : parseSorter k1 = .ok (e1, d1)) (h2 : parseSorter k2 = .ok (e2, d2)) :
    (p.cfgs.zip p.sts).filter (fun x => isSort x.1)
        = [(.sort e2 d2, .sort [] none), (.sort e1 d1, .sort [] (c.take.map (fun t => c.skip + t)))] ∧
      p.cfgs.filter isSort = [.sort e2 d2, .sort e1 d1] := by
  obtain ⟨sorters, -, hm, hz, hc⟩ := sorts_in_order orc c p h
  rw [hs] at hm
  have : sorters = [(e1, d1), (e2, d2)] := by
    simp only [List.map_cons, List.map_nil, h1, h2, cfgErr] at hm
    match sorters, hm with
    | [a, b], hm =>
      simp only [List.map_cons, List.map_nil, List.cons.injEq, Except.ok.injEq, and_true] at hm
      rw [← hm.1, ← hm.2]
  subst this
  exact ⟨hz, hc⟩

/-- the function computed with two sort keys and nothing else: sort by `K2`, then stably by `K1` -/
theorem two_sorts (orc : Oracles) (k1 k2 : Str) (e1 e2 : Expr) (d1 d2 : Bool)
    (h1 : parseSorter k1 = .ok (e1, d1)) (h2 : parseSorter k2 = .ok (e2, d2)) :
    ∃ p, build orc { sorts := [k1, k2] } = .ok p ∧ p.cfgs = [.sort e2 d2, .sort e1 d1] ∧
      ∀ rows, R orc p rows
        = (SortSpec.sortDir JV.cmp (·.1) d1 (keyed (evalT orc) e1
            ((SortSpec.sortDir JV.cmp (·.1) d2 (keyed (evalT orc) e2 rows)).map (·.2)))).map (·.2) := by
  refine ⟨_, (build_parts_iff orc _ _).mpr
    ⟨⟨defaultSink, [], [(e1, d1), (e2, d2)], [], [], [], []⟩, ⟨rfl, rfl, ?_, rfl, rfl, rfl, rfl⟩, rfl⟩, ?_,
    fun _ => ?_⟩
  · show mapRes _ [k1, k2] = _
    simp only [mapRes, h1, h2, cfgErr, bind, Except.bind]
  · rw [(pipeline_chain _ _).1]; rfl
  · rw [R_pipeline]; rfl

/-! #### non-vacuity (C03, order) -/

/-- `-s .k=x -s .k -o .k -o .k`: two selections and two sorters -/
def exOrder : Cfg := { selects := [".k=x".toList, ".k".toList], sorts := [".k".toList, ".k".toList] }

theorem parseSelection_k : parseSelection ".k".toList = .ok (".k".toList, dotK) :=
  isExtractSel_sound (n := ".k".toList) (steps := [Jawk.Step.key "k".toList])
    (r := parseSelection ".k".toList) (by decide +kernel)

theorem exOrder_builds (orc : Oracles) : ∃ p, build orc exOrder = .ok p :=
  ⟨_, (build_parts_iff orc _ _).mpr
    ⟨⟨defaultSink, [], [(dotK, false), (dotK, false)], [(".k".toList, dotK), ("x".toList, dotK)], [], [], []⟩,
      ⟨rfl, rfl, by show mapRes _ [_, _] = _; simp only [mapRes, parseSorter_k, cfgErr, bind, Except.bind],
        by show mapRes _ [_, _] = _
           simp only [mapRes, parseSelection_k, parseSelection_kx, cfgErr, bind, Except.bind],
        rfl, rfl, rfl⟩, rfl⟩⟩

example (orc : Oracles) : ∃ p, build orc exOrder = .ok p ∧ p.titles = ["x".toList, ".k".toList] := by
  obtain ⟨p, hp⟩ := exOrder_builds orc
  obtain ⟨parsed, A, B, -, hm, -, -, -, -, ht, -⟩ := selects_in_order orc exOrder p hp
  refine ⟨p, hp, ?_⟩
  rw [ht rfl]
  simp only [exOrder, List.map_cons, List.map_nil, parseSelection_k, parseSelection_kx, cfgErr] at hm
  match parsed, hm with
  | [a, b], hm =>
    simp only [List.map_cons, List.map_nil, List.cons.injEq, Except.ok.injEq, and_true] at hm
    rw [← hm.1, ← hm.2]
    rfl

/-! ### back to whole runs -/

/-- the rows read depend on the configuration only through `--only-objects-and-arrays` -/
theorem ctxsOf_congr (c c' : Cfg) (h : c.onlyObjectsAndArrays = c'.onlyObjectsAndArrays)
    (fuel : Nat) (r : Reader) (inFile idx : Nat) : ctxsOf c fuel r inFile idx = ctxsOf c' fuel r inFile idx := by
  induction fuel generalizing r inFile idx with
  | zero => rfl
  | succ fuel ih =>
    unfold ctxsOf
    rw [h]
    split
    · split
      · exact ih _ _ _
      · rw [ih]
    · rfl
    · split
      · exact ih _ _ _
      · rfl

theorem ctxsOfSources_congr (c c' : Cfg) (h : c.onlyObjectsAndArrays = c'.onlyObjectsAndArrays)
    (sources : List Source) (idx : Nat) : ctxsOfSources c sources idx = ctxsOfSources c' sources idx := by
  induction sources generalizing idx with
  | nil => rfl
  | cons src rest ih =>
    unfold ctxsOfSources
    simp only [ctxsOf_congr c c' h, ih]

/-- C08 at run level (no grouping, policy `ignore`): stdout of the run with `--skip S --take T` is the
header followed by the printed form of rows `S .. S+T-1` of the rows the run without them prints; both runs
read the same rows, use the same sink and print the same header -/
theorem run_skip_take (orc : Oracles) (c : Cfg) (sources : List Source) (wOut wErr : Writer) (p : Pipeline)
    (hpol : c.onError = .ignore) (hb : build orc c = .ok p) (hg : c.group = none)
    (hna : NoAbort orc p.cfgs) (hw : Unbounded wOut) (hcl : CleanIO sources) (hh : ¬ HeaderMissing p) :
    ∃ p0, build orc { c with skip := 0, take := none } = .ok p0 ∧
      headerBytes p0 = headerBytes p ∧
      (run orc c sources wOut wErr).result = .ok () ∧
      (run orc c sources wOut wErr).stdout
        = wOut.out ++ headerBytes p0 ++
          (takeOpt c.take
            ((R orc p0 (ctxsOfSources { c with skip := 0, take := none } sources 0)).drop c.skip)).flatMap
            (sinkBytes p0.sink p0.sinkLen) := by
  obtain ⟨p0, hp0, hr⟩ := skip_take_config orc c p hb hg
  obtain ⟨p0', hp0', hsink, htitles, hlen⟩ := skip_take_build orc c p hb
  rw [hp0] at hp0'
  cases hp0'
  obtain ⟨h1, h2, -⟩ := run_ignore_spec orc c sources wOut wErr p hpol hb hna hw hcl hh
  have hhdr : headerBytes p0 = headerBytes p := by
    unfold headerBytes
    rw [hsink, htitles]
  refine ⟨p0, hp0, hhdr, h1, ?_⟩
  rw [h2, hhdr, hsink, hlen, ← ctxsOfSources_congr c { c with skip := 0, take := none } rfl]
  congr 2
  exact hr _

theorem exWindow_noAbort (orc : Oracles) : NoAbort orc (exWindowParts.pipeline exWindow).cfgs := by
  intro c hc e he ctx
  have hcf : (exWindowParts.pipeline exWindow).cfgs
      = [.select "x".toList dotK, .sort dotK false, .limit 1 (some 2)] := rfl
  rw [hcf] at hc
  simp only [List.mem_cons, List.not_mem_nil, or_false] at hc
  rcases hc with rfl | rfl | rfl <;>
    simp only [stageExprs, List.mem_singleton, List.not_mem_nil] at he <;>
    subst he <;> exact ⟨_, by simp only [evalFuel, eval]; rfl⟩

/-- non-vacuity of `run_skip_take`: every hypothesis holds for `exWindow` on any plain-byte sources -/
example (orc : Oracles) (l : List (Option Str × List Byte)) :
    ∃ p0, build orc { exWindow with skip := 0, take := none } = .ok p0 ∧
      (run orc exWindow (l.map (fun x => ⟨x.1, cleanInput x.2⟩)) {} {}).result = .ok () := by
  obtain ⟨p0, h1, -, h2, -⟩ := run_skip_take orc exWindow (l.map (fun x => ⟨x.1, cleanInput x.2⟩)) {} {} _ rfl
    (exWindow_builds orc) rfl (exWindow_noAbort orc) ⟨rfl, rfl⟩ (cleanIO_of_bytes l) (fun h => h)
  exact ⟨p0, h1, h2⟩

end Jawk.RunCor
