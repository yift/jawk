/-
  Property C04: list functionals and producers
  (`flat_map`, `fold`, `group_by`, `all`, `any`, `sum`, `indexed`, `range`, `zip`, `cross`, `sort`, `sort_unique`).
  Same conventions as `EvalLaws.lean`: arguments are arbitrary expressions whose evaluation is a hypothesis,
  `eval … = .ok none` is the evaluator's "nothing".
  First, under `Jawk.EvalLaws`, the definitions the laws' right-hand sides use (`arrItems`, `foldSteps`, `zipRow`,
  `crossRows`, …) with their list lemmas; then the laws, `Jawk.C04.*`.
-/
import Jawk.Lemmas.EvalLaws
import Jawk.Lemmas.SortFns
namespace Jawk.EvalLaws
open Jawk C04

/-! ## Dispatch: none of these names belongs to the first group of functions -/
section DispatchList
variable (ev : Ev) (args : List Expr) (ctx : Ctx)

theorem skipB_flat_map : callBasic ev "flat_map" args ctx = none := skipped_of_list (by decide +kernel)
theorem skipB_fold : callBasic ev "fold" args ctx = none := skipped_of_list (by decide +kernel)
theorem skipB_group_by : callBasic ev "group_by" args ctx = none := skipped_of_list (by decide +kernel)
theorem skipB_all : callBasic ev "all" args ctx = none := skipped_of_list (by decide +kernel)
theorem skipB_any : callBasic ev "any" args ctx = none := skipped_of_list (by decide +kernel)
theorem skipB_sum : callBasic ev "sum" args ctx = none := skipped_of_list (by decide +kernel)
theorem skipB_indexed : callBasic ev "indexed" args ctx = none := skipped_of_list (by decide +kernel)
theorem skipB_range : callBasic ev "range" args ctx = none := skipped_of_list (by decide +kernel)
theorem skipB_zip : callBasic ev "zip" args ctx = none := skipped_of_list (by decide +kernel)
theorem skipB_cross : callBasic ev "cross" args ctx = none := skipped_of_list (by decide +kernel)
theorem skipB_sort : callBasic ev "sort" args ctx = none := skipped_of_list (by decide +kernel)
theorem skipB_sort_unique : callBasic ev "sort_unique" args ctx = none := skipped_of_list (by decide +kernel)

end DispatchList

/-! ## helper lemmas about lists (not about `eval`) -/

/-! ### `flat_map` -/

/-- the items an evaluation result contributes to `flat_map`: those of an array, nothing otherwise -/
def arrItems : Option JV → List JV
  | some (.arr x) => x
  | _ => []

theorem arrItems_arr (x : List JV) : arrItems (some (.arr x)) = x := rfl
theorem arrItems_nothing : arrItems none = [] := rfl
theorem arrItems_non_array (v : Option JV) (h : isArr v = false) : arrItems v = [] := by
  rcases v with _ | (_ | _ | _ | _ | _ | _)
  case some.arr => cases h
  all_goals rfl

/-- folding over the items paired with their indices with a function that ignores the index -/
theorem foldl_zipIdx_fst {α β} (g : β → α → β) (l : List α) (k : Nat) (c : β) :
    (l.zipIdx k).foldl (fun acc vi => g acc vi.1) c = l.foldl g c := by
  induction l generalizing k c with
  | nil => rfl
  | cons v vs ih => simp only [List.zipIdx_cons, List.foldl_cons, ih]

/-! ### `group_by` -/

/-- appending one element to a list: it is a new first occurrence exactly when it was not there -/
theorem eraseDups_snoc {α} [BEq α] [LawfulBEq α] (l : List α) (x : α) :
    (l ++ [x]).eraseDups = if x ∈ l then l.eraseDups else l.eraseDups ++ [x] := by
  rw [List.eraseDups_append]
  by_cases h : x ∈ l
  · simp [h, List.removeAll]
  · simp [h, List.removeAll, List.eraseDups_cons]

theorem eraseDups_nodup {α} [BEq α] [LawfulBEq α] (l : List α) : l.eraseDups.Nodup := by
  generalize hn : l.length = n
  induction n using Nat.strongRecOn generalizing l with
  | _ n ih =>
    cases l with
    | nil => simp
    | cons a as =>
      rw [List.eraseDups_cons, List.nodup_cons]
      refine ⟨?_, ih _ ?_ _ rfl⟩
      · rw [List.mem_eraseDups]; simp
      · subst hn
        exact Nat.lt_succ_of_le (List.length_filter_le _ _)

/-- two disjoint tests split a list into two parts that together are a permutation of what either test keeps -/
theorem filter_disjoint_perm {α} (p q : α → Bool) (l : List α) (h : ∀ x ∈ l, ¬ (p x = true ∧ q x = true)) :
    (l.filter p ++ l.filter q).Perm (l.filter (fun x => p x || q x)) := by
  induction l with
  | nil => simp
  | cons x xs ih =>
    have ih' := ih (fun y hy => h y (List.mem_cons_of_mem _ hy))
    have hx := h x List.mem_cons_self
    cases hp : p x <;> cases hq : q x
    · simpa [List.filter_cons, hp, hq] using ih'
    · simp only [List.filter_cons, hp, hq, Bool.false_eq_true, if_false, if_true, Bool.or_true]
      exact List.perm_middle.trans (ih'.cons x)
    · simp only [List.filter_cons, hp, hq, Bool.false_eq_true, if_false, if_true, Bool.or_false, List.cons_append]
      exact ih'.cons x
    · simp [hp, hq] at hx

/-- the groups of a list by a key: one group per key in order of first occurrence, each group the sub-list of the
items with that key -/
def groupsOf (key : JV → Str) (l : List JV) : List (Str × List JV) :=
  (l.map key).eraseDups.map (fun k => (k, l.filter (fun v => key v == k)))

theorem groups_perm (key : JV → Str) (l : List JV) (ks : List Str) :
    (ks.eraseDups.flatMap (fun k => l.filter (fun v => key v == k))).Perm (l.filter (fun v => ks.contains (key v))) := by
  generalize hn : ks.length = n
  induction n using Nat.strongRecOn generalizing ks with
  | _ n ih =>
    cases ks with
    | nil => simp
    | cons k ks' =>
      rw [List.eraseDups_cons, List.flatMap_cons]
      have h1 := ih _ (by subst hn; exact Nat.lt_succ_of_le (List.length_filter_le _ ks')) (ks'.filter (fun b => !b == k)) rfl
      refine ((List.Perm.refl _).append h1).trans ?_
      refine (filter_disjoint_perm _ _ l ?_).trans ?_
      · intro v _ ⟨h2, h3⟩
        simp at h2 h3
        exact h3.2 h2
      · apply List.Perm.of_eq
        apply List.filter_congr
        intro v _
        by_cases hk : key v = k <;> simp [hk]

/-- one round of the loop of `group_by`: the item joins the group of its key, or opens a new last group -/
def groupStep (groups : List (Str × List JV)) (key : Str) (item : JV) : List (Str × List JV) :=
  if groups.any (fun g => g.1 = key)
  then groups.map (fun g => if g.1 = key then (g.1, g.2 ++ [item]) else g)
  else groups ++ [(key, [item])]

theorem groupsOf_snoc (key : JV → Str) (l : List JV) (x : JV) :
    groupsOf key (l ++ [x]) = groupStep (groupsOf key l) (key x) x := by
  have hany : (groupsOf key l).any (fun g => g.1 = key x) = decide (key x ∈ l.map key) := by
    rw [Bool.eq_iff_iff]
    simp only [groupsOf, List.any_map, List.any_eq_true, Function.comp, decide_eq_true_eq, List.mem_eraseDups]
    constructor
    · rintro ⟨k, hk, rfl⟩; exact hk
    · intro h; exact ⟨_, h, rfl⟩
  unfold groupStep
  rw [hany]
  unfold groupsOf
  rw [List.map_append, List.map_cons, List.map_nil, eraseDups_snoc]
  by_cases h : key x ∈ l.map key
  · simp only [h, if_true, decide_true, List.map_map]
    apply List.map_congr_left
    intro k _
    by_cases hk : k = key x
    · subst hk
      simp only [List.filter_append, BEq.rfl, List.filter_cons_of_pos, List.filter_nil, Function.comp_apply, if_true]
    · have : (key x == k) = false := beq_eq_false_iff_ne.2 fun h' => hk h'.symm
      simp only [List.filter_append, this, Bool.false_eq_true, not_false_eq_true, List.filter_cons_of_neg,
        List.filter_nil, List.append_nil, Function.comp_apply, hk, if_false]
  · simp only [h, if_false, decide_false, Bool.false_eq_true, List.map_append, List.map_cons, List.map_nil]
    congr 1
    · apply List.map_congr_left
      intro k hk
      rw [List.mem_eraseDups] at hk
      have : (key x == k) = false := beq_eq_false_iff_ne.2 fun h' => h (h' ▸ hk)
      simp only [List.filter_append, this, Bool.false_eq_true, not_false_eq_true, List.filter_cons_of_neg,
        List.filter_nil, List.append_nil]
    · have : l.filter (fun v => key v == key x) = [] := by
        rw [List.filter_eq_nil_iff]
        intro v hv
        simp only [beq_iff_eq]
        intro hkv
        exact h (hkv ▸ List.mem_map_of_mem hv)
      simp only [List.filter_append, this, BEq.rfl, List.filter_cons_of_pos, List.filter_nil, List.nil_append]

/-- the loop of `group_by` on string keys builds `groupsOf` -/
theorem groupGo_strs (key : JV → Str) (pre suf : List JV) :
    callList.groupGo (groupsOf key pre) (suf.zip (suf.map (fun v => some (JV.str (key v))))) =
      some (groupsOf key (pre ++ suf)) := by
  induction suf generalizing pre with
  | nil => simp [callList.groupGo]
  | cons x xs ih =>
    simp only [List.map_cons, List.zip_cons_cons, callList.groupGo]
    have := groupsOf_snoc key pre x
    unfold groupStep at this
    rw [← this, ih (pre ++ [x])]
    simp

/-- a key that is not a string stops the loop with nothing -/
theorem groupGo_non_string (g : JV → Option JV) (groups : List (Str × List JV)) (l : List JV)
    (h : ∃ v ∈ l, strArg (g v) = none) :
    callList.groupGo groups (l.zip (l.map g)) = none := by
  induction l generalizing groups with
  | nil => simp at h
  | cons x xs ih =>
    simp only [List.map_cons, List.zip_cons_cons]
    cases hx : g x with
    | none => simp [callList.groupGo]
    | some w =>
      cases w with
      | str s =>
        simp only [callList.groupGo]
        apply ih
        obtain ⟨v, hv, hvn⟩ := h
        rcases List.mem_cons.1 hv with rfl | hv'
        · rw [hx] at hvn; simp [strArg] at hvn
        · exact ⟨v, hv', hvn⟩
      | _ => simp [callList.groupGo]

/-- every item is in exactly one group: item `v` is in the group of key `k` exactly when `k` is its key, no group
is empty, and the groups together are a permutation of the list -/
theorem group_by_partition (l : List JV) (key : JV → Str) :
    (∀ v ∈ l, ∀ k, v ∈ l.filter (fun v => key v == k) ↔ key v = k) ∧
    (∀ k ∈ (l.map key).eraseDups, l.filter (fun v => key v == k) ≠ []) ∧
    ((l.map key).eraseDups.flatMap (fun k => l.filter (fun v => key v == k))).Perm l := by
  refine ⟨?_, ?_, ?_⟩
  · intro v hv k
    simp [List.mem_filter, hv]
  · intro k hk
    rw [List.mem_eraseDups, List.mem_map] at hk
    obtain ⟨v, hv, rfl⟩ := hk
    exact List.ne_nil_of_mem (List.mem_filter.2 ⟨hv, by simp⟩)
  · refine (groups_perm key l (l.map key)).trans (List.Perm.of_eq ?_)
    rw [List.filter_eq_self]
    intro v hv
    simpa using ⟨v, hv, rfl⟩

/-- looking a key up in an object built from a list of keys by a function of the key -/
theorem objGet?_map_keys (ks : List Str) (h : Str → JV) (k : Str) :
    objGet? (ks.map (fun k' => (k', h k'))) k = if k ∈ ks then some (h k) else none := by
  induction ks with
  | nil => rfl
  | cons k' ks ih =>
    by_cases hk : k' = k
    · subst hk; simp [objGet?]
    · have : ¬ k = k' := fun h' => hk h'.symm
      simp [objGet?, hk, ih, this]

/-! ### `all`, `any`, `sum` -/

/-- `t == true` of the program is the test `isTrue` of `filter` -/
theorem beq_bool_true (t : JV) : JV.beq t (.bool true) = isTrue (some t) := by
  cases t with
  | bool b => cases b <;> simp [JV.beq, isTrue]
  | _ => simp [JV.beq, isTrue]

theorem isTrue_some_iff (t : JV) : isTrue (some t) = true ↔ t = .bool true :=
  (isTrue_iff _).trans (Option.some_inj)

/-- the loop of `sum` on a list of numbers is the left fold of `f64` addition -/
theorem sumGo_nums (acc : F64) (ns : List Num) :
    callList.sumGo acc (ns.map JV.num) = some (ns.foldl (fun s n => F64.add s n.toF64) acc) := by
  induction ns generalizing acc with
  | nil => rfl
  | cons n ns ih => simp only [List.map_cons, callList.sumGo, ih, List.foldl_cons]

/-- an item that is not a number makes the sum nothing -/
theorem sumGo_non_number (acc : F64) (l : List JV) (h : ∃ v ∈ l, numArg (some v) = none) :
    callList.sumGo acc l = none := by
  induction l generalizing acc with
  | nil => simp at h
  | cons x xs ih =>
    obtain ⟨v, hv, hn⟩ := h
    cases x with
    | num n =>
      rw [callList.sumGo]
      apply ih
      rcases List.mem_cons.1 hv with rfl | h'
      · simp [numArg] at hn
      · exact ⟨v, h', hn⟩
    | _ => simp [callList.sumGo]

/-! ### `indexed` -/

/-- taking the `value`s of the result gives the list back -/
theorem indexed_values (l : List JV) :
    (l.zipIdx.map (fun vi => JV.obj [("value".toList, vi.1), ("index".toList, .num (.pos vi.2))])).filterMap
      (fun o => match o with
        | .obj m => objGet? m "value".toList
        | _ => none) = l := by
  rw [List.filterMap_map]
  have : ((fun o => match o with
        | JV.obj m => objGet? m "value".toList
        | _ => none) ∘ fun (vi : JV × Nat) => JV.obj [("value".toList, vi.1), ("index".toList, .num (.pos vi.2))])
      = fun vi => some vi.1 := by
    funext vi; simp [objGet?]
  rw [this, List.filterMap_eq_map', ← List.unzip_fst]
  simp [List.unzip_zipIdx_eq_prod]

/-! ### `zip` -/

/-- the member name `".i"` of list number `i` in the rows of `zip` and `cross` -/
def dotKey (i : Nat) : Str := '.' :: Nat.toDigits 10 i

theorem dotKey_inj {i j : Nat} (h : dotKey i = dotKey j) : i = j := by
  have h' : Nat.toDigits 10 i = Nat.toDigits 10 j := by simpa [dotKey] using h
  have := congrArg (fun d => Nat.ofDigitChars 10 d 0) h'
  simpa [Nat.ofDigitChars_ten_toDigits] using this

theorem dotKey_zero : dotKey 0 = ".0".toList := by decide
theorem dotKey_one : dotKey 1 = ".1".toList := by decide
theorem dotKey_two : dotKey 2 = ".2".toList := by decide

/-- row `idx` of `zip`: for each list, in order, that has an item at `idx`, the member `".i"` with that item -/
def zipRow (lists : List (List JV)) (start idx : Nat) : List (Str × JV) :=
  (lists.zipIdx start).filterMap (fun li => (li.1[idx]?).map (fun v => (dotKey li.2, v)))

theorem zipRow_cons (l : List JV) (ls : List (List JV)) (start idx : Nat) :
    zipRow (l :: ls) start idx =
      (l[idx]?.map (fun v => (dotKey start, v))).toList ++ zipRow ls (start + 1) idx := by
  simp only [zipRow, List.zipIdx_cons, List.filterMap_cons]
  cases l[idx]? <;> rfl

theorem zipRow_keys (lists : List (List JV)) (start idx : Nat) :
    ((zipRow lists start idx).map (·.1)).Nodup ∧ ∀ k ∈ (zipRow lists start idx).map (·.1), ∃ i, start ≤ i ∧ k = dotKey i := by
  induction lists generalizing start with
  | nil => simp [zipRow]
  | cons l ls ih =>
    obtain ⟨ih1, ih2⟩ := ih (start + 1)
    simp only [zipRow, List.zipIdx_cons, List.filterMap_cons] at ih1 ih2 ⊢
    cases l[idx]? with
    | none =>
      refine ⟨ih1, fun k hk => ?_⟩
      obtain ⟨i, hi, rfl⟩ := ih2 k hk
      exact ⟨i, by omega, rfl⟩
    | some v =>
      simp only [Option.map_some, List.map_cons, List.nodup_cons]
      refine ⟨⟨fun hmem => ?_, ih1⟩, fun k hk => ?_⟩
      · obtain ⟨i, hi, he⟩ := ih2 _ hmem
        have := dotKey_inj he
        omega
      · rcases List.mem_cons.1 hk with rfl | hk
        · exact ⟨start, Nat.le_refl _, rfl⟩
        · obtain ⟨i, hi, rfl⟩ := ih2 k hk
          exact ⟨i, by omega, rfl⟩

/-- the member `".k"` of row `idx` is item `idx` of list `k`; it is absent exactly when that list is too short -/
theorem objGet?_zipRow (lists : List (List JV)) (start idx k : Nat) :
    objGet? (zipRow lists start idx) (dotKey (start + k)) = (lists[k]?).bind (fun l => l[idx]?) := by
  induction lists generalizing start k with
  | nil => rfl
  | cons l ls ih =>
    rw [zipRow_cons]
    cases k with
    | zero =>
      rw [List.getElem?_cons_zero, Option.bind_some]
      cases l[idx]? with
      | none =>
        refine (objGet?_none_iff _ _).2 fun kv hkv hk => ?_
        obtain ⟨i, hi, he⟩ := (zipRow_keys ls (start + 1) idx).2 kv.1 (List.mem_map_of_mem hkv)
        have := dotKey_inj (hk ▸ he)
        omega
      | some v => exact if_pos rfl
    | succ k =>
      have hne : dotKey start ≠ dotKey (start + (k + 1)) := fun h => by have := dotKey_inj h; omega
      rw [List.getElem?_cons_succ, ← ih (start + 1) k, Nat.add_assoc, Nat.add_comm 1 k]
      cases l[idx]? with
      | none => rfl
      | some v => exact if_neg hne

theorem zipRow_two (la lb : List JV) (i : Nat) :
    zipRow [la, lb] 0 i =
      (la[i]?.map (fun x => (".0".toList, x))).toList ++ (lb[i]?.map (fun y => (".1".toList, y))).toList := by
  rw [zipRow_cons, zipRow_cons, dotKey_zero, dotKey_one]
  exact congrArg _ (List.append_nil _)

/-- the members of a row are in the order of the lists, and no two have the same name -/
theorem zipRow_distinct (lists : List (List JV)) (idx : Nat) : ((zipRow lists 0 idx).map (·.1)).Nodup :=
  (zipRow_keys lists 0 idx).1

/-- the longest length: an upper bound of all lengths, attained by one of the lists (0 for no list) -/
theorem foldl_max_length (lists : List (List JV)) (m0 : Nat) :
    let m := lists.foldl (fun m l => max m l.length) m0
    m0 ≤ m ∧ (∀ l ∈ lists, l.length ≤ m) ∧ (m = m0 ∨ ∃ l ∈ lists, l.length = m) := by
  induction lists generalizing m0 with
  | nil => exact ⟨Nat.le_refl _, fun _ h => absurd h List.not_mem_nil, .inl rfl⟩
  | cons l ls ih =>
    obtain ⟨h1, h2, h3⟩ := ih (max m0 l.length)
    simp only [List.foldl_cons]
    refine ⟨Nat.le_trans (Nat.le_max_left ..) h1, ?_, ?_⟩
    · intro l' hl'
      rcases List.mem_cons.1 hl' with rfl | hl'
      · exact Nat.le_trans (Nat.le_max_right ..) h1
      · exact h2 l' hl'
    · rcases h3 with h3 | ⟨l', hl', h3⟩
      · rcases Nat.le_total l.length m0 with hm | hm
        · exact .inl (h3.trans (Nat.max_eq_left hm))
        · exact .inr ⟨l, List.mem_cons_self, (h3.trans (Nat.max_eq_right hm)).symm⟩
      · exact .inr ⟨l', List.mem_cons_of_mem _ hl', h3⟩

/-- selecting the arrays among values one of which is not an array gives fewer than the values -/
theorem filterMap_arr_length (F : Option JV → Option (List JV)) (hF : ∀ v, isArr v = false → F v = none)
    (vs : List (Option JV)) (h : ∃ v ∈ vs, isArr v = false) :
    (vs.filterMap F).length ≠ vs.length := by
  obtain ⟨v, hv, hva⟩ := h
  intro heq
  have := List.filterMap_length_eq_length.1 heq v hv
  rw [hF v hva] at this
  cases this

theorem filterMap_arr_all (F : Option JV → Option (List JV)) (hF : ∀ l, F (some (.arr l)) = some l)
    (lists : List (List JV)) : (lists.map (fun l => some (JV.arr l))).filterMap F = lists := by
  induction lists with
  | nil => rfl
  | cons l ls ih => simp [hF, ih]

theorem flatMap_congr_mem {α β} {f g : α → List β} (l : List α) (h : ∀ x ∈ l, f x = g x) :
    l.flatMap f = l.flatMap g := by
  rw [List.flatMap_def, List.flatMap_def, List.map_congr_left h]

/-! ### `cross` -/

/-- the rows of `cross`: the lists are taken in order; each one multiplies the rows so far, its items in the
outer loop and the rows so far in the inner one; the new member `".i"` is added at the end of the row -/
def crossRows : List (List JV) → Nat → List (List (Str × JV)) → List (List (Str × JV))
  | [], _, joined => joined
  | lst :: rest, i, joined =>
    crossRows rest (i + 1) (lst.flatMap (fun v => joined.map (fun sofar => sofar ++ [(dotKey i, v)])))

theorem dotKey_not_mem_range (i : Nat) : dotKey i ∉ (List.range i).map dotKey := by
  intro h
  obtain ⟨j, hj, he⟩ := List.mem_map.1 h
  have := dotKey_inj he
  rw [List.mem_range] at hj
  omega

/-- the loop of `cross` (with `IndexMap::insert`) adds a new last member in every round -/
theorem cross_foldl (S : List (List (Str × JV)) → List JV × Nat → List (List (Str × JV)))
    (hS : ∀ joined lst i, S joined (lst, i) =
      lst.flatMap (fun v => joined.map (fun sofar => objInsert sofar (dotKey i) v)))
    (lists : List (List JV)) (i : Nat) (joined : List (List (Str × JV)))
    (hinv : ∀ r ∈ joined, r.map (·.1) = (List.range i).map dotKey) :
    (lists.zipIdx i).foldl S joined = crossRows lists i joined := by
  induction lists generalizing i joined with
  | nil => rfl
  | cons lst rest ih =>
    have hstep : S joined (lst, i) = lst.flatMap (fun v => joined.map (fun sofar => sofar ++ [(dotKey i, v)])) := by
      rw [hS]
      apply flatMap_congr_mem
      intro v _
      apply List.map_congr_left
      intro r hr
      exact objInsert_fresh r (dotKey i) v (by rw [hinv r hr]; exact dotKey_not_mem_range i)
    rw [List.zipIdx_cons, List.foldl_cons, hstep, crossRows]
    apply ih
    intro r hr
    obtain ⟨v, _, hr⟩ := List.mem_flatMap.1 hr
    obtain ⟨r0, hr0, rfl⟩ := List.mem_map.1 hr
    rw [List.map_append, hinv r0 hr0, List.range_succ, List.map_append]
    rfl

theorem length_flatMap_const {α β} (f : α → List β) (c : Nat) (l : List α) (h : ∀ x ∈ l, (f x).length = c) :
    (l.flatMap f).length = l.length * c := by
  induction l with
  | nil => simp
  | cons x xs ih =>
    rw [List.flatMap_cons, List.length_append, h x List.mem_cons_self,
      ih (fun y hy => h y (List.mem_cons_of_mem _ hy)), List.length_cons, Nat.succ_mul, Nat.add_comm]

/-- as many rows as the product of the lengths -/
theorem length_crossRows (lists : List (List JV)) (i : Nat) (joined : List (List (Str × JV))) :
    (crossRows lists i joined).length = joined.length * (lists.map List.length).prod := by
  induction lists generalizing i joined with
  | nil => simp [crossRows]
  | cons lst rest ih =>
    rw [crossRows, ih, length_flatMap_const _ joined.length lst (fun _ _ => List.length_map _),
      List.map_cons, List.prod_cons, Nat.mul_comm lst.length, Nat.mul_assoc]

/-- every row has exactly the members `".0"`, `".1"`, …, one per list, in this order -/
theorem crossRows_keys (lists : List (List JV)) (i : Nat) (joined : List (List (Str × JV)))
    (hinv : ∀ r ∈ joined, r.map (·.1) = (List.range i).map dotKey) :
    ∀ r ∈ crossRows lists i joined, r.map (·.1) = (List.range (i + lists.length)).map dotKey := by
  induction lists generalizing i joined with
  | nil => simpa [crossRows] using hinv
  | cons lst rest ih =>
    rw [crossRows, List.length_cons, show i + (rest.length + 1) = (i + 1) + rest.length by omega]
    apply ih
    intro r hr
    obtain ⟨v, _, hr⟩ := List.mem_flatMap.1 hr
    obtain ⟨r0, hr0, rfl⟩ := List.mem_map.1 hr
    rw [List.map_append, hinv r0 hr0, List.range_succ, List.map_append]
    rfl

theorem crossRows_two (la lb : List JV) :
    crossRows [la, lb] 0 [[]] = lb.flatMap (fun y => la.map (fun x => [(".0".toList, x), (".1".toList, y)])) := by
  simp only [crossRows, Nat.zero_add, dotKey_zero, dotKey_one, List.map_cons, List.map_nil, List.nil_append]
  apply flatMap_congr_mem
  intro y _
  rw [List.flatMap_def, List.map_flatten, List.map_map]
  induction la with
  | nil => rfl
  | cons x xs ih => simpa using ih

/-- every row has exactly one member per list, named `".0"`, `".1"`, … in this order -/
theorem cross_row_keys (lists : List (List JV)) :
    ∀ r ∈ crossRows lists 0 [[]], r.map (·.1) = (List.range lists.length).map dotKey := by
  have := crossRows_keys lists 0 [[]] (by simp)
  simpa using this

/-- two lists: a row is in the result exactly when it pairs an item of the first list with one of the second -/
theorem cross_two_mem (la lb : List JV) (r : JV) :
    r ∈ lb.flatMap (fun y => la.map (fun x => JV.obj [(".0".toList, x), (".1".toList, y)])) ↔
      ∃ x ∈ la, ∃ y ∈ lb, r = JV.obj [(".0".toList, x), (".1".toList, y)] := by
  simp only [List.mem_flatMap, List.mem_map]
  constructor
  · rintro ⟨y, hy, x, hx, rfl⟩; exact ⟨x, hx, y, hy, rfl⟩
  · rintro ⟨x, hx, y, hy, rfl⟩; exact ⟨y, hy, x, hx, rfl⟩

/-! ### the loop of `fold` -/

/-- the object the folding function sees: `so_far` (only when the previous run returned a value), `value`, `index` -/
def foldInput (cur : Option JV) (v : JV) (i : Nat) : List (Str × JV) :=
  (match cur with
    | some c => [("so_far".toList, c)]
    | none => []) ++ [("value".toList, v), ("index".toList, .num (.pos i))]

/-- the loop of `fold` over an abstract step function: the accumulator `cur` is threaded through, the index counts up -/
def foldSteps (step : List (Str × JV) → R) : Option JV → Nat → List JV → R
  | cur, _, [] => .ok cur
  | cur, i, v :: vs =>
    match step (foldInput cur v i) with
    | .ok next => foldSteps step next (i + 1) vs
    | .error e => .error e

theorem foldSteps_nil (step : List (Str × JV) → R) (cur : Option JV) (i : Nat) :
    foldSteps step cur i [] = .ok cur := rfl

theorem foldSteps_cons_ok (step : List (Str × JV) → R) (cur next : Option JV) (i : Nat) (v : JV) (vs : List JV)
    (h : step (foldInput cur v i) = .ok next) :
    foldSteps step cur i (v :: vs) = foldSteps step next (i + 1) vs := by
  simp only [foldSteps, h]

theorem foldSteps_cons_error (step : List (Str × JV) → R) (cur : Option JV) (i : Nat) (v : JV) (vs : List JV)
    (e : Abort) (h : step (foldInput cur v i) = .error e) :
    foldSteps step cur i (v :: vs) = .error e := by
  simp only [foldSteps, h]

/-- a step function that returns on the items of the list: the loop is `List.foldl` over the items paired with
their indices -/
theorem foldSteps_foldl (step : List (Str × JV) → R) (g : Option JV → JV → Nat → Option JV) (l : List JV)
    (cur : Option JV) (k : Nat)
    (h : ∀ cur' v i, v ∈ l → step (foldInput cur' v i) = .ok (g cur' v i)) :
    foldSteps step cur k l = .ok ((l.zipIdx k).foldl (fun acc vi => g acc vi.1 vi.2) cur) := by
  induction l generalizing cur k with
  | nil => rfl
  | cons v vs ih =>
    rw [foldSteps_cons_ok step cur _ k v vs (h cur v k List.mem_cons_self),
      ih _ _ (fun c w i hw => h c w i (List.mem_cons_of_mem _ hw))]
    rfl

/-- an abort of the loop is an abort of the step function on one of the items -/
theorem foldSteps_error (step : List (Str × JV) → R) (l : List JV) (cur : Option JV) (k : Nat) (e : Abort)
    (h : foldSteps step cur k l = .error e) :
    ∃ cur' v i, v ∈ l ∧ step (foldInput cur' v i) = .error e := by
  induction l generalizing cur k with
  | nil => simp [foldSteps] at h
  | cons v vs ih =>
    cases hs : step (foldInput cur v k) with
    | error e' =>
      rw [foldSteps_cons_error step cur k v vs e' hs] at h
      exact ⟨cur, v, k, List.mem_cons_self, by rw [hs, h]⟩
    | ok next =>
      rw [foldSteps_cons_ok step cur next k v vs hs] at h
      obtain ⟨c, w, i, hw, hwe⟩ := ih _ _ h
      exact ⟨c, w, i, List.mem_cons_of_mem _ hw, hwe⟩

variable (orc : Oracles) (fuel : Nat) (ctx : Ctx)

theorem foldGo_eq (ev : Ev) (f : Expr) (cur : Option JV) (k : Nat) (l : List JV) :
    callList.foldGo ev ctx f cur k l = foldSteps (fun m => ev f (ctx.withInput (.obj m))) cur k l := by
  induction l generalizing cur k with
  | nil => rfl
  | cons v vs ih =>
    -- the members are inserted under three different names, so they stay in the order of `foldInput`
    have hkeys : "so_far".toList ≠ "value".toList ∧ "so_far".toList ≠ "index".toList ∧
        "value".toList ≠ "index".toList := by decide +kernel
    have hin : callList.foldGo ev ctx f cur k (v :: vs) =
        (ev f (ctx.withInput (.obj (foldInput cur v k))) >>= fun next => callList.foldGo ev ctx f next (k + 1) vs) := by
      cases cur <;>
        simp only [callList.foldGo, objInsert, if_neg hkeys.1, if_neg hkeys.2.1, if_neg hkeys.2.2] <;> rfl
    rw [hin]
    simp only [foldSteps]
    cases ev f (ctx.withInput (.obj (foldInput cur v k))) with
    | error e => rfl
    | ok next => exact ih next (k + 1)

end Jawk.EvalLaws

namespace Jawk.C04
open Jawk EvalLaws

variable (orc : Oracles) (fuel : Nat) (ctx : Ctx)

/-! ## `flat_map`: "activate the second argument on each item, and if that returns a list, add all the items
to a new list" -/

theorem flat_map_arr_ok (a f : Expr) (l : List JV) (rs : List (Option JV))
    (ha : eval orc fuel a ctx = .ok (some (.arr l)))
    (hf : mapM' (fun v => eval orc fuel f (ctx.withInput v)) l = .ok rs) :
    eval orc (fuel + 1) (.call "flat_map" [a, f]) ctx = .ok (some (.arr (rs.flatMap arrItems))) := by
  apply eval_list
  call_simp callList [ha, hf]
  rfl

/-- an abort of the function on an item is the abort of the call -/
theorem flat_map_arr_error (a f : Expr) (l : List JV) (e : Abort)
    (ha : eval orc fuel a ctx = .ok (some (.arr l)))
    (hf : mapM' (fun v => eval orc fuel f (ctx.withInput v)) l = .error e) :
    eval orc (fuel + 1) (.call "flat_map" [a, f]) ctx = .error e := by
  apply eval_list
  call_simp callList [ha, hf]

/-- `flat_map`: the concatenation, in order, of the arrays the function gives on the items; an item on which
the function gives something that is not an array (or nothing) contributes nothing -/
theorem flat_map_arr (a f : Expr) (l : List JV) (g : JV → Option JV)
    (ha : eval orc fuel a ctx = .ok (some (.arr l)))
    (hf : ∀ v ∈ l, eval orc fuel f (ctx.withInput v) = .ok (g v)) :
    eval orc (fuel + 1) (.call "flat_map" [a, f]) ctx = .ok (some (.arr (l.flatMap (fun v => arrItems (g v))))) := by
  rw [flat_map_arr_ok orc fuel ctx a f l _ ha (mapM'_ok _ g l hf), List.flatMap_map]

/-- when the function gives an array on every item: the concatenation `(l.map g).flatten` of those arrays -/
theorem flat_map_arr_total (a f : Expr) (l : List JV) (g : JV → List JV)
    (ha : eval orc fuel a ctx = .ok (some (.arr l)))
    (hf : ∀ v ∈ l, eval orc fuel f (ctx.withInput v) = .ok (some (.arr (g v)))) :
    eval orc (fuel + 1) (.call "flat_map" [a, f]) ctx = .ok (some (.arr (l.map g).flatten)) := by
  rw [flat_map_arr orc fuel ctx a f l (fun v => some (.arr (g v))) ha hf]
  simp only [arrItems, List.flatMap_def]

/-- the size of the result is the sum of the sizes of the arrays -/
theorem size_flat_map_total (a f : Expr) (l : List JV) (g : JV → List JV)
    (ha : eval orc fuel a ctx = .ok (some (.arr l)))
    (hf : ∀ v ∈ l, eval orc fuel f (ctx.withInput v) = .ok (some (.arr (g v)))) :
    eval orc (fuel + 2) (.call "size" [.call "flat_map" [a, f]]) ctx =
      .ok (some (.num (.pos (l.map (fun v => (g v).length)).sum))) := by
  rw [size_arr orc (fuel + 1) ctx _ _ (flat_map_arr_total orc fuel ctx a f l g ha hf), List.length_flatten,
    List.map_map]
  rfl

/-- a function that never gives an array: the empty list (the documentation's `(flat_map [1,2,3,4] (.len))`) -/
theorem flat_map_no_arrays (a f : Expr) (l : List JV) (g : JV → Option JV) (hg : ∀ v ∈ l, isArr (g v) = false)
    (ha : eval orc fuel a ctx = .ok (some (.arr l)))
    (hf : ∀ v ∈ l, eval orc fuel f (ctx.withInput v) = .ok (g v)) :
    eval orc (fuel + 1) (.call "flat_map" [a, f]) ctx = .ok (some (.arr [])) := by
  rw [flat_map_arr orc fuel ctx a f l g ha hf]
  have : l.flatMap (fun v => arrItems (g v)) = [] := by
    rw [List.flatMap_eq_nil_iff]
    exact fun v hv => arrItems_non_array _ (hg v hv)
  rw [this]

/-- whatever the function is: a result is an array, an abort is an abort of the function on one of the items -/
theorem flat_map_arr_result (a f : Expr) (l : List JV) (ha : eval orc fuel a ctx = .ok (some (.arr l))) :
    (∃ rs : List (Option JV), rs.length = l.length ∧
        l.map (fun v => eval orc fuel f (ctx.withInput v)) = rs.map .ok ∧
        eval orc (fuel + 1) (.call "flat_map" [a, f]) ctx = .ok (some (.arr (rs.flatMap arrItems)))) ∨
    (∃ e, eval orc (fuel + 1) (.call "flat_map" [a, f]) ctx = .error e ∧
        ∃ v ∈ l, eval orc fuel f (ctx.withInput v) = .error e) := by
  cases h : mapM' (fun v => eval orc fuel f (ctx.withInput v)) l with
  | error e => exact .inr ⟨e, flat_map_arr_error orc fuel ctx a f l e ha h, mapM'_error _ l e h⟩
  | ok rs =>
    exact .inl ⟨rs, mapM'_length _ l rs h, (mapM'_ok_iff _ l rs).1 h, flat_map_arr_ok orc fuel ctx a f l rs ha h⟩

/-- the first argument is not an array ⇒ nothing -/
theorem flat_map_wrong_type (a f : Expr) (v : Option JV) (hv : isArr v = false) (ha : eval orc fuel a ctx = .ok v) :
    eval orc (fuel + 1) (.call "flat_map" [a, f]) ctx = .ok none := by
  apply eval_list
  call_simp callList [ha]
  rcases v with _ | (_ | _ | _ | _ | _ | _)
  case some.arr => cases hv
  all_goals rfl

/-- `flat_map` with the identity selection flattens a list of lists by one level -/
theorem flat_map_identity (a : Expr) (ls : List (List JV))
    (ha : eval orc (fuel + 1) a ctx = .ok (some (.arr (ls.map JV.arr)))) :
    eval orc (fuel + 2) (.call "flat_map" [a, .extract 0 []]) ctx = .ok (some (.arr ls.flatten)) := by
  rw [flat_map_arr orc (fuel + 1) ctx a _ _ (fun v => some v) ha (fun _ _ => rfl), List.flatMap_map]
  simp only [arrItems, List.flatMap_def, List.map_id']

/-! ## `fold`: "Fold all the items in a list into a new value. … The function will accespt as input an hash with
`value`, `index` and `so_far` keys (if the previous run returned nothing, the `so_far` will be empty)." -/

/-- three arguments: the list, the initial value, the function -/
theorem fold_init_arr (a i f : Expr) (l : List JV) (w : Option JV)
    (ha : eval orc fuel a ctx = .ok (some (.arr l))) (hi : eval orc fuel i ctx = .ok w) :
    eval orc (fuel + 1) (.call "fold" [a, i, f]) ctx =
      foldSteps (fun m => eval orc fuel f (ctx.withInput (.obj m))) w 0 l := by
  apply eval_list
  call_simp callList [ha, hi, foldGo_eq]
  rfl

/-- two arguments: "the initial value will not be set" -/
theorem fold_noinit_arr (a f : Expr) (l : List JV)
    (ha : eval orc fuel a ctx = .ok (some (.arr l))) :
    eval orc (fuel + 1) (.call "fold" [a, f]) ctx =
      foldSteps (fun m => eval orc fuel f (ctx.withInput (.obj m))) none 0 l := by
  apply eval_list
  call_simp callList [ha, foldGo_eq]
  rfl

/-- the empty list gives the initial value (the function is not evaluated) -/
theorem fold_init_nil (a i f : Expr) (w : Option JV)
    (ha : eval orc fuel a ctx = .ok (some (.arr []))) (hi : eval orc fuel i ctx = .ok w) :
    eval orc (fuel + 1) (.call "fold" [a, i, f]) ctx = .ok w := by
  rw [fold_init_arr orc fuel ctx a i f [] w ha hi]; rfl

/-- the empty list without an initial value gives nothing -/
theorem fold_noinit_nil (a f : Expr) (ha : eval orc fuel a ctx = .ok (some (.arr []))) :
    eval orc (fuel + 1) (.call "fold" [a, f]) ctx = .ok none := by
  rw [fold_noinit_arr orc fuel ctx a f [] ha]; rfl

/-- one step: the function is evaluated on `{so_far: init, value: first item, index: 0}`; its result is the
accumulator for the rest of the list, whose indices go on from 1 -/
theorem fold_init_cons (a i f : Expr) (v : JV) (vs : List JV) (w next : Option JV)
    (ha : eval orc fuel a ctx = .ok (some (.arr (v :: vs)))) (hi : eval orc fuel i ctx = .ok w)
    (hstep : eval orc fuel f (ctx.withInput (.obj (foldInput w v 0))) = .ok next) :
    eval orc (fuel + 1) (.call "fold" [a, i, f]) ctx =
      foldSteps (fun m => eval orc fuel f (ctx.withInput (.obj m))) next 1 vs := by
  rw [fold_init_arr orc fuel ctx a i f _ w ha hi, foldSteps_cons_ok _ w next 0 v vs hstep]

theorem fold_noinit_cons (a f : Expr) (v : JV) (vs : List JV) (next : Option JV)
    (ha : eval orc fuel a ctx = .ok (some (.arr (v :: vs))))
    (hstep : eval orc fuel f (ctx.withInput (.obj [("value".toList, v), ("index".toList, .num (.pos 0))])) = .ok next) :
    eval orc (fuel + 1) (.call "fold" [a, f]) ctx =
      foldSteps (fun m => eval orc fuel f (ctx.withInput (.obj m))) next 1 vs := by
  rw [fold_noinit_arr orc fuel ctx a f _ ha, foldSteps_cons_ok _ none next 0 v vs hstep]

/-- a one-item list: the function's value on that item -/
theorem fold_init_singleton (a i f : Expr) (v : JV) (w : Option JV)
    (ha : eval orc fuel a ctx = .ok (some (.arr [v]))) (hi : eval orc fuel i ctx = .ok w) :
    eval orc (fuel + 1) (.call "fold" [a, i, f]) ctx = eval orc fuel f (ctx.withInput (.obj (foldInput w v 0))) := by
  rw [fold_init_arr orc fuel ctx a i f _ w ha hi]
  simp only [foldSteps]
  cases eval orc fuel f (ctx.withInput (.obj (foldInput w v 0))) <;> rfl

/-- a function whose value is `g so_far value index` on the items: the result is the left fold of `g` over the
items paired with their indices, starting from the initial value -/
theorem fold_init_foldl (a i f : Expr) (l : List JV) (w : Option JV) (g : Option JV → JV → Nat → Option JV)
    (ha : eval orc fuel a ctx = .ok (some (.arr l))) (hi : eval orc fuel i ctx = .ok w)
    (hf : ∀ cur v k, v ∈ l → eval orc fuel f (ctx.withInput (.obj (foldInput cur v k))) = .ok (g cur v k)) :
    eval orc (fuel + 1) (.call "fold" [a, i, f]) ctx =
      .ok (l.zipIdx.foldl (fun acc vi => g acc vi.1 vi.2) w) := by
  rw [fold_init_arr orc fuel ctx a i f l w ha hi, foldSteps_foldl _ g l w 0 hf]

theorem fold_noinit_foldl (a f : Expr) (l : List JV) (g : Option JV → JV → Nat → Option JV)
    (ha : eval orc fuel a ctx = .ok (some (.arr l)))
    (hf : ∀ cur v k, v ∈ l → eval orc fuel f (ctx.withInput (.obj (foldInput cur v k))) = .ok (g cur v k)) :
    eval orc (fuel + 1) (.call "fold" [a, f]) ctx =
      .ok (l.zipIdx.foldl (fun acc vi => g acc vi.1 vi.2) none) := by
  rw [fold_noinit_arr orc fuel ctx a f l ha, foldSteps_foldl _ g l none 0 hf]

/-- a function that does not look at the index: `List.foldl` over the items -/
theorem fold_init_foldl_items (a i f : Expr) (l : List JV) (w : Option JV) (g : Option JV → JV → Option JV)
    (ha : eval orc fuel a ctx = .ok (some (.arr l))) (hi : eval orc fuel i ctx = .ok w)
    (hf : ∀ cur v k, v ∈ l → eval orc fuel f (ctx.withInput (.obj (foldInput cur v k))) = .ok (g cur v)) :
    eval orc (fuel + 1) (.call "fold" [a, i, f]) ctx = .ok (l.foldl g w) := by
  rw [fold_init_foldl orc fuel ctx a i f l w (fun c v _ => g c v) ha hi hf]
  rw [foldl_zipIdx_fst]

/-- whatever the function is: `fold` returns, or aborts with an abort of the function on some step -/
theorem fold_init_result (a i f : Expr) (l : List JV) (w : Option JV)
    (ha : eval orc fuel a ctx = .ok (some (.arr l))) (hi : eval orc fuel i ctx = .ok w) :
    (∃ r, eval orc (fuel + 1) (.call "fold" [a, i, f]) ctx = .ok r) ∨
    (∃ e, eval orc (fuel + 1) (.call "fold" [a, i, f]) ctx = .error e ∧
      ∃ cur v k, v ∈ l ∧ eval orc fuel f (ctx.withInput (.obj (foldInput cur v k))) = .error e) := by
  rw [fold_init_arr orc fuel ctx a i f l w ha hi]
  cases h : foldSteps (fun m => eval orc fuel f (ctx.withInput (.obj m))) w 0 l with
  | ok r => exact .inl ⟨r, rfl⟩
  | error e => exact .inr ⟨e, rfl, foldSteps_error _ l w 0 e h⟩

/-- the first argument is not an array ⇒ nothing (both arities) -/
theorem fold_init_wrong_type (a i f : Expr) (v : Option JV) (hv : isArr v = false) (ha : eval orc fuel a ctx = .ok v) :
    eval orc (fuel + 1) (.call "fold" [a, i, f]) ctx = .ok none := by
  apply eval_list
  call_simp callList [ha]
  rcases v with _ | (_ | _ | _ | _ | _ | _)
  case some.arr => cases hv
  all_goals rfl

theorem fold_noinit_wrong_type (a f : Expr) (v : Option JV) (hv : isArr v = false) (ha : eval orc fuel a ctx = .ok v) :
    eval orc (fuel + 1) (.call "fold" [a, f]) ctx = .ok none := by
  apply eval_list
  call_simp callList [ha]
  rcases v with _ | (_ | _ | _ | _ | _ | _)
  case some.arr => cases hv
  all_goals rfl

/-! ## `group_by`: "If the first argument is a list, return list grouped by the second argument." -/

/-- the result when every key evaluation returns: the loop `groupGo` of the model on the items and their keys -/
theorem group_by_arr_ok (a f : Expr) (l : List JV) (rs : List (Option JV))
    (ha : eval orc fuel a ctx = .ok (some (.arr l)))
    (hf : mapM' (fun v => eval orc fuel f (ctx.withInput v)) l = .ok rs) :
    eval orc (fuel + 1) (.call "group_by" [a, f]) ctx =
      .ok ((callList.groupGo [] (l.zip rs)).map (fun groups => JV.obj (groups.map (fun g => (g.1, JV.arr g.2))))) := by
  apply eval_list
  call_simp callList [ha, hf]
  cases callList.groupGo [] (l.zip rs) <;> rfl

theorem group_by_arr_error (a f : Expr) (l : List JV) (e : Abort)
    (ha : eval orc fuel a ctx = .ok (some (.arr l)))
    (hf : mapM' (fun v => eval orc fuel f (ctx.withInput v)) l = .error e) :
    eval orc (fuel + 1) (.call "group_by" [a, f]) ctx = .error e := by
  apply eval_list
  call_simp callList [ha, hf]

/-- `group_by` with a function that gives a string on every item: an object with one member per key, the keys in
the order of their FIRST occurrence (`List.eraseDups`), the value of key `k` the array of exactly the items with
that key, in their original order (`l.filter (key · == k)`) -/
theorem group_by_arr (a f : Expr) (l : List JV) (key : JV → Str)
    (ha : eval orc fuel a ctx = .ok (some (.arr l)))
    (hf : ∀ v ∈ l, eval orc fuel f (ctx.withInput v) = .ok (some (.str (key v)))) :
    eval orc (fuel + 1) (.call "group_by" [a, f]) ctx =
      .ok (some (.obj ((l.map key).eraseDups.map (fun k => (k, JV.arr (l.filter (fun v => key v == k))))))) := by
  rw [group_by_arr_ok orc fuel ctx a f l _ ha (mapM'_ok _ (fun v => some (.str (key v))) l hf)]
  have := groupGo_strs key [] l
  simp only [groupsOf, List.map_nil, List.eraseDups_nil, List.nil_append] at this
  rw [this]
  simp [List.map_map, Function.comp_def]

/-- a key evaluation that is not a string (or nothing) ⇒ nothing -/
theorem group_by_non_string (a f : Expr) (l : List JV) (g : JV → Option JV) (h : ∃ v ∈ l, strArg (g v) = none)
    (ha : eval orc fuel a ctx = .ok (some (.arr l)))
    (hf : ∀ v ∈ l, eval orc fuel f (ctx.withInput v) = .ok (g v)) :
    eval orc (fuel + 1) (.call "group_by" [a, f]) ctx = .ok none := by
  rw [group_by_arr_ok orc fuel ctx a f l _ ha (mapM'_ok _ g l hf), groupGo_non_string g [] l h]
  rfl

/-- the empty list gives the empty object -/
theorem group_by_nil (a f : Expr) (ha : eval orc fuel a ctx = .ok (some (.arr []))) :
    eval orc (fuel + 1) (.call "group_by" [a, f]) ctx = .ok (some (.obj [])) := by
  rw [group_by_arr orc fuel ctx a f [] (fun _ => []) ha (fun _ h => absurd h List.not_mem_nil)]
  rfl

/-- the keys of the result: distinct, exactly the keys of the items, in order of first occurrence -/
theorem group_by_keys (a f : Expr) (l : List JV) (key : JV → Str)
    (ha : eval orc fuel a ctx = .ok (some (.arr l)))
    (hf : ∀ v ∈ l, eval orc fuel f (ctx.withInput v) = .ok (some (.str (key v)))) :
    eval orc (fuel + 2) (.call "keys" [.call "group_by" [a, f]]) ctx =
      .ok (some (.arr ((l.map key).eraseDups.map JV.str))) ∧
    (l.map key).eraseDups.Nodup ∧ (∀ k, k ∈ (l.map key).eraseDups ↔ ∃ v ∈ l, key v = k) := by
  refine ⟨?_, eraseDups_nodup _, ?_⟩
  · rw [keys_obj orc (fuel + 1) ctx _ _ (group_by_arr orc fuel ctx a f l key ha hf), List.map_map]
    rfl
  · intro k
    rw [List.mem_eraseDups, List.mem_map]

/-- looking a key up in the result: the items with that key; a key no item has is absent -/
theorem get_group_by (a f b : Expr) (l : List JV) (key : JV → Str) (k : Str)
    (ha : eval orc fuel a ctx = .ok (some (.arr l)))
    (hf : ∀ v ∈ l, eval orc fuel f (ctx.withInput v) = .ok (some (.str (key v))))
    (hb : eval orc (fuel + 1) b ctx = .ok (some (.str k))) :
    eval orc (fuel + 2) (.call "get" [.call "group_by" [a, f], b]) ctx =
      .ok (if k ∈ l.map key then some (.arr (l.filter (fun v => key v == k))) else none) := by
  rw [get_obj orc (fuel + 1) ctx _ b _ k (group_by_arr orc fuel ctx a f l key ha hf) hb,
    objGet?_map_keys _ (fun k => JV.arr (l.filter (fun v => key v == k))) k]
  simp only [List.mem_eraseDups]

/-- whatever the function is: `group_by` on an array returns an object or nothing, or aborts with an abort of the
function on one of the items -/
theorem group_by_arr_result (a f : Expr) (l : List JV) (ha : eval orc fuel a ctx = .ok (some (.arr l))) :
    eval orc (fuel + 1) (.call "group_by" [a, f]) ctx = .ok none ∨
    (∃ m, eval orc (fuel + 1) (.call "group_by" [a, f]) ctx = .ok (some (.obj m))) ∨
    (∃ e, eval orc (fuel + 1) (.call "group_by" [a, f]) ctx = .error e ∧
        ∃ v ∈ l, eval orc fuel f (ctx.withInput v) = .error e) := by
  cases h : mapM' (fun v => eval orc fuel f (ctx.withInput v)) l with
  | error e => exact .inr (.inr ⟨e, group_by_arr_error orc fuel ctx a f l e ha h, mapM'_error _ l e h⟩)
  | ok rs =>
    rw [group_by_arr_ok orc fuel ctx a f l rs ha h]
    cases callList.groupGo [] (l.zip rs) with
    | none => exact .inl rfl
    | some g => exact .inr (.inl ⟨_, rfl⟩)

theorem group_by_wrong_type (a f : Expr) (v : Option JV) (hv : isArr v = false) (ha : eval orc fuel a ctx = .ok v) :
    eval orc (fuel + 1) (.call "group_by" [a, f]) ctx = .ok none := by
  apply eval_list
  call_simp callList [ha]
  rcases v with _ | (_ | _ | _ | _ | _ | _)
  case some.arr => cases hv
  all_goals rfl

/-! ## `all`: "Check if all the items in a list are true. Will return false if the list is empty." -/

theorem all_arr (a : Expr) (l : List JV) (ha : eval orc fuel a ctx = .ok (some (.arr l))) :
    eval orc (fuel + 1) (.call "all" [a]) ctx =
      .ok (some (.bool (!l.isEmpty && l.all (fun t => isTrue (some t))))) := by
  apply eval_list
  call_simp callList [ha]
  simp only [beq_bool_true]

/-- the empty list: `false` (as documented; not the vacuous `true`) -/
theorem all_nil (a : Expr) (ha : eval orc fuel a ctx = .ok (some (.arr []))) :
    eval orc (fuel + 1) (.call "all" [a]) ctx = .ok (some (.bool false)) := by
  rw [all_arr orc fuel ctx a [] ha]; rfl

/-- a non-empty list of `true`s: `true` -/
theorem all_true (a : Expr) (l : List JV) (hne : l ≠ []) (h : ∀ v ∈ l, v = .bool true)
    (ha : eval orc fuel a ctx = .ok (some (.arr l))) :
    eval orc (fuel + 1) (.call "all" [a]) ctx = .ok (some (.bool true)) := by
  rw [all_arr orc fuel ctx a l ha]
  have h1 : l.isEmpty = false := List.isEmpty_eq_false_iff.2 hne
  have h2 : l.all (fun t => isTrue (some t)) = true := by
    rw [List.all_eq_true]; intro v hv; rw [h v hv]; rfl
  rw [h1, h2]; rfl

/-- an item that is not `true` (`false`, a number, …): `false` -/
theorem all_not_true (a : Expr) (l : List JV) (h : ∃ v ∈ l, v ≠ .bool true)
    (ha : eval orc fuel a ctx = .ok (some (.arr l))) :
    eval orc (fuel + 1) (.call "all" [a]) ctx = .ok (some (.bool false)) := by
  rw [all_arr orc fuel ctx a l ha]
  have h2 : l.all (fun t => isTrue (some t)) = false := by
    rw [List.all_eq_false]
    obtain ⟨v, hv, hne⟩ := h
    exact ⟨v, hv, fun ht => hne ((isTrue_some_iff v).1 ht)⟩
  rw [h2, Bool.and_false]

/-- so: `all` is `true` exactly for a non-empty list all of whose items are `true` -/
theorem all_true_iff (a : Expr) (l : List JV) (ha : eval orc fuel a ctx = .ok (some (.arr l))) :
    eval orc (fuel + 1) (.call "all" [a]) ctx = .ok (some (.bool true)) ↔ (l ≠ [] ∧ ∀ v ∈ l, v = .bool true) := by
  constructor
  · intro h
    by_cases hne : l = []
    · subst hne; rw [all_nil orc fuel ctx a ha] at h; simp at h
    · refine ⟨hne, fun v hv => ?_⟩
      apply Classical.byContradiction
      intro hv'
      rw [all_not_true orc fuel ctx a l ⟨v, hv, hv'⟩ ha] at h
      simp at h
  · rintro ⟨hne, h⟩; exact all_true orc fuel ctx a l hne h ha

theorem all_wrong_type (a : Expr) (v : Option JV) (hv : isArr v = false) (ha : eval orc fuel a ctx = .ok v) :
    eval orc (fuel + 1) (.call "all" [a]) ctx = .ok none := by
  apply eval_list
  call_simp callList [ha]
  rcases v with _ | (_ | _ | _ | _ | _ | _)
  case some.arr => cases hv
  all_goals rfl

/-! ## `any`: "Check if any of item in a list is ture." -/

theorem any_arr (a : Expr) (l : List JV) (ha : eval orc fuel a ctx = .ok (some (.arr l))) :
    eval orc (fuel + 1) (.call "any" [a]) ctx = .ok (some (.bool (l.any (fun t => isTrue (some t))))) := by
  apply eval_list
  call_simp callList [ha]
  simp only [beq_bool_true]

/-- the empty list: `false` -/
theorem any_nil (a : Expr) (ha : eval orc fuel a ctx = .ok (some (.arr []))) :
    eval orc (fuel + 1) (.call "any" [a]) ctx = .ok (some (.bool false)) := by
  rw [any_arr orc fuel ctx a [] ha]; rfl

/-- `any` is `true` exactly when `true` is an item of the list -/
theorem any_true_iff (a : Expr) (l : List JV) (ha : eval orc fuel a ctx = .ok (some (.arr l))) :
    eval orc (fuel + 1) (.call "any" [a]) ctx = .ok (some (.bool true)) ↔ JV.bool true ∈ l := by
  rw [any_arr orc fuel ctx a l ha]
  simp only [Except.ok.injEq, Option.some.injEq, JV.bool.injEq, List.any_eq_true, isTrue_some_iff]
  constructor
  · rintro ⟨v, hv, rfl⟩; exact hv
  · intro h; exact ⟨_, h, rfl⟩

theorem any_false_iff (a : Expr) (l : List JV) (ha : eval orc fuel a ctx = .ok (some (.arr l))) :
    eval orc (fuel + 1) (.call "any" [a]) ctx = .ok (some (.bool false)) ↔ JV.bool true ∉ l := by
  rw [← any_true_iff orc fuel ctx a l ha, any_arr orc fuel ctx a l ha]
  cases l.any (fun t => isTrue (some t)) <;> simp

theorem any_wrong_type (a : Expr) (v : Option JV) (hv : isArr v = false) (ha : eval orc fuel a ctx = .ok v) :
    eval orc (fuel + 1) (.call "any" [a]) ctx = .ok none := by
  apply eval_list
  call_simp callList [ha]
  rcases v with _ | (_ | _ | _ | _ | _ | _)
  case some.arr => cases hv
  all_goals rfl

/-- on a non-empty list `all` implies `any` -/
theorem all_imp_any (a : Expr) (l : List JV) (ha : eval orc fuel a ctx = .ok (some (.arr l)))
    (h : eval orc (fuel + 1) (.call "all" [a]) ctx = .ok (some (.bool true))) :
    eval orc (fuel + 1) (.call "any" [a]) ctx = .ok (some (.bool true)) := by
  obtain ⟨hne, hall⟩ := (all_true_iff orc fuel ctx a l ha).1 h
  rw [any_true_iff orc fuel ctx a l ha]
  cases l with
  | nil => exact absurd rfl hne
  | cons x xs => rw [← hall x List.mem_cons_self]; exact List.mem_cons_self

/-! ## `sum`: "Sum all the items in the list. If list have non numeric items, it will return nuthing." -/

/-- the evaluator's `sum` in terms of the model's loop `sumGo` (`f64` addition from `0.0`, left to right) -/
theorem sum_arr (a : Expr) (l : List JV) (ha : eval orc fuel a ctx = .ok (some (.arr l))) :
    eval orc (fuel + 1) (.call "sum" [a]) ctx = .ok ((callList.sumGo F64.zero l).bind jnumFinite) := by
  apply eval_list
  call_simp callList [ha]

/-- a list of numbers: the left fold of `f64` addition starting from `0.0`, converted back by `From<f64>`;
an overflow to an infinity is nothing -/
theorem sum_nums (a : Expr) (ns : List Num) (ha : eval orc fuel a ctx = .ok (some (.arr (ns.map JV.num)))) :
    eval orc (fuel + 1) (.call "sum" [a]) ctx =
      .ok (jnumFinite (ns.foldl (fun s n => F64.add s n.toF64) F64.zero)) := by
  rw [sum_arr orc fuel ctx a _ ha, sumGo_nums]; rfl

/-- an item that is not a number ⇒ nothing -/
theorem sum_non_number (a : Expr) (l : List JV) (h : ∃ v ∈ l, numArg (some v) = none)
    (ha : eval orc fuel a ctx = .ok (some (.arr l))) :
    eval orc (fuel + 1) (.call "sum" [a]) ctx = .ok none := by
  rw [sum_arr orc fuel ctx a l ha, sumGo_non_number F64.zero l h]; rfl

/-- non-negative integers whose total is below `2^53`: the exact integer sum -/
theorem sum_pos (a : Expr) (ns : List Nat) (h : ns.sum < 2 ^ 53)
    (ha : eval orc fuel a ctx = .ok (some (.arr (ns.map (fun n => JV.num (.pos n)))))) :
    eval orc (fuel + 1) (.call "sum" [a]) ctx = .ok (some (.num (.pos ns.sum))) := by
  have ha' : eval orc fuel a ctx = .ok (some (.arr ((ns.map Num.pos).map JV.num))) := by
    rw [ha, List.map_map]; rfl
  rw [sum_nums orc fuel ctx a _ ha', ← ofNat_zero, numFoldl_add_ofNat ns 0 (by omega), Nat.zero_add,
    jnumFinite_ofNat_exact _ h]

/-- the empty list sums to `0` -/
theorem sum_nil (a : Expr) (ha : eval orc fuel a ctx = .ok (some (.arr []))) :
    eval orc (fuel + 1) (.call "sum" [a]) ctx = .ok (some (.num (.pos 0))) :=
  sum_pos orc fuel ctx a [] (by decide) ha

/-- `(sum [x, y])` is `(+ x y)` -/
theorem sum_pair_eq_add (a b c : Expr) (x y : Num)
    (ha : eval orc fuel a ctx = .ok (some (.arr [.num x, .num y])))
    (hb : eval orc fuel b ctx = .ok (some (.num x))) (hc : eval orc fuel c ctx = .ok (some (.num y))) :
    eval orc (fuel + 1) (.call "sum" [a]) ctx = eval orc (fuel + 1) (.call "+" [b, c]) ctx := by
  rw [sum_nums orc fuel ctx a [x, y] ha, add_nums orc fuel ctx b c x y hb hc]
  rfl

theorem sum_wrong_type (a : Expr) (v : Option JV) (hv : isArr v = false) (ha : eval orc fuel a ctx = .ok v) :
    eval orc (fuel + 1) (.call "sum" [a]) ctx = .ok none := by
  apply eval_list
  call_simp callList [ha]
  rcases v with _ | (_ | _ | _ | _ | _ | _)
  case some.arr => cases hv
  all_goals rfl

/-! ## `indexed`: "each element in the new list is an object with two elements: `index` with the index of the
element in the list, `value` with the element in the original list" -/

theorem indexed_arr (a : Expr) (l : List JV) (ha : eval orc fuel a ctx = .ok (some (.arr l))) :
    eval orc (fuel + 1) (.call "indexed" [a]) ctx =
      .ok (some (.arr (l.zipIdx.map (fun vi => JV.obj [("value".toList, vi.1), ("index".toList, .num (.pos vi.2))])))) := by
  apply eval_list
  call_simp callList [ha]

/-- as many items as the list -/
theorem size_indexed (a : Expr) (l : List JV) (ha : eval orc fuel a ctx = .ok (some (.arr l))) :
    eval orc (fuel + 2) (.call "size" [.call "indexed" [a]]) ctx = .ok (some (.num (.pos l.length))) := by
  rw [size_arr orc (fuel + 1) ctx _ _ (indexed_arr orc fuel ctx a l ha), List.length_map, List.length_zipIdx]

/-- item `i` of the result is `{value: item i, index: i}` -/
theorem get_indexed (a b : Expr) (l : List JV) (i : Nat)
    (ha : eval orc fuel a ctx = .ok (some (.arr l))) (hb : eval orc (fuel + 1) b ctx = .ok (some (.num (.pos i)))) :
    eval orc (fuel + 2) (.call "get" [.call "indexed" [a], b]) ctx =
      .ok (l[i]?.map (fun v => JV.obj [("value".toList, v), ("index".toList, .num (.pos i))])) := by
  rw [get_arr orc (fuel + 1) ctx _ b _ i (indexed_arr orc fuel ctx a l ha) hb, List.getElem?_map,
    List.getElem?_zipIdx, Nat.zero_add]
  cases l[i]? <;> rfl

theorem indexed_wrong_type (a : Expr) (v : Option JV) (hv : isArr v = false) (ha : eval orc fuel a ctx = .ok v) :
    eval orc (fuel + 1) (.call "indexed" [a]) ctx = .ok none := by
  apply eval_list
  call_simp callList [ha]
  rcases v with _ | (_ | _ | _ | _ | _ | _)
  case some.arr => cases hv
  all_goals rfl

/-! ## `range`: "Create a new list with items from 0 to the second argument." -/

theorem range_pos (a : Expr) (n : Nat) (ha : eval orc fuel a ctx = .ok (some (.num (.pos n)))) :
    eval orc (fuel + 1) (.call "range" [a]) ctx =
      .ok (some (.arr ((List.range n).map (fun i => JV.num (.pos i))))) := by
  apply eval_list
  call_simp callList [ha]
  rfl

/-- `n` items -/
theorem size_range (a : Expr) (n : Nat) (ha : eval orc fuel a ctx = .ok (some (.num (.pos n)))) :
    eval orc (fuel + 2) (.call "size" [.call "range" [a]]) ctx = .ok (some (.num (.pos n))) := by
  rw [size_arr orc (fuel + 1) ctx _ _ (range_pos orc fuel ctx a n ha), List.length_map, List.length_range]

/-- item `i` is `i` (for `i < n`; nothing beyond) -/
theorem get_range (a b : Expr) (n i : Nat)
    (ha : eval orc fuel a ctx = .ok (some (.num (.pos n)))) (hb : eval orc (fuel + 1) b ctx = .ok (some (.num (.pos i)))) :
    eval orc (fuel + 2) (.call "get" [.call "range" [a], b]) ctx =
      .ok (if i < n then some (.num (.pos i)) else none) := by
  rw [get_arr orc (fuel + 1) ctx _ b _ i (range_pos orc fuel ctx a n ha) hb, List.getElem?_map]
  by_cases h : i < n
  · rw [List.getElem?_range h, if_pos h]; rfl
  · rw [List.getElem?_eq_none (by simpa using h), if_neg h]; rfl

/-- `(range 0)` is the empty list -/
theorem range_zero (a : Expr) (ha : eval orc fuel a ctx = .ok (some (.num (.pos 0)))) :
    eval orc (fuel + 1) (.call "range" [a]) ctx = .ok (some (.arr [])) := by
  rw [range_pos orc fuel ctx a 0 ha]; rfl

/-- `(range (n+1))` is `(push (range n) n)` -/
theorem range_succ (a : Expr) (n : Nat) (ha : eval orc fuel a ctx = .ok (some (.num (.pos (n + 1))))) :
    eval orc (fuel + 1) (.call "range" [a]) ctx =
      .ok (some (.arr ((List.range n).map (fun i => JV.num (.pos i)) ++ [.num (.pos n)]))) := by
  rw [range_pos orc fuel ctx a (n + 1) ha, List.range_succ, List.map_append]; rfl

/-- "If the second argument is not a positive integer, return nothing": a negative integer, a float, a string,
nothing, … -/
theorem range_bad_count (a : Expr) (w : Option JV) (hw : usizeArg w = none) (ha : eval orc fuel a ctx = .ok w) :
    eval orc (fuel + 1) (.call "range" [a]) ctx = .ok none := by
  apply eval_list
  call_simp callList [ha, hw]

/-- `indexed (range n)`: value and index agree -/
theorem indexed_range (a : Expr) (n : Nat) (ha : eval orc fuel a ctx = .ok (some (.num (.pos n)))) :
    eval orc (fuel + 2) (.call "indexed" [.call "range" [a]]) ctx =
      .ok (some (.arr ((List.range n).map (fun i =>
        JV.obj [("value".toList, .num (.pos i)), ("index".toList, .num (.pos i))])))) := by
  rw [indexed_arr orc (fuel + 1) ctx _ _ (range_pos orc fuel ctx a n ha)]
  congr 3
  apply List.ext_getElem?
  intro i
  simp only [List.getElem?_map, List.getElem?_zipIdx, Nat.zero_add]
  by_cases h : i < n
  · simp only [List.getElem?_range h, Option.map_some]
  · simp only [List.getElem?_eq_none (show (List.range n).length ≤ i by rw [List.length_range]; exact Nat.le_of_not_lt h),
      Option.map_none]

/-! ## `zip`: "Zip a few list into a new list. All the arguments must be lists. The output will be a list of
object, with keys in the format `".i"` where `i` is the index list." -/

/-- any number of lists: as many rows as the longest list has items; row `idx` is `zipRow lists 0 idx` -/
theorem zip_lists (args : List Expr) (lists : List (List JV))
    (hargs : mapM' (fun e => eval orc fuel e ctx) args = .ok (lists.map (fun l => some (JV.arr l)))) :
    eval orc (fuel + 1) (.call "zip" args) ctx =
      .ok (some (.arr ((List.range (lists.foldl (fun m l => max m l.length) 0)).map
        (fun idx => JV.obj (zipRow lists 0 idx))))) := by
  apply eval_list
  rw [callList]
  simp only [hargs, ok_bind]
  rw [filterMap_arr_all _ (fun _ => rfl)]
  simp only [List.length_map, ne_eq, not_true_eq_false, if_false]
  congr 5
  funext idx
  congr 1
  exact objOfList_of_nodup _ (zipRow_keys lists 0 idx).1

theorem zip_non_list (args : List Expr) (vs : List (Option JV)) (h : ∃ v ∈ vs, isArr v = false)
    (hargs : mapM' (fun e => eval orc fuel e ctx) args = .ok vs) :
    eval orc (fuel + 1) (.call "zip" args) ctx = .ok none := by
  apply eval_list
  rw [callList]
  simp only [hargs, ok_bind]
  rw [if_pos]
  apply filterMap_arr_length _ _ vs h
  intro v hv
  rcases v with _ | (_ | _ | _ | _ | _ | _)
  case some.arr => cases hv
  all_goals rfl
theorem mapM'_pair_args (a b : Expr) (x y : Option JV)
    (ha : eval orc fuel a ctx = .ok x) (hb : eval orc fuel b ctx = .ok y) :
    mapM' (fun e => eval orc fuel e ctx) [a, b] = .ok [x, y] :=
  mapM'_cons_ok ha (mapM'_cons_ok hb rfl)

/-- two lists: row `i` has the member `".0"` when the first list has an item `i`, then `".1"` when the second has -/
theorem zip_two (a b : Expr) (la lb : List JV)
    (ha : eval orc fuel a ctx = .ok (some (.arr la))) (hb : eval orc fuel b ctx = .ok (some (.arr lb))) :
    eval orc (fuel + 1) (.call "zip" [a, b]) ctx =
      .ok (some (.arr ((List.range (max la.length lb.length)).map (fun i => JV.obj
        ((la[i]?.map (fun x => (".0".toList, x))).toList ++ (lb[i]?.map (fun y => (".1".toList, y))).toList))))) := by
  rw [zip_lists orc fuel ctx [a, b] [la, lb] (mapM'_pair_args orc fuel ctx a b _ _ ha hb)]
  simp only [List.foldl_cons, List.foldl_nil, Nat.zero_max, zipRow_two]

/-- two lists of the same length: the rows are the pairs, in order (`List.zipWith`) -/
theorem zip_two_same_length (a b : Expr) (la lb : List JV) (hlen : la.length = lb.length)
    (ha : eval orc fuel a ctx = .ok (some (.arr la))) (hb : eval orc fuel b ctx = .ok (some (.arr lb))) :
    eval orc (fuel + 1) (.call "zip" [a, b]) ctx =
      .ok (some (.arr (List.zipWith (fun x y => JV.obj [(".0".toList, x), (".1".toList, y)]) la lb))) := by
  rw [zip_two orc fuel ctx a b la lb ha hb, ← hlen, Nat.max_self]
  congr 3
  apply List.ext_getElem?
  intro i
  rw [List.getElem?_map, List.getElem?_zipWith]
  by_cases h : i < la.length
  · simp only [List.getElem?_range h, Option.map_some, List.getElem?_eq_getElem h,
      List.getElem?_eq_getElem (hlen ▸ h)]
    rfl
  · rw [List.getElem?_eq_none (by rw [List.length_range]; exact Nat.le_of_not_lt h),
      List.getElem?_eq_none (Nat.le_of_not_lt h)]
    rfl

/-- the number of rows is the length of the longest list (0 without lists): every list fits, one attains it -/
theorem size_zip (args : List Expr) (lists : List (List JV))
    (hargs : mapM' (fun e => eval orc fuel e ctx) args = .ok (lists.map (fun l => some (JV.arr l)))) :
    ∃ n, eval orc (fuel + 2) (.call "size" [.call "zip" args]) ctx = .ok (some (.num (.pos n))) ∧
      (∀ l ∈ lists, l.length ≤ n) ∧ (n = 0 ∨ ∃ l ∈ lists, l.length = n) := by
  refine ⟨lists.foldl (fun m l => max m l.length) 0, ?_, (foldl_max_length lists 0).2.1, (foldl_max_length lists 0).2.2⟩
  rw [size_arr orc (fuel + 1) ctx _ _ (zip_lists orc fuel ctx args lists hargs), List.length_map, List.length_range]

/-- row `idx` has the member `".k"` exactly when list `k` has an item `idx`, and the member is that item -/
theorem zip_member (args : List Expr) (lists : List (List JV)) (b c : Expr) (idx k : Nat)
    (hidx : idx < lists.foldl (fun m l => max m l.length) 0)
    (hargs : mapM' (fun e => eval orc fuel e ctx) args = .ok (lists.map (fun l => some (JV.arr l))))
    (hb : eval orc (fuel + 1) b ctx = .ok (some (.num (.pos idx))))
    (hc : eval orc (fuel + 2) c ctx = .ok (some (.str (dotKey k)))) :
    eval orc (fuel + 3) (.call "get" [.call "get" [.call "zip" args, b], c]) ctx =
      .ok ((lists[k]?).bind (fun l => l[idx]?)) := by
  have hrow : eval orc (fuel + 2) (.call "get" [.call "zip" args, b]) ctx = .ok (some (.obj (zipRow lists 0 idx))) := by
    rw [get_arr orc (fuel + 1) ctx _ b _ idx (zip_lists orc fuel ctx args lists hargs) hb, List.getElem?_map,
      List.getElem?_range hidx]
    rfl
  rw [get_obj orc (fuel + 2) ctx _ c _ _ hrow hc]
  have := objGet?_zipRow lists 0 idx k
  rw [Nat.zero_add] at this
  rw [this]

/-! ## `cross`: "Join a few list (i.e. Cartesian product) into a new list. All the arguments must be lists.
The output will be a list of object, with keys in the format ".i"." -/

/-- any number of lists: the rows `crossRows lists 0 [[]]` -/
theorem cross_lists (args : List Expr) (lists : List (List JV))
    (hargs : mapM' (fun e => eval orc fuel e ctx) args = .ok (lists.map (fun l => some (JV.arr l)))) :
    eval orc (fuel + 1) (.call "cross" args) ctx = .ok (some (.arr ((crossRows lists 0 [[]]).map JV.obj))) := by
  apply eval_list
  rw [callList]
  simp only [hargs, ok_bind]
  rw [filterMap_arr_all _ (fun _ => rfl)]
  simp only [List.length_map, ne_eq, not_true_eq_false, if_false]
  rw [cross_foldl _ (fun _ _ _ => rfl) lists 0 [[]] (by simp)]

/-- an argument that is not a list (or is nothing) ⇒ nothing -/
theorem cross_non_list (args : List Expr) (vs : List (Option JV)) (h : ∃ v ∈ vs, isArr v = false)
    (hargs : mapM' (fun e => eval orc fuel e ctx) args = .ok vs) :
    eval orc (fuel + 1) (.call "cross" args) ctx = .ok none := by
  apply eval_list
  rw [callList]
  simp only [hargs, ok_bind]
  rw [if_pos]
  apply filterMap_arr_length _ _ vs h
  intro v hv
  rcases v with _ | (_ | _ | _ | _ | _ | _)
  case some.arr => cases hv
  all_goals rfl

/-- the number of rows is the product of the lengths of the lists -/
theorem size_cross (args : List Expr) (lists : List (List JV))
    (hargs : mapM' (fun e => eval orc fuel e ctx) args = .ok (lists.map (fun l => some (JV.arr l)))) :
    eval orc (fuel + 2) (.call "size" [.call "cross" args]) ctx =
      .ok (some (.num (.pos (lists.map List.length).prod))) := by
  rw [size_arr orc (fuel + 1) ctx _ _ (cross_lists orc fuel ctx args lists hargs), List.length_map,
    length_crossRows, List.length_singleton, Nat.one_mul]

/-- two lists: the rows exactly, and their ORDER — the second list is the outer loop, the first the inner one:
`(cross [x1, x2] [y1, y2])` is `[{x1,y1}, {x2,y1}, {x1,y2}, {x2,y2}]` -/
theorem cross_two (a b : Expr) (la lb : List JV)
    (ha : eval orc fuel a ctx = .ok (some (.arr la))) (hb : eval orc fuel b ctx = .ok (some (.arr lb))) :
    eval orc (fuel + 1) (.call "cross" [a, b]) ctx =
      .ok (some (.arr (lb.flatMap (fun y => la.map (fun x => JV.obj [(".0".toList, x), (".1".toList, y)]))))) := by
  rw [cross_lists orc fuel ctx [a, b] [la, lb] (mapM'_pair_args orc fuel ctx a b _ _ ha hb), crossRows_two,
    List.map_flatMap]
  simp only [List.map_map, Function.comp_def]

/-- two lists: `la.length * lb.length` rows -/
theorem size_cross_two (a b : Expr) (la lb : List JV)
    (ha : eval orc fuel a ctx = .ok (some (.arr la))) (hb : eval orc fuel b ctx = .ok (some (.arr lb))) :
    eval orc (fuel + 2) (.call "size" [.call "cross" [a, b]]) ctx = .ok (some (.num (.pos (la.length * lb.length)))) := by
  rw [size_cross orc fuel ctx [a, b] [la, lb] (mapM'_pair_args orc fuel ctx a b _ _ ha hb)]
  simp [List.prod_cons]

/-- an empty list among the arguments: no rows -/
theorem cross_two_nil_right (a b : Expr) (la : List JV)
    (ha : eval orc fuel a ctx = .ok (some (.arr la))) (hb : eval orc fuel b ctx = .ok (some (.arr []))) :
    eval orc (fuel + 1) (.call "cross" [a, b]) ctx = .ok (some (.arr [])) := by
  rw [cross_two orc fuel ctx a b la [] ha hb]; rfl

/-! ## `sort` ("If the first argument is a list, return list sorted.") and `sort_unique` ("return list sorted
without duplicates") at the level of `eval`; the properties of the sorted list are those of `Jawk/Lemmas/SortFns.lean` -/

theorem sort_arr (a : Expr) (l : List JV) (ha : eval orc fuel a ctx = .ok (some (.arr l))) :
    eval orc (fuel + 1) (.call "sort" [a]) ctx = .ok (some (.arr (stableSortBy JV.cmp l))) := by
  apply eval_list
  call_simp callList [ha]

/-- the result of `sort` is a permutation of the list, ascending in the order of values (`JV.cmp`), and stable:
the items that compare equal to any given value keep their original order -/
theorem sort_arr_spec (a : Expr) (l : List JV) (ha : eval orc fuel a ctx = .ok (some (.arr l))) :
    ∃ r, eval orc (fuel + 1) (.call "sort" [a]) ctx = .ok (some (.arr r)) ∧ r.Perm l ∧
      r.Pairwise (fun x y => JV.cmp x y ≠ .gt) ∧
      ∀ k, r.filter (fun x => JV.cmp x k = .eq) = l.filter (fun x => JV.cmp x k = .eq) :=
  ⟨_, sort_arr orc fuel ctx a l ha, SortFns.sort_perm l, SortFns.stableSortBy_sorted Order.cmp_total_preorder id l,
    SortFns.stableSortBy_stable Order.cmp_total_preorder id l⟩

theorem size_sort (a : Expr) (l : List JV) (ha : eval orc fuel a ctx = .ok (some (.arr l))) :
    eval orc (fuel + 2) (.call "size" [.call "sort" [a]]) ctx = .ok (some (.num (.pos l.length))) := by
  rw [size_arr orc (fuel + 1) ctx _ _ (sort_arr orc fuel ctx a l ha), (SortFns.sort_perm l).length_eq]

theorem sort_wrong_type (a : Expr) (v : Option JV) (hv : isArr v = false) (ha : eval orc fuel a ctx = .ok v) :
    eval orc (fuel + 1) (.call "sort" [a]) ctx = .ok none := by
  apply eval_list
  call_simp callList [ha]
  rcases v with _ | (_ | _ | _ | _ | _ | _)
  case some.arr => cases hv
  all_goals rfl

theorem sort_unique_arr (a : Expr) (l : List JV) (ha : eval orc fuel a ctx = .ok (some (.arr l))) :
    eval orc (fuel + 1) (.call "sort_unique" [a]) ctx = .ok (some (.arr (SortFns.sortUnique l))) := by
  apply eval_list
  call_simp callList [ha]
  rfl

/-- the result of `sort_unique`: a sub-list of the sorted list (so: only items of the list, ascending), no two
neighbours equal (`==`), and every item of the list is in it or equal (`==`) to one that is -/
theorem sort_unique_arr_spec (a : Expr) (l : List JV) (ha : eval orc fuel a ctx = .ok (some (.arr l))) :
    ∃ r, eval orc (fuel + 1) (.call "sort_unique" [a]) ctx = .ok (some (.arr r)) ∧
      r.Sublist (stableSortBy JV.cmp l) ∧ (∀ x ∈ r, x ∈ l) ∧
      r.Pairwise (fun x y => JV.cmp x y ≠ .gt) ∧
      (∀ x ∈ l, x ∈ r ∨ ∃ y ∈ r, JV.beq y x = true) :=
  ⟨_, sort_unique_arr orc fuel ctx a l ha, SortFns.sort_unique_sublist l, SortFns.sort_unique_subset l,
    SortFns.sort_unique_sorted l, SortFns.sort_unique_cover l⟩

theorem sort_unique_wrong_type (a : Expr) (v : Option JV) (hv : isArr v = false) (ha : eval orc fuel a ctx = .ok v) :
    eval orc (fuel + 1) (.call "sort_unique" [a]) ctx = .ok none := by
  apply eval_list
  call_simp callList [ha]
  rcases v with _ | (_ | _ | _ | _ | _ | _)
  case some.arr => cases hv
  all_goals rfl

end Jawk.C04

namespace Jawk.EvalLaws

/-! the laws that DESIGN.md names, also under the helpers' namespace -/

variable (orc : Oracles) (fuel : Nat) (ctx : Ctx)

/-- a function whose value is `g so_far value index` on the items: the result is the left fold of `g` over the
items paired with their indices, starting from the initial value -/
theorem fold_init_foldl (a i f : Expr) (l : List JV) (w : Option JV) (g : Option JV → JV → Nat → Option JV)
    (ha : eval orc fuel a ctx = .ok (some (.arr l))) (hi : eval orc fuel i ctx = .ok w)
    (hf : ∀ cur v k, v ∈ l → eval orc fuel f (ctx.withInput (.obj (foldInput cur v k))) = .ok (g cur v k)) :
    eval orc (fuel + 1) (.call "fold" [a, i, f]) ctx =
      .ok (l.zipIdx.foldl (fun acc vi => g acc vi.1 vi.2) w) :=
  C04.fold_init_foldl orc fuel ctx a i f l w g ha hi hf

theorem fold_noinit_foldl (a f : Expr) (l : List JV) (g : Option JV → JV → Nat → Option JV)
    (ha : eval orc fuel a ctx = .ok (some (.arr l)))
    (hf : ∀ cur v k, v ∈ l → eval orc fuel f (ctx.withInput (.obj (foldInput cur v k))) = .ok (g cur v k)) :
    eval orc (fuel + 1) (.call "fold" [a, f]) ctx =
      .ok (l.zipIdx.foldl (fun acc vi => g acc vi.1 vi.2) none) :=
  C04.fold_noinit_foldl orc fuel ctx a f l g ha hf

/-- `group_by` with a function that gives a string on every item: an object with one member per key, the keys in
the order of their FIRST occurrence (`List.eraseDups`), the value of key `k` the array of exactly the items with
that key, in their original order (`l.filter (key · == k)`) -/
theorem group_by_arr (a f : Expr) (l : List JV) (key : JV → Str)
    (ha : eval orc fuel a ctx = .ok (some (.arr l)))
    (hf : ∀ v ∈ l, eval orc fuel f (ctx.withInput v) = .ok (some (.str (key v)))) :
    eval orc (fuel + 1) (.call "group_by" [a, f]) ctx =
      .ok (some (.obj ((l.map key).eraseDups.map (fun k => (k, JV.arr (l.filter (fun v => key v == k))))))) :=
  C04.group_by_arr orc fuel ctx a f l key ha hf

/-- so: `all` is `true` exactly for a non-empty list all of whose items are `true` -/
theorem all_true_iff (a : Expr) (l : List JV) (ha : eval orc fuel a ctx = .ok (some (.arr l))) :
    eval orc (fuel + 1) (.call "all" [a]) ctx = .ok (some (.bool true)) ↔ (l ≠ [] ∧ ∀ v ∈ l, v = .bool true) :=
  C04.all_true_iff orc fuel ctx a l ha

/-- `any` is `true` exactly when `true` is an item of the list -/
theorem any_true_iff (a : Expr) (l : List JV) (ha : eval orc fuel a ctx = .ok (some (.arr l))) :
    eval orc (fuel + 1) (.call "any" [a]) ctx = .ok (some (.bool true)) ↔ JV.bool true ∈ l :=
  C04.any_true_iff orc fuel ctx a l ha

/-- non-negative integers whose total is below `2^53`: the exact integer sum -/
theorem sum_pos (a : Expr) (ns : List Nat) (h : ns.sum < 2 ^ 53)
    (ha : eval orc fuel a ctx = .ok (some (.arr (ns.map (fun n => JV.num (.pos n)))))) :
    eval orc (fuel + 1) (.call "sum" [a]) ctx = .ok (some (.num (.pos ns.sum))) :=
  C04.sum_pos orc fuel ctx a ns h ha

/-- any number of lists: as many rows as the longest list has items; row `idx` is `zipRow lists 0 idx` -/
theorem zip_lists (args : List Expr) (lists : List (List JV))
    (hargs : mapM' (fun e => eval orc fuel e ctx) args = .ok (lists.map (fun l => some (JV.arr l)))) :
    eval orc (fuel + 1) (.call "zip" args) ctx =
      .ok (some (.arr ((List.range (lists.foldl (fun m l => max m l.length) 0)).map
        (fun idx => JV.obj (zipRow lists 0 idx))))) :=
  C04.zip_lists orc fuel ctx args lists hargs

/-- the number of rows is the length of the longest list (0 without lists): every list fits, one attains it -/
theorem size_zip (args : List Expr) (lists : List (List JV))
    (hargs : mapM' (fun e => eval orc fuel e ctx) args = .ok (lists.map (fun l => some (JV.arr l)))) :
    ∃ n, eval orc (fuel + 2) (.call "size" [.call "zip" args]) ctx = .ok (some (.num (.pos n))) ∧
      (∀ l ∈ lists, l.length ≤ n) ∧ (n = 0 ∨ ∃ l ∈ lists, l.length = n) :=
  C04.size_zip orc fuel ctx args lists hargs

/-- row `idx` has the member `".k"` exactly when list `k` has an item `idx`, and the member is that item -/
theorem zip_member (args : List Expr) (lists : List (List JV)) (b c : Expr) (idx k : Nat)
    (hidx : idx < lists.foldl (fun m l => max m l.length) 0)
    (hargs : mapM' (fun e => eval orc fuel e ctx) args = .ok (lists.map (fun l => some (JV.arr l))))
    (hb : eval orc (fuel + 1) b ctx = .ok (some (.num (.pos idx))))
    (hc : eval orc (fuel + 2) c ctx = .ok (some (.str (dotKey k)))) :
    eval orc (fuel + 3) (.call "get" [.call "get" [.call "zip" args, b], c]) ctx =
      .ok ((lists[k]?).bind (fun l => l[idx]?)) :=
  C04.zip_member orc fuel ctx args lists b c idx k hidx hargs hb hc

/-- any number of lists: the rows `crossRows lists 0 [[]]` -/
theorem cross_lists (args : List Expr) (lists : List (List JV))
    (hargs : mapM' (fun e => eval orc fuel e ctx) args = .ok (lists.map (fun l => some (JV.arr l)))) :
    eval orc (fuel + 1) (.call "cross" args) ctx = .ok (some (.arr ((crossRows lists 0 [[]]).map JV.obj))) :=
  C04.cross_lists orc fuel ctx args lists hargs

/-- the number of rows is the product of the lengths of the lists -/
theorem size_cross (args : List Expr) (lists : List (List JV))
    (hargs : mapM' (fun e => eval orc fuel e ctx) args = .ok (lists.map (fun l => some (JV.arr l)))) :
    eval orc (fuel + 2) (.call "size" [.call "cross" args]) ctx =
      .ok (some (.num (.pos (lists.map List.length).prod))) :=
  C04.size_cross orc fuel ctx args lists hargs

/-- two lists: the rows exactly, and their ORDER — the second list is the outer loop, the first the inner one:
`(cross [x1, x2] [y1, y2])` is `[{x1,y1}, {x2,y1}, {x1,y2}, {x2,y2}]` -/
theorem cross_two (a b : Expr) (la lb : List JV)
    (ha : eval orc fuel a ctx = .ok (some (.arr la))) (hb : eval orc fuel b ctx = .ok (some (.arr lb))) :
    eval orc (fuel + 1) (.call "cross" [a, b]) ctx =
      .ok (some (.arr (lb.flatMap (fun y => la.map (fun x => JV.obj [(".0".toList, x), (".1".toList, y)]))))) :=
  C04.cross_two orc fuel ctx a b la lb ha hb

/-- the result of `sort` is a permutation of the list, ascending in the order of values (`JV.cmp`), and stable:
the items that compare equal to any given value keep their original order -/
theorem sort_arr_spec (a : Expr) (l : List JV) (ha : eval orc fuel a ctx = .ok (some (.arr l))) :
    ∃ r, eval orc (fuel + 1) (.call "sort" [a]) ctx = .ok (some (.arr r)) ∧ r.Perm l ∧
      r.Pairwise (fun x y => JV.cmp x y ≠ .gt) ∧
      ∀ k, r.filter (fun x => JV.cmp x k = .eq) = l.filter (fun x => JV.cmp x k = .eq) :=
  C04.sort_arr_spec orc fuel ctx a l ha

/-- the result of `sort_unique`: a sub-list of the sorted list (so: only items of the list, ascending), no two
neighbours equal (`==`), and every item of the list is in it or equal (`==`) to one that is -/
theorem sort_unique_arr_spec (a : Expr) (l : List JV) (ha : eval orc fuel a ctx = .ok (some (.arr l))) :
    ∃ r, eval orc (fuel + 1) (.call "sort_unique" [a]) ctx = .ok (some (.arr r)) ∧
      r.Sublist (stableSortBy JV.cmp l) ∧ (∀ x ∈ r, x ∈ l) ∧
      r.Pairwise (fun x y => JV.cmp x y ≠ .gt) ∧
      (∀ x ∈ l, x ∈ r ∨ ∃ y ∈ r, JV.beq y x = true) :=
  C04.sort_unique_arr_spec orc fuel ctx a l ha

section Examples
open C04
private def jn (k : Nat) : JV := .num (.pos k)
private def js (x : String) : JV := .str x.toList
private def strOf : JV → Str
  | .str x => x
  | _ => []

/-! `flat_map` -/
example : eval {} 5 (.call "flat_map" [.const (.arr [.arr [.null, .bool true], .bool false, .arr [], .arr [.null]]),
      .extract 0 []]) {} = .ok (some (.arr [.null, .bool true, .null])) := by
  rw [flat_map_arr {} 4 {} _ _ _ (fun v => some v) rfl (fun _ _ => rfl)]
  rfl
example : eval {} 5 (.call "flat_map" [.const (.arr [.arr [.arr [jn 1], .arr []], .arr [.arr [jn 2]]]), .extract 0 []]) {}
    = .ok (some (.arr [.arr [jn 1], .arr [], .arr [jn 2]])) :=
  flat_map_identity {} 3 {} _ [[.arr [jn 1], .arr []], [.arr [jn 2]]] rfl
/-- the documentation's `(flat_map [1, 2, 3, 4] (.len))`: no arrays, the empty list -/
example : eval {} 5 (.call "flat_map" [.const (.arr [jn 1, jn 2, jn 3, jn 4]), .extract 0 [.key "len".toList]]) {}
    = .ok (some (.arr [])) :=
  flat_map_no_arrays {} 4 {} _ _ _ (fun _ => none) (fun _ _ => rfl) rfl
    (by intro v hv; simp at hv; rcases hv with rfl | rfl | rfl | rfl <;> rfl)
example : eval {} 5 (.call "flat_map" [.const (.obj []), .const (.bool true)]) {} = .ok none :=
  flat_map_wrong_type {} 4 {} _ _ (some (.obj [])) rfl rfl
example : eval {} 5 (.call "flat_map" [.const (.arr [.null]), .call "no-such-function" []]) {}
    = .error (.panic "unmodelled-function:no-such-function") :=
  flat_map_arr_error {} 4 {} _ _ [.null] _ rfl (mapM'_cons_error (eval_no_such_function ..))

/-! `fold` -/
/-- `(fold [null, true] false .value)`: the last item -/
example : eval {} 5 (.call "fold" [.const (.arr [.null, .bool true]), .const (.bool false),
      .extract 0 [.key "value".toList]]) {} = .ok (some (.bool true)) := by
  rw [fold_init_foldl_items {} 4 {} _ _ _ [.null, .bool true] (some (.bool false)) (fun _ v => some v) rfl rfl
    (by intro cur v k _; cases cur <;> rfl)]
  rfl
/-- `(fold [null, true] .index)` (no initial value): the last index -/
example : eval {} 5 (.call "fold" [.const (.arr [.null, .bool true]), .extract 0 [.key "index".toList]]) {}
    = .ok (some (jn 1)) := by
  rw [fold_noinit_foldl {} 4 {} _ _ [.null, .bool true] (fun _ _ k => some (jn k)) rfl
    (by intro cur v k _; cases cur <;> rfl)]
  rfl
/-- `so_far` is absent in the first round when there is no initial value, present afterwards -/
example : eval {} 5 (.call "fold" [.const (.arr [js "x", js "y"]), .extract 0 [.key "so_far".toList]]) {} = .ok none := by
  rw [fold_noinit_foldl {} 4 {} _ _ [js "x", js "y"] (fun cur _ _ => cur) rfl (by intro cur v k _; cases cur <;> rfl)]
  rfl
example : eval {} 5 (.call "fold" [.const (.arr []), .const (jn 7), .call "no-such-function" []]) {} = .ok (some (jn 7)) :=
  fold_init_nil {} 4 {} _ _ _ _ rfl rfl
example : eval {} 5 (.call "fold" [.const (.arr []), .call "no-such-function" []]) {} = .ok none :=
  fold_noinit_nil {} 4 {} _ _ rfl
example : eval {} 5 (.call "fold" [.const (.arr [js "x"]), .const (jn 7), .extract 0 [.key "so_far".toList]]) {}
    = .ok (some (jn 7)) := by
  rw [fold_init_singleton {} 4 {} _ _ _ (js "x") (some (jn 7)) rfl rfl]; rfl
example : eval {} 5 (.call "fold" [.const (.obj []), .const (jn 1), .const (jn 2)]) {} = .ok none :=
  fold_init_wrong_type {} 4 {} _ _ _ (some (.obj [])) rfl rfl
example : eval {} 5 (.call "fold" [.var "unset".toList, .const (jn 2)]) {} = .ok none :=
  fold_noinit_wrong_type {} 4 {} _ _ none rfl rfl

/-! `group_by` -/
/-- keys in order of first occurrence, items in original order: `(group_by ["b", "a", "b"] .)` -/
example : eval {} 5 (.call "group_by" [.const (.arr [js "b", js "a", js "b"]), .extract 0 []]) {}
    = .ok (some (.obj [("b".toList, .arr [js "b", js "b"]), ("a".toList, .arr [js "a"])])) := by
  rw [group_by_arr {} 4 {} _ _ [js "b", js "a", js "b"] strOf rfl
    (by intro v hv; simp at hv; rcases hv with rfl | rfl | rfl <;> rfl)]
  rfl
/-- the documentation's `(group_by [...] (len .))`-style case: a key that is not a string gives nothing -/
example : eval {} 5 (.call "group_by" [.const (.arr [js "b", jn 1]), .extract 0 []]) {} = .ok none :=
  group_by_non_string {} 4 {} _ _ [js "b", jn 1] (fun v => some v) ⟨jn 1, by simp, rfl⟩ rfl (fun _ _ => rfl)
example : eval {} 5 (.call "group_by" [.const (jn 344), .extract 0 []]) {} = .ok none :=
  group_by_wrong_type {} 4 {} _ _ (some (jn 344)) rfl rfl
example : eval {} 5 (.call "get" [.call "group_by" [.const (.arr [js "b", js "a", js "b"]), .extract 0 []],
      .const (js "b")]) {} = .ok (some (.arr [js "b", js "b"])) := by
  rw [get_group_by {} 3 {} _ _ _ [js "b", js "a", js "b"] strOf "b".toList rfl
    (by intro v hv; simp at hv; rcases hv with rfl | rfl | rfl <;> rfl) rfl]
  rfl

/-! `all`, `any` -/
example : eval {} 5 (.call "all" [.const (.arr [.bool true, .bool true])]) {} = .ok (some (.bool true)) :=
  all_true {} 4 {} _ [.bool true, .bool true] (by simp) (by intro v hv; simp at hv; rcases hv with rfl | rfl <;> rfl) rfl
example : eval {} 5 (.call "all" [.const (.arr [.bool true, jn 1, .bool true])]) {} = .ok (some (.bool false)) :=
  all_not_true {} 4 {} _ [.bool true, jn 1, .bool true] ⟨jn 1, by simp, by simp [jn]⟩ rfl
example : eval {} 5 (.call "all" [.const (.arr [])]) {} = .ok (some (.bool false)) := all_nil {} 4 {} _ rfl
example : eval {} 5 (.call "all" [.const (.obj [])]) {} = .ok none := all_wrong_type {} 4 {} _ (some (.obj [])) rfl rfl
example : eval {} 5 (.call "any" [.const (.arr [jn 1, jn 2, .bool true, .bool false, jn 4])]) {} = .ok (some (.bool true)) :=
  (any_true_iff {} 4 {} _ [jn 1, jn 2, .bool true, .bool false, jn 4] rfl).2 (by simp)
example : eval {} 5 (.call "any" [.const (.arr [jn 1, .bool false])]) {} = .ok (some (.bool false)) :=
  (any_false_iff {} 4 {} _ [jn 1, .bool false] rfl).2 (by simp [jn])
example : eval {} 5 (.call "any" [.const (.arr [])]) {} = .ok (some (.bool false)) := any_nil {} 4 {} _ rfl
example : eval {} 5 (.call "any" [.const (.obj [])]) {} = .ok none := any_wrong_type {} 4 {} _ (some (.obj [])) rfl rfl

/-! `sum` -/
example : eval {} 5 (.call "sum" [.const (.arr [jn 1, jn 5, jn 100])]) {} = .ok (some (jn 106)) :=
  sum_pos {} 4 {} _ [1, 5, 100] (by decide) rfl
example : eval {} 5 (.call "sum" [.const (.arr [])]) {} = .ok (some (jn 0)) := sum_nil {} 4 {} _ rfl
example : eval {} 5 (.call "sum" [.const (.arr [jn 1, jn 5, js "text"])]) {} = .ok none :=
  sum_non_number {} 4 {} _ [jn 1, jn 5, js "text"] ⟨js "text", by simp, rfl⟩ rfl
example : eval {} 5 (.call "sum" [.const (jn 1)]) {} = .ok none := sum_wrong_type {} 4 {} _ (some (jn 1)) rfl rfl

/-! `indexed`, `range` -/
example : eval {} 5 (.call "indexed" [.const (.arr [.bool false, .null])]) {}
    = .ok (some (.arr [.obj [("value".toList, .bool false), ("index".toList, jn 0)],
        .obj [("value".toList, .null), ("index".toList, jn 1)]])) :=
  indexed_arr {} 4 {} _ [.bool false, .null] rfl
example : eval {} 5 (.call "indexed" [.const (.obj [])]) {} = .ok none :=
  indexed_wrong_type {} 4 {} _ (some (.obj [])) rfl rfl
example : eval {} 5 (.call "range" [.const (jn 4)]) {} = .ok (some (.arr [jn 0, jn 1, jn 2, jn 3])) :=
  range_pos {} 4 {} _ 4 rfl
example : eval {} 5 (.call "range" [.const (.num (.neg (-4)))]) {} = .ok none :=
  range_bad_count {} 4 {} _ (some (.num (.neg (-4)))) rfl rfl
example : eval {} 5 (.call "range" [.const (.arr [jn 1])]) {} = .ok none :=
  range_bad_count {} 4 {} _ (some (.arr [jn 1])) rfl rfl
example : eval {} 5 (.call "get" [.call "range" [.const (jn 4)], .const (jn 3)]) {} = .ok (some (jn 3)) :=
  get_range {} 3 {} _ _ 4 3 rfl rfl
example : eval {} 5 (.call "size" [.call "range" [.const (jn 1000)]]) {} = .ok (some (jn 1000)) :=
  size_range {} 3 {} _ 1000 rfl

/-! `zip`, `cross` -/
example : eval {} 5 (.call "zip" [.const (.arr [js "one", js "two"]), .const (.arr [jn 1, jn 2])]) {}
    = .ok (some (.arr [.obj [(".0".toList, js "one"), (".1".toList, jn 1)],
        .obj [(".0".toList, js "two"), (".1".toList, jn 2)]])) :=
  zip_two_same_length {} 4 {} _ _ [js "one", js "two"] [jn 1, jn 2] rfl rfl rfl
/-- a shorter list: its member is missing from the later rows -/
example : eval {} 5 (.call "zip" [.const (.arr [js "one", js "two"]), .const (.arr [jn 1])]) {}
    = .ok (some (.arr [.obj [(".0".toList, js "one"), (".1".toList, jn 1)], .obj [(".0".toList, js "two")]])) :=
  zip_two {} 4 {} _ _ [js "one", js "two"] [jn 1] rfl rfl
/-- three lists (the documentation's second example, shortened) -/
example : eval {} 5 (.call "zip" [.const (.arr [js "one", js "two"]), .const (.arr [jn 1, jn 2]), .const (.arr [.bool false])]) {}
    = .ok (some (.arr [.obj [(".0".toList, js "one"), (".1".toList, jn 1), (".2".toList, .bool false)],
        .obj [(".0".toList, js "two"), (".1".toList, jn 2)]])) := by
  rw [zip_lists {} 4 {} _ [[js "one", js "two"], [jn 1, jn 2], [.bool false]] rfl]
  rfl
example : eval {} 5 (.call "zip" [.const (.arr [js "one"]), .const (.arr [jn 1]), .const (jn 6)]) {} = .ok none :=
  zip_non_list {} 4 {} _ [some (.arr [js "one"]), some (.arr [jn 1]), some (jn 6)] ⟨some (jn 6), by simp, rfl⟩ rfl
/-- the order of the rows of `cross`: the first list varies fastest -/
example : eval {} 5 (.call "cross" [.const (.arr [js "one", js "two"]), .const (.arr [jn 1, jn 2])]) {}
    = .ok (some (.arr [.obj [(".0".toList, js "one"), (".1".toList, jn 1)],
        .obj [(".0".toList, js "two"), (".1".toList, jn 1)],
        .obj [(".0".toList, js "one"), (".1".toList, jn 2)],
        .obj [(".0".toList, js "two"), (".1".toList, jn 2)]])) :=
  cross_two {} 4 {} _ _ [js "one", js "two"] [jn 1, jn 2] rfl rfl
example : eval {} 5 (.call "size" [.call "cross" [.const (.arr [js "one", js "two"]), .const (.arr [jn 1, jn 2, jn 3]),
      .const (.arr [.bool true, .bool false])]]) {} = .ok (some (jn 12)) :=
  size_cross {} 3 {} _ [[js "one", js "two"], [jn 1, jn 2, jn 3], [.bool true, .bool false]] rfl
example : eval {} 5 (.call "cross" [.const (.arr [js "one"]), .const (.arr [jn 1]), .const (jn 6)]) {} = .ok none :=
  cross_non_list {} 4 {} _ [some (.arr [js "one"]), some (.arr [jn 1]), some (jn 6)] ⟨some (jn 6), by simp, rfl⟩ rfl
example : objGet? (zipRow [[js "a"], [], [js "c"]] 0 0) (dotKey 2) = some (js "c") := by
  rw [← Nat.zero_add 2, objGet?_zipRow]; rfl

/-! `sort`, `sort_unique` -/
example : eval {} 5 (.call "sort" [.const (jn 344)]) {} = .ok none := sort_wrong_type {} 4 {} _ (some (jn 344)) rfl rfl
example : ∃ r, eval {} 5 (.call "sort" [.const (.arr [jn 2, jn 1])]) {} = .ok (some (.arr r)) ∧ r.Perm [jn 2, jn 1] :=
  let ⟨r, h, hp, _⟩ := sort_arr_spec {} 4 {} _ [jn 2, jn 1] rfl
  ⟨r, h, hp⟩
example : eval {} 5 (.call "sort_unique" [.const (jn 344)]) {} = .ok none :=
  sort_unique_wrong_type {} 4 {} _ (some (jn 344)) rfl rfl
end Examples


end Jawk.EvalLaws
