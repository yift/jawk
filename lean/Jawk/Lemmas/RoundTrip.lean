/-
  Round trip printer → parser (properties C01, C02): `nextValue` reads back exactly what
  `printJson` wrote, in all three styles and both string modes.  The printed text is a conforming text
  (`PrintSer`) and the parser reads every conforming text as its value (`ParseSer`); the statements about
  printed texts here are the instances.
-/
import Jawk.Lemmas.PrintSer
namespace Jawk.RT
open Jawk Reader

/-! ### Printed texts are conforming texts: the parser walk is that of `ParseSer` -/

/-- `nextValue` reads the text of `v` printed at nesting depth `ind`, after any white space `ws`,
and leaves the reader ready for `rest` -/
def ValueSpec (o : JsonOpts) (ind : Nat) (v : JV) : Prop :=
  Printable o v → ∀ (ws : List Byte), (∀ b ∈ ws, isWs b = true) → ∀ (rest : List Byte), Delim v rest →
    ∀ (r : Reader), Ready r (ws ++ (utf8 (printJsonAt o ind v) ++ rest)) →
    ∀ (fuel : Nat), 2 * (ws.length + (utf8 (printJsonAt o ind v)).length) + 2 ≤ fuel →
    ∃ r', nextValue fuel r = (.ok (some (norm v)), r') ∧ Ready r' rest

theorem Delim.norm {v : JV} {rest : List Byte} (h : Delim v rest) : Delim (norm v) rest := by
  cases v <;> rw [RT.norm] <;> exact h

/-- the printed text is a conforming text of `norm v` (`PrintSer.value_ser`), and every conforming text is
read as its value (`Ser.vspec_of_ser`) -/
theorem value_spec (o : JsonOpts) (ind : Nat) (v : JV) : ValueSpec o ind v :=
  fun hv ws hws rest hd =>
    Ser.vspec_of_ser (PrintSer.value_ser o ind v hv) ws hws rest hd.norm

/-- numbers: `read_number` reads back what `printNum` wrote -/
theorem readNumber_printNum (n : Num) (hn : NumPrintable n) (rest : List Byte) (hd : NumDelim rest)
    (r : Reader) (hr : Ready r (utf8 (printNum n) ++ rest))
    (fuel : Nat) (hf : (utf8 (printNum n)).length < fuel) :
    ∃ r', readNumber fuel r = (.ok (.num (normNum n)), r') ∧ Peeked r' rest :=
  Ser.readNumber_ser (PrintSer.printNum_ser n hn) rest hd r hr fuel hf

/-- strings: `read_string` (the opening quote is the current byte) reads back what `print_string` wrote,
and leaves the reader ready for what follows the closing quote -/
theorem readString_print (o : JsonOpts) (s : Str) (hs : StrOK o s) (rest : List Byte) (r : Reader)
    (b : Byte) (hr : At r b (strBody o s ++ 34 :: rest)) (fuel : Nat) (hf : (strBody o s).length < fuel) :
    ∃ r', readStringLoop fuel [] r = (.ok s, r') ∧ Ready r' rest :=
  Ser.readString_strBody (PrintSer.strBody_ser o s hs) rest r b hr fuel hf

/-- `readArrayLoop` reads the elements `vs` (the indentation of the first one already skipped, possibly
other white space `ws0` pending), up to and including the closing bracket -/
def ElemsSpec (o : JsonOpts) (ind : Nat) (vs : List JV) : Prop :=
  vs ≠ [] → PrintableList o vs →
    ∀ (ws0 : List Byte), (∀ b ∈ ws0, isWs b = true) → ∀ (tailWs : List Byte), (∀ b ∈ tailWs, isWs b = true) →
    ∀ (rest : List Byte) (acc : List JV) (r : Reader),
    Ready r (ws0 ++ (utf8 (elemsTail o ind vs) ++ (tailWs ++ 93 :: rest))) →
    ∀ (fuel : Nat), 2 * (ws0.length + (utf8 (elemsTail o ind vs)).length + tailWs.length) + 3 ≤ fuel →
    ∃ r', readArrayLoop fuel acc r = (.ok (.arr (acc ++ normList vs)), r') ∧ Ready r' rest

/-- `readObjectLoop` reads the members `kvs` (indentation of the first one already skipped), up to and
including the closing brace, inserting them into `acc` -/
def MembersSpec (o : JsonOpts) (ind : Nat) (kvs : List (Str × JV)) : Prop :=
  kvs ≠ [] → PrintableMembers o kvs →
    ∀ (ws0 : List Byte), (∀ b ∈ ws0, isWs b = true) → ∀ (tailWs : List Byte), (∀ b ∈ tailWs, isWs b = true) →
    ∀ (rest : List Byte) (acc : List (Str × JV)) (r : Reader),
    Ready r (ws0 ++ (utf8 (membersTail o ind kvs) ++ (tailWs ++ 125 :: rest))) →
    ∀ (fuel : Nat), 2 * (ws0.length + (utf8 (membersTail o ind kvs)).length + tailWs.length) + 3 ≤ fuel →
    ∃ r', readObjectLoop fuel acc r = (.ok (.obj (insertAll acc (normMembers kvs))), r') ∧ Ready r' rest

theorem elems_spec (o : JsonOpts) : ∀ (ind : Nat) (vs : List JV), ElemsSpec o ind vs :=
  fun ind vs hne hp ws0 hws0 tailWs htail rest acc r hr fuel hf =>
    Ser.espec_of_elems (PrintSer.elems_ser o ind vs hne hp tailWs (PrintSer.ws_of_isWs htail))
      ws0 hws0 rest acc r (by rw [List.append_assoc]; exact hr) fuel
      (by rw [List.length_append]; omega)

theorem members_spec (o : JsonOpts) : ∀ (ind : Nat) (kvs : List (Str × JV)), MembersSpec o ind kvs :=
  fun ind kvs hne hp ws0 hws0 tailWs htail rest acc r hr fuel hf =>
    Ser.mspec_of_members (PrintSer.members_ser o ind kvs hne hp tailWs (PrintSer.ws_of_isWs htail))
      ws0 hws0 rest acc r (by rw [List.append_assoc]; exact hr) fuel
      (by rw [List.length_append]; omega)

/-- the fuel that suffices to read back `v` printed with options `o` -/
def fuelBound (o : JsonOpts) (v : JV) : Nat := 2 * (utf8 (printJson o v)).length + 2

/-- The parser reads back exactly what the printer wrote (all three styles, both string
modes): positioned before the printed text of a printable `v` followed by any `rest` that does not
extend a number, `nextValue` returns `norm v` and leaves the reader before `rest`. -/
theorem parse_print_ready (o : JsonOpts) (v : JV) (hv : Printable o v) (rest : List Byte)
    (hd : Delim v rest) (r : Reader) (hr : Ready r (utf8 (printJson o v) ++ rest))
    (fuel : Nat) (hf : fuelBound o v ≤ fuel) :
    ∃ r', nextValue fuel r = (.ok (some (norm v)), r') ∧ Ready r' rest :=
  value_spec o 0 v hv [] (by simp) rest hd r (by simpa [printJson] using hr) fuel
    (by simpa [fuelBound, printJson] using hf)

/-- the same with leading white space (e.g. a row separator) -/
theorem parse_print_ws (o : JsonOpts) (v : JV) (hv : Printable o v) (ws : List Byte)
    (hws : ∀ b ∈ ws, isWs b = true) (rest : List Byte)
    (hd : Delim v rest) (r : Reader) (hr : Ready r (ws ++ (utf8 (printJson o v) ++ rest)))
    (fuel : Nat) (hf : 2 * ws.length + fuelBound o v ≤ fuel) :
    ∃ r', nextValue fuel r = (.ok (some (norm v)), r') ∧ Ready r' rest :=
  value_spec o 0 v hv ws hws rest hd r hr fuel
    (by simp only [fuelBound, printJson] at hf; omega)

/-- the same for a reader on clean input that is not at the end of input -/
theorem parse_print (o : JsonOpts) (v : JV) (hv : Printable o v) (rest : List Byte) (hd : Delim v rest)
    (r : Reader) (hr : r.pending = cleanInput (utf8 (printJson o v) ++ rest)) (hclean : r.eof = false)
    (fuel : Nat) (hf : fuelBound o v ≤ fuel) :
    ∃ r', nextValue fuel r = (.ok (some (norm v)), r') ∧ r'.pending = cleanInput rest ∧
      (r'.eof = false ∨ rest = []) := by
  obtain ⟨r', h1, h2⟩ := parse_print_ready o v hv rest hd r (Ready.of_eof_false hr hclean) fuel hf
  refine ⟨r', h1, h2.1, ?_⟩
  cases h : r'.eof with
  | false => exact Or.inl rfl
  | true => exact Or.inr (h2.2 h)

/-! ### Rows separated by white space -/

/-- the bytes of the rows `vs`, each followed by the separator `sep` -/
def rowsText (o : JsonOpts) (sep : List Byte) : List JV → List Byte
  | [] => []
  | v :: vs => utf8 (printJson o v) ++ (sep ++ rowsText o sep vs)

/-- the fuel of `Reader.nextJson` covers `fuelBound`: one `nextJson` call reads one printed value -/
theorem nextJson_print (o : JsonOpts) (v : JV) (hv : Printable o v) (ws : List Byte)
    (hws : ∀ b ∈ ws, isWs b = true) (rest : List Byte) (hd : Delim v rest) (r : Reader)
    (hr : Ready r (ws ++ (utf8 (printJson o v) ++ rest))) :
    ∃ r', r.nextJson = (.ok (some (norm v)), r') ∧ Ready r' rest := by
  have hl := ready_length hr
  simp only [List.length_append] at hl
  exact parse_print_ws o v hv ws hws rest hd r hr _ (by simp only [fuelBound]; omega)

theorem rows_framed_aux (o : JsonOpts) (sep : List Byte) (hsep : ∀ b ∈ sep, isWs b = true) (hne : sep ≠ [])
    (vs : List JV) (hvs : ∀ v ∈ vs, Printable o v) (ws : List Byte) (hws : ∀ b ∈ ws, isWs b = true)
    (r : Reader) (hr : Ready r (ws ++ rowsText o sep vs)) :
    ∃ r' r'', Reads r (vs.map norm) r' ∧ r'.nextJson = (.ok none, r'') := by
  induction vs generalizing ws r with
  | nil =>
    obtain ⟨r'', h, _⟩ := nextJson_end ws hws r (by simpa [rowsText] using hr)
    exact ⟨r, r'', Reads.nil r, h⟩
  | cons v vs ih =>
    have hd : Delim v (sep ++ rowsText o sep vs) := by
      apply Delim.of_numDelim
      cases sep with
      | nil => exact absurd rfl hne
      | cons s sep => exact numDelim_cons s _ (isWs_numDelim (hsep s (by simp)))
    obtain ⟨r1, h1, hr1⟩ := nextJson_print o v (hvs v (by simp)) ws hws _ hd r hr
    obtain ⟨r', r'', h2, h3⟩ := ih (fun w hw => hvs w (by simp [hw])) sep hsep r1 hr1
    exact ⟨r', r'', Reads.cons h1 h2, h3⟩

/-- Rows printed in any style, each followed by a non-empty white-space separator
(e.g. `"\n"`, `"\r\n"`): successive `Reader.nextJson` calls (with the fuel `nextJson` itself uses)
return the normal forms of the values in order, and then `none`. -/
theorem rows_framed (o : JsonOpts) (sep : List Byte) (hsep : ∀ b ∈ sep, isWs b = true) (hne : sep ≠ [])
    (vs : List JV) (hvs : ∀ v ∈ vs, Printable o v) (name : Option Str) :
    ∃ r' r'', Reads (Reader.ofBytes (rowsText o sep vs) name) (vs.map norm) r' ∧
      r'.nextJson = (.ok none, r'') :=
  rows_framed_aux o sep hsep hne vs hvs [] (by simp) _ (by simpa using ready_ofBytes _ name)

/-! ### The three styles differ in white space outside strings only -/

theorem mem_toDigits (b : Nat) (hb : 1 < b) (n : Nat) :
    ∀ c ∈ Nat.toDigits b n, ∃ d, d < b ∧ c = Nat.digitChar d := by
  induction n using Nat.strongRecOn with
  | _ n ih =>
    intro c hc
    rw [Nat.toDigits_eq_if hb] at hc
    split at hc
    · rename_i h
      simp only [List.mem_cons, List.not_mem_nil, or_false] at hc
      exact ⟨n, h, hc⟩
    · rename_i h
      rcases List.mem_append.1 hc with h1 | h1
      · exact ih (n / b) (Nat.div_lt_self (by omega) hb) c h1
      · simp only [List.mem_cons, List.not_mem_nil, or_false] at h1
        exact ⟨n % b, Nat.mod_lt _ (by omega), h1⟩

def isWsChar (c : Char) : Bool := c = ' ' || c = '\n' || c = '\t' || c = '\r'

/-- remove the white space outside string literals (the flag says whether we are inside one;
inside, a backslash protects the next character) -/
def stripWs : Bool → Str → Str
  | _, [] => []
  | false, c :: cs =>
    if c = '"' then c :: stripWs true cs
    else if isWsChar c then stripWs false cs
    else c :: stripWs false cs
  | true, [c] => [c]
  | true, c :: d :: ds =>
    if c = '\\' then c :: d :: stripWs true ds
    else if c = '"' then c :: stripWs false (d :: ds)
    else c :: stripWs true (d :: ds)

/-- a character that is kept outside strings and does not open one -/
def Plain (c : Char) : Prop := c ≠ '"' ∧ isWsChar c = false

instance (c : Char) : Decidable (Plain c) := by unfold Plain; infer_instance

/-- a character that is kept inside strings and neither closes it nor escapes -/
def InStr (c : Char) : Prop := c ≠ '"' ∧ c ≠ '\\'

theorem strip_plain (t : Str) (h : ∀ c ∈ t, Plain c) (rest : Str) :
    stripWs false (t ++ rest) = t ++ stripWs false rest := by
  induction t with
  | nil => rfl
  | cons c t ih =>
    have hc := h c (by simp)
    simp only [List.cons_append, stripWs, hc.1, hc.2, if_false, Bool.false_eq_true]
    rw [ih (fun d hd => h d (by simp [hd]))]

theorem strip_ws (t : Str) (h : ∀ c ∈ t, isWsChar c = true) (rest : Str) :
    stripWs false (t ++ rest) = stripWs false rest := by
  induction t with
  | nil => rfl
  | cons c t ih =>
    have hc := h c (by simp)
    have hq : c ≠ '"' := by intro e; subst e; simp [isWsChar] at hc
    simp only [List.cons_append, stripWs, hq, hc, if_false, if_true]
    exact ih (fun d hd => h d (by simp [hd]))

theorem strip_instr (t : Str) (h : ∀ c ∈ t, InStr c) (q : Char) (rest : Str) :
    stripWs true (t ++ q :: rest) = t ++ stripWs true (q :: rest) := by
  induction t with
  | nil => rfl
  | cons c t ih =>
    have hc := h c (by simp)
    have ih' := ih (fun d hd => h d (by simp [hd]))
    cases hl : t ++ q :: rest with
    | nil => simp at hl
    | cons d ds =>
      rw [hl] at ih'
      simp only [List.cons_append, hl, stripWs, hc.1, hc.2, if_false]
      rw [ih']

theorem strip_esc (e : Char) (rest : Str) :
    stripWs true ('\\' :: e :: rest) = '\\' :: e :: stripWs true rest := by
  simp [stripWs]

theorem strip_quote (rest : Str) : stripWs true ('"' :: rest) = '"' :: stripWs false rest := by
  cases rest with
  | nil => simp [stripWs]
  | cons d ds => simp [stripWs]

/-- the digits of `Nat.toDigits` are `digitChar`s below the base -/
theorem digitChar_instr : ∀ d, d < 16 → InStr (Nat.digitChar d) := by
  unfold InStr; decide

theorem hex4_instr (n : Nat) : ∀ c ∈ hex4 n, InStr c := by
  intro c hc
  unfold hex4 at hc
  rcases List.mem_append.1 hc with h | h
  · have := (List.mem_replicate.1 h).2
    subst this; exact ⟨by decide, by decide⟩
  · obtain ⟨d, hd, rfl⟩ := mem_toDigits 16 (by decide) n c h
    exact digitChar_instr d hd

theorem strip_printChar (o : JsonOpts) (c : Char) (q : Char) (rest : Str) :
    stripWs true (printChar o c ++ q :: rest) = printChar o c ++ stripWs true (q :: rest) := by
  unfold printChar
  cases hpe : printEscape c with
  | some e => simp only [List.cons_append, List.nil_append, strip_esc]
  | none =>
    simp only []
    split
    · have hne := printEscape_none c hpe
      exact strip_instr [c] (by intro d hd; simp at hd; subst hd; exact hne) q rest
    · simp only [List.cons_append, strip_esc]
      rw [strip_instr _ (hex4_instr c.toNat)]

theorem strip_strBody (o : JsonOpts) (s : Str) (rest : Str) :
    stripWs true (s.flatMap (printChar o) ++ '"' :: rest) =
      s.flatMap (printChar o) ++ '"' :: stripWs false rest := by
  induction s with
  | nil => simp [strip_quote]
  | cons c s ih =>
    simp only [List.flatMap_cons, List.append_assoc]
    cases hl : s.flatMap (printChar o) ++ '"' :: rest with
    | nil => simp at hl
    | cons q rest' =>
      rw [strip_printChar, ← hl, ih]

theorem strip_printString (o : JsonOpts) (s : Str) (rest : Str) :
    stripWs false (printString o s ++ rest) = printString o s ++ stripWs false rest := by
  simp only [printString, List.cons_append, List.append_assoc, stripWs, if_true]
  simp only [List.nil_append]
  rw [strip_strBody]

/-! #### numbers contain neither white space nor quotes -/

def NumCh (c : Char) : Prop := c.isDigit = true ∨ c = '.' ∨ c = '-'

theorem NumCh.plain {c : Char} (h : NumCh c) : Plain c := by
  rcases h with h | rfl | rfl
  · have := isDigit_range c h
    constructor
    · intro e; subst e; simp at this
    · simp only [isWsChar, Bool.or_eq_false_iff, decide_eq_false_iff_not]
      refine ⟨⟨⟨?_, ?_⟩, ?_⟩, ?_⟩ <;> (intro e; subst e; simp at this)
  · exact ⟨by decide, by decide⟩
  · exact ⟨by decide, by decide⟩

theorem toDigits_numCh (n : Nat) : ∀ c ∈ Nat.toDigits 10 n, NumCh c :=
  fun c hc => Or.inl (toDigits_isDigit n c hc)

theorem render_numCh (s : Bool) (d : Nat) (p : Int) : ∀ c ∈ F64.render s d p, NumCh c := by
  intro c hc
  unfold F64.render at hc
  have hz : NumCh '0' := Or.inl (by decide)
  have hbody : ∀ (digits : Nat) (p : Int), ∀ c ∈ (
      if digits = 0 then ['0']
      else if 0 ≤ p then Nat.toDigits 10 digits ++ List.replicate p.toNat '0'
      else
        if (Nat.toDigits 10 digits).length > (-p).toNat then
          (Nat.toDigits 10 digits).take ((Nat.toDigits 10 digits).length - (-p).toNat) ++ ['.'] ++
            (Nat.toDigits 10 digits).drop ((Nat.toDigits 10 digits).length - (-p).toNat)
        else ['0', '.'] ++ List.replicate ((-p).toNat - (Nat.toDigits 10 digits).length) '0' ++
          Nat.toDigits 10 digits : List Char), NumCh c := by
    intro digits p c hc
    split at hc
    · simp at hc; subst hc; exact hz
    · split at hc
      · rcases List.mem_append.1 hc with h | h
        · exact toDigits_numCh _ c h
        · rw [(List.mem_replicate.1 h).2]; exact hz
      · split at hc
        · simp only [List.append_assoc, List.mem_append, List.mem_cons, List.not_mem_nil, or_false] at hc
          rcases hc with h | rfl | h
          · exact toDigits_numCh _ c (List.mem_of_mem_take h)
          · exact Or.inr (Or.inl rfl)
          · exact toDigits_numCh _ c (List.mem_of_mem_drop h)
        · simp only [List.append_assoc, List.mem_append, List.mem_cons, List.not_mem_nil, or_false] at hc
          rcases hc with (rfl | rfl) | h | h
          · exact hz
          · exact Or.inr (Or.inl rfl)
          · rw [(List.mem_replicate.1 h).2]; exact hz
          · exact toDigits_numCh _ c h
  simp only [] at hc
  split at hc
  · simp only [List.mem_cons] at hc
    rcases hc with rfl | h
    · exact Or.inr (Or.inr rfl)
    · exact hbody _ _ c h
  · exact hbody _ _ c hc

theorem toDisplay_plain (f : F64) : ∀ c ∈ F64.toDisplay f, Plain c := by
  intro c hc
  unfold F64.toDisplay F64.toDisplay? at hc
  have hlit : ∀ (l : Str), (∀ x ∈ l, x ≠ '"' ∧ isWsChar x = false) → c ∈ l → Plain c := fun l h hc => h c hc
  cases f with
  | nan => exact hlit _ (by decide) hc
  | inf s => cases s <;> exact hlit _ (by decide) hc
  | fin s m e =>
    simp only [] at hc
    split at hc
    · exact (render_numCh _ _ _ c hc).plain
    · exact hlit _ (by decide) hc

theorem printNum_plain (n : Num) : ∀ c ∈ printNum n, Plain c := by
  intro c hc
  cases n with
  | pos n => exact (toDigits_numCh n c hc).plain
  | flt f => exact toDisplay_plain f c hc
  | neg i =>
    simp only [printNum] at hc
    split at hc
    · simp only [List.mem_cons] at hc
      rcases hc with rfl | h
      · exact ⟨by decide, by decide⟩
      · exact (toDigits_numCh _ c h).plain
    · exact (toDigits_numCh _ c hc).plain

/-- the same options with the `consise` style -/
def consiseOf (o : JsonOpts) : JsonOpts := { o with style := .consise }

theorem indent_wsChar (o : JsonOpts) (ind : Nat) : ∀ c ∈ indentText o ind, isWsChar c = true := by
  unfold indentText
  cases o.style with
  | pretty =>
    intro c hc
    simp only [List.mem_cons, List.mem_flatten, List.mem_replicate] at hc
    rcases hc with rfl | ⟨l, ⟨_, rfl⟩, hc⟩
    · rfl
    · simp only [List.mem_cons, List.not_mem_nil, or_false, or_self] at hc
      subst hc; rfl
  | oneLine => intro c hc; simp at hc
  | consise => intro c hc; simp at hc

theorem strip_indent (o : JsonOpts) (ind : Nat) (rest : Str) :
    stripWs false (indentText o ind ++ rest) = stripWs false rest :=
  strip_ws _ (indent_wsChar o ind) rest

theorem strip_comma (o : JsonOpts) (rest : Str) :
    stripWs false (commaText o ++ rest) = ',' :: stripWs false rest := by
  unfold commaText
  cases o.style <;> simp [stripWs, isWsChar]

theorem strip_colon (o : JsonOpts) (rest : Str) :
    stripWs false (colonText o ++ rest) = ':' :: stripWs false rest := by
  unfold colonText
  cases o.style <;> simp [stripWs, isWsChar]

theorem strip_punct (c : Char) (hc : Plain c) (rest : Str) :
    stripWs false (c :: rest) = c :: stripWs false rest :=
  strip_plain [c] (by intro d hd; simp at hd; subst hd; exact hc) rest

def StripSpec (o : JsonOpts) (ind : Nat) (v : JV) : Prop :=
  ∀ rest, stripWs false (printJsonAt o ind v ++ rest) = printJsonAt (consiseOf o) ind v ++ stripWs false rest

def ElemsStrip (o : JsonOpts) (ind : Nat) (vs : List JV) : Prop :=
  ∀ rest, stripWs false (printElems o ind vs ++ rest) = printElems (consiseOf o) ind vs ++ stripWs false rest

def MembersStrip (o : JsonOpts) (ind : Nat) (kvs : List (Str × JV)) : Prop :=
  ∀ rest, stripWs false (printMembers o ind kvs ++ rest) =
    printMembers (consiseOf o) ind kvs ++ stripWs false rest

theorem printString_consise (o : JsonOpts) (s : Str) : printString (consiseOf o) s = printString o s := rfl

theorem strip_spec_plain (o : JsonOpts) (ind : Nat) (v : JV) (t : Str) (h1 : printJsonAt o ind v = t)
    (h2 : printJsonAt (consiseOf o) ind v = t) (ht : ∀ c ∈ t, Plain c) : StripSpec o ind v := by
  intro rest
  rw [h1, h2, strip_plain t ht]

theorem strip_spec_arr (o : JsonOpts) (ind : Nat) (vs : List JV) (h : ElemsStrip o (ind + 1) vs) :
    StripSpec o ind (.arr vs) := by
  cases vs with
  | nil => exact strip_spec_plain o ind _ ['[', ']'] rfl rfl (by decide)
  | cons v vs =>
    intro rest
    rw [printJsonAt, printJsonAt]
    simp only [List.cons_append, List.append_assoc]
    rw [strip_punct '[' (by decide), h, strip_indent, strip_punct ']' (by decide)]
    rfl

theorem strip_spec_obj (o : JsonOpts) (ind : Nat) (kvs : List (Str × JV)) (h : MembersStrip o (ind + 1) kvs) :
    StripSpec o ind (.obj kvs) := by
  cases kvs with
  | nil => exact strip_spec_plain o ind _ ['{', '}'] rfl rfl (by decide)
  | cons kv kvs =>
    intro rest
    rw [printJsonAt, printJsonAt]
    simp only [List.cons_append, List.append_assoc]
    rw [strip_punct '{' (by decide), h, strip_indent, strip_punct '}' (by decide)]
    rfl

theorem strip_elems_cons (o : JsonOpts) (ind : Nat) (v : JV) (vs : List JV)
    (hv : StripSpec o ind v) (hvs : ElemsStrip o ind vs) : ElemsStrip o ind (v :: vs) := by
  intro rest
  cases vs with
  | nil =>
    rw [printElems, printElems]
    simp only [List.append_assoc]
    rw [strip_indent, hv]
    rfl
  | cons w vs =>
    rw [printElems, printElems]
    simp only [List.append_assoc]
    rw [strip_indent, hv, strip_comma, hvs]
    rfl

theorem strip_members_cons (o : JsonOpts) (ind : Nat) (k : Str) (v : JV) (kvs : List (Str × JV))
    (hv : StripSpec o ind v) (hkvs : MembersStrip o ind kvs) : MembersStrip o ind ((k, v) :: kvs) := by
  intro rest
  cases kvs with
  | nil =>
    rw [printMembers, printMembers]
    simp only [List.append_assoc]
    rw [strip_indent, strip_printString, strip_colon, hv]
    rfl
  | cons kv kvs =>
    rw [printMembers, printMembers]
    simp only [List.append_assoc]
    rw [strip_indent, strip_printString, strip_colon, hv, strip_comma, hkvs]
    rfl

mutual
theorem strip_value (o : JsonOpts) : ∀ (ind : Nat) (v : JV), StripSpec o ind v
  | ind, .null => strip_spec_plain o ind _ "null".toList rfl rfl (by decide)
  | ind, .bool true => strip_spec_plain o ind _ "true".toList rfl rfl (by decide)
  | ind, .bool false => strip_spec_plain o ind _ "false".toList rfl rfl (by decide)
  | ind, .num n => strip_spec_plain o ind _ (printNum n) (by rw [printJsonAt]) (by rw [printJsonAt])
      (printNum_plain n)
  | ind, .str s => fun rest => by
      rw [printJsonAt, printJsonAt, printString_consise, strip_printString]
  | ind, .arr vs => strip_spec_arr o ind vs (strip_elems o (ind + 1) vs)
  | ind, .obj kvs => strip_spec_obj o ind kvs (strip_members o (ind + 1) kvs)
theorem strip_elems (o : JsonOpts) : ∀ (ind : Nat) (vs : List JV), ElemsStrip o ind vs
  | _, [] => fun _ => rfl
  | ind, v :: vs => strip_elems_cons o ind v vs (strip_value o ind v) (strip_elems o ind vs)
theorem strip_members (o : JsonOpts) : ∀ (ind : Nat) (kvs : List (Str × JV)), MembersStrip o ind kvs
  | _, [] => fun _ => rfl
  | ind, (k, v) :: kvs => strip_members_cons o ind k v kvs (strip_value o ind v) (strip_members o ind kvs)
end

/-- For every value (no hypothesis), every style and string mode:
removing the white space outside string literals from the printed text gives the `consise` text. -/
theorem styles_differ_in_ws_only (o : JsonOpts) (v : JV) :
    stripWs false (printJson o v) = printJson { o with style := .consise } v := by
  have := strip_value o 0 v []
  simpa [printJson, consiseOf, stripWs] using this

/-! ### The hypotheses are satisfiable; an end-to-end instance -/

/-- a nested value with every kind of member -/
def sample : JV :=
  .obj [("a".toList, .arr [.num (.pos 1), .num (.neg (-5)), .num (.flt (.fin false (3 * 2 ^ 51) (-52))),
                           .str ['x', '\n', '"', 'é'], .arr [], .null]),
        ("b".toList, .obj []), ("c".toList, .bool true)]

theorem sample_printable (o : JsonOpts) : Printable o sample := by
  have hf := floatRT_one_half
  have hs : ∀ s : Str, (∀ c ∈ s, c.toNat ≤ 0xFFFF) → StrOK o s := fun s h c hc => Or.inl (h c hc)
  refine ⟨⟨hs _ (by decide), ⟨?_, ?_, hf, hs _ (by decide), True.intro, True.intro, True.intro⟩,
    hs _ (by decide), ⟨True.intro, by decide⟩, hs _ (by decide), True.intro, True.intro⟩, by decide⟩
  · show (1 : Nat) < 2 ^ 64; decide
  · show -(2 ^ 63 : Int) ≤ -5 ∧ (-5 : Int) < 2 ^ 64; decide

theorem sample_norm : norm sample = sample := by
  simp [sample, norm, normList, normMembers, normNum]

/-- the sample, pretty-printed, is read back from a fresh reader -/
example : ∃ r', nextValue (fuelBound { style := .pretty } sample)
      (Reader.ofBytes (utf8 (printJson { style := .pretty } sample))) = (.ok (some sample), r') ∧
      Ready r' [] := by
  have := parse_print_ready { style := .pretty } sample (sample_printable _) [] True.intro
    (Reader.ofBytes (utf8 (printJson { style := .pretty } sample)))
    (by simpa using ready_ofBytes _ none) _ (Nat.le_refl _)
  rwa [sample_norm] at this

end Jawk.RT

namespace Jawk.Ser
open Jawk Jawk.RT

/-! ### The same for what the parser produces: `Parsed` instead of `Printable` -/

/-- `parse_print_ready` for every value of the kind the parser produces: about floats `Parsed` asks only that
the digit search succeeds on them, which `Ser.h17` proves. -/
theorem parse_print_parsed (o : JsonOpts) (v : JV) (hv : Parsed o v) (rest : List Byte)
    (hd : Delim v rest) (r : Reader) (hr : Ready r (utf8 (printJson o v) ++ rest))
    (fuel : Nat) (hf : fuelBound o v ≤ fuel) :
    ∃ r', nextValue fuel r = (.ok (some (norm v)), r') ∧ Ready r' rest :=
  parse_print_ready o v (printable_of_parsed o v hv) rest hd r hr fuel hf

/-- What jawk reads from a conforming text, it can print (any style, `utf8Strings`) and read back: the
printed text of `v` is read as `norm v` (`v` itself, except that `-0` is printed `0`).  The argument `h17` is
supplied by `Ser.h17`. -/
theorem print_parse_of_ser (h17 : H17) (o : JsonOpts) (ho : o.utf8Strings = true) {v : JV} {bs : List Byte}
    (h : Ser v bs) (rest : List Byte) (hd : Delim v rest) (r : Reader)
    (hr : Ready r (utf8 (printJson o v) ++ rest)) (fuel : Nat) (hf : fuelBound o v ≤ fuel) :
    ∃ r', nextValue fuel r = (.ok (some (norm v)), r') ∧ Ready r' rest :=
  parse_print_parsed o v (parsed_of_ser h17 o ho h) rest hd r hr fuel hf

end Jawk.Ser
