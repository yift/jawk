/-
  The chain of enclosing inputs (`Context::parent_inputs`, `Context::parent_input(count)`, `with_inupt`):
  what `^`, `^^`, … read at every nesting depth, and that a caret count beyond the chain falls back to the
  current input instead of failing.
-/
import Jawk.Model.Eval
namespace Jawk.Parents
open Jawk

/-- no caret: the input itself -/
theorem parentInput_zero (c : Ctx) : c.parentInput 0 = c.input := by
  simp [Ctx.parentInput]

/-- `k` carets inside the chain: the `k`-th enclosing input, innermost first -/
theorem parentInput_inside (c : Ctx) (k : Nat) (h : k < c.parents.length) :
    c.parentInput (k + 1) = c.parents[k] := by
  simp [Ctx.parentInput, h]

/-- MORE carets than enclosing inputs: the current input (total: no count makes the look-up fail) -/
theorem parentInput_excess (c : Ctx) (count : Nat) (h : c.parents.length < count) :
    c.parentInput count = c.input := by
  unfold Ctx.parentInput
  have h0 : count ≠ 0 := by omega
  have h1 : c.parents.length ≤ count - 1 := by omega
  simp [h0, List.getElem?_eq_none h1]

/-- hence every count reads the input or one of the enclosing inputs -/
theorem parentInput_mem (c : Ctx) (count : Nat) :
    c.parentInput count = c.input ∨ c.parentInput count ∈ c.parents := by
  unfold Ctx.parentInput
  by_cases h0 : count = 0
  · simp [h0]
  · simp only [h0, if_false]
    cases h : c.parents[count - 1]? with
    | none => left; rfl
    | some v => right; simpa using List.mem_of_getElem? h

/-- entering a nested evaluation (`map`, `filter`, a pipe stage, …): one caret is the input that was current, … -/
theorem withInput_one (c : Ctx) (v : JV) : (c.withInput v).parentInput 1 = c.input := by
  simp [Ctx.parentInput, Ctx.withInput]

/-- … and `k + 1` carets inside are what `k` carets were outside, as long as the chain is that long -/
theorem withInput_succ (c : Ctx) (v : JV) (k : Nat) (h : k ≤ c.parents.length) (hk : 0 < k) :
    (c.withInput v).parentInput (k + 1) = c.parentInput k := by
  cases k with
  | zero => omega
  | succ j =>
    have hj : j < c.parents.length := by omega
    simp [Ctx.parentInput, Ctx.withInput, hj]

/-- beyond the chain the fall-back is the NEW current input (not the old one) -/
theorem withInput_excess (c : Ctx) (v : JV) (count : Nat) (h : c.parents.length + 1 < count) :
    (c.withInput v).parentInput count = v := by
  have := parentInput_excess (c.withInput v) count (by simpa [Ctx.withInput] using h)
  simpa [Ctx.withInput] using this

variable (orc : Oracles)

/-- the evaluator on `^…^.path`: never an abort, whatever the number of carets -/
theorem eval_extract (fuel : Nat) (parents : Nat) (steps : List Step) (ctx : Ctx) :
    eval orc (fuel + 1) (.extract parents steps) ctx = .ok (extractSteps steps (ctx.parentInput parents)) := by
  simp only [eval]

theorem eval_extract_excess (fuel : Nat) (parents : Nat) (steps : List Step) (ctx : Ctx)
    (h : ctx.parents.length < parents) :
    eval orc (fuel + 1) (.extract parents steps) ctx = .ok (extractSteps steps ctx.input) := by
  rw [eval_extract, parentInput_excess ctx parents h]

/-- three levels deep: `^` `^^` `^^^` are the three enclosing inputs, `^^^^` and beyond the innermost input again -/
example (c : Ctx) (hc : c.parents = []) (a b d : JV) :
    let n := ((c.withInput a).withInput b).withInput d
    n.parentInput 0 = d ∧ n.parentInput 1 = b ∧ n.parentInput 2 = a ∧ n.parentInput 3 = c.input ∧
    n.parentInput 4 = d ∧ n.parentInput 9 = d := by
  simp [Ctx.parentInput, Ctx.withInput, hc]

end Jawk.Parents
