/-
  Property C01: every conforming serialisation of a JSON value (`Ser v bs`, `Jawk/Spec/Json.lean`) is read
  by `next_json_value` as exactly that value, and a stream of such texts separated by white space is read
  value by value (`stream_fidelity`).  At the end, for C02: every value read from a conforming text is of
  the kind the printer can print and the parser reads back (`value_parsed`, `def H17`, `parsed_of_ser`).
-/
import Jawk.Lemmas.RoundTripBase
import Jawk.Lemmas.FloatBridge
import Jawk.Spec.Json
namespace Jawk.Ser
open Jawk Reader Jawk.RT

/-! ### The character classes of the specification are those of the reader -/

theorem isWs_of_IsWs {b : Byte} (h : IsWs b) : isWs b = true := by
  rcases h with rfl | rfl | rfl | rfl <;> rfl

theorem ws_of_Ws {w : List Byte} (h : Ws w) : ∀ b ∈ w, isWs b = true :=
  fun b hb => isWs_of_IsWs (h b hb)

theorem IsWs_of_isWs {b : Byte} (h : isWs b = true) : IsWs b := by
  simp only [isWs, Bool.or_eq_true, decide_eq_true_eq] at h
  unfold IsWs
  rcases h with ((h | h) | h) | h <;> simp [h]

theorem isDigit_iff (b : Byte) : isDigit b = true ↔ IsDigit b := by
  simp [isDigit, IsDigit]

theorem digits_of_run {ds : List Byte} (h : DigitRun ds) : ∀ b ∈ ds, isDigit b = true :=
  fun b hb => (isDigit_iff b).2 (h.2 b hb)

theorem asciiStr_eq (bs : List Byte) : asciiStr bs = bytesToStr bs := rfl

theorem delim_of_delimited {v : JV} {rest : List Byte} (h : Delimited v rest) : Delim v rest := by
  cases v <;> try exact True.intro
  intro b hb
  obtain ⟨h1, h2⟩ := h b hb
  refine ⟨?_, h2⟩
  cases hd : isDigit b with
  | false => rfl
  | true => exact absurd ((isDigit_iff b).1 hd) h1

theorem delimited_of_delim {v : JV} {rest : List Byte} (h : Delim v rest) : Delimited v rest := by
  cases v <;> try exact True.intro
  intro b hb
  obtain ⟨h1, h2⟩ := h b hb
  exact ⟨fun hd => by rw [(isDigit_iff b).2 hd] at h1; exact Bool.noConfusion h1, h2⟩

/-! ### Strings -/

theorem hexDigit_eq_hexVal (b : Byte) : hexDigit? b = hexVal b := by
  simp only [hexDigit?, hexVal, UInt8.le_iff_toNat_le, Bool.and_eq_true, decide_eq_true_eq]
  split
  · rfl
  · split
    · rename_i h; simp at h; congr 1; omega
    · split
      · rename_i h; simp at h; congr 1; omega
      · rfl

theorem hexDigit_lt {b : Byte} {d : Nat} (h : hexDigit? b = some d) : d < 16 := by
  unfold hexDigit? at h
  split at h
  · rename_i h1
    simp only [Option.some.injEq] at h
    have := h1.2; rw [UInt8.le_iff_toNat_le] at this; simp at this; omega
  · split at h
    · rename_i h1
      simp only [Option.some.injEq] at h
      have := h1.2; rw [UInt8.le_iff_toNat_le] at this; simp at this; omega
    · split at h
      · rename_i h1
        simp only [Option.some.injEq] at h
        have := h1.2; rw [UInt8.le_iff_toNat_le] at this; simp at this; omega
      · cases h

/-- the two-character escapes: what the specification says they denote is what `read_string` appends -/
theorem escapeChar_simple {e : Byte} {c : Char} (h : escapeChar? e = some c) :
    ∃ b, simpleEscape e = some b ∧ String.utf8EncodeChar c = [b] := by
  unfold escapeChar? at h
  iterate 8 (rcases ite_some_cases h with ⟨rfl, rfl⟩ | h; · exact ⟨_, rfl, rfl⟩)
  cases h

theorem charOfNat_valid (n : Nat) (h : n.isValidChar) : charOfNat? n = some (Char.ofNat n) := by
  simp only [charOfNat?, h, dite_true, Option.some.injEq, Char.ofNat, Char.ofNatAux]
  apply Char.ext
  apply UInt32.toNat_inj.1
  simp [UInt32.toNat_ofNat']
  have : n < 1114112 := by
    rcases h with h | h <;> omega
  omega

theorem readHex4_four {h1 h2 h3 h4 : Byte} {d1 d2 d3 d4 : Nat}
    (e1 : hexVal h1 = some d1) (e2 : hexVal h2 = some d2) (e3 : hexVal h3 = some d3) (e4 : hexVal h4 = some d4)
    (tail : List Byte) (r : Reader) (b : Byte) (hr : At r b (h1 :: h2 :: h3 :: h4 :: tail)) :
    ∃ r', readHex4 4 0 r = (.ok (((d1 * 16 + d2) * 16 + d3) * 16 + d4), r') ∧ At r' h4 tail := by
  obtain ⟨r1, n1, hr1⟩ := next_at_cons hr
  obtain ⟨r2, n2, hr2⟩ := next_at_cons hr1
  obtain ⟨r3, n3, hr3⟩ := next_at_cons hr2
  obtain ⟨r4, n4, hr4⟩ := next_at_cons hr3
  refine ⟨r4, ?_, hr4⟩
  rw [readHex4, PM.bind_ok n1]
  simp only [e1]
  rw [readHex4, PM.bind_ok n2]
  simp only [e2]
  rw [readHex4, PM.bind_ok n3]
  simp only [e3]
  rw [readHex4, PM.bind_ok n4]
  simp only [e4]
  simp [readHex4]

/-- the bytes of a raw character are neither quote nor backslash -/
theorem raw_bytes (c : Char) (h1 : c ≠ '"') (h2 : c ≠ '\\') :
    ∀ x ∈ String.utf8EncodeChar c, x ≠ 34 ∧ x ≠ 92 := by
  by_cases hlt : c.toNat < 127
  · have hlt' : c.toNat < 128 := by omega
    rw [utf8EncodeChar_ascii c hlt']
    intro x hx
    simp only [List.mem_cons, List.not_mem_nil, or_false] at hx
    subst hx
    constructor
    · intro hq
      exact h1 (char_eq_of_toNat c 34 (toNat_of_byteOf_eq c hlt' 34 (by decide) hq))
    · intro hq
      exact h2 (char_eq_of_toNat c 92 (toNat_of_byteOf_eq c hlt' 92 (by decide) hq))
  · exact utf8EncodeChar_high c (by omega)

/-- one item is read as the UTF-8 bytes of its character, in at most as many loop turns as it has bytes -/
theorem readStringLoop_item {c : Char} {bs : List Byte} (h : StrItem c bs) (tail : List Byte) :
    ∃ k, k ≤ bs.length ∧
      ∀ (r : Reader) (b : Byte), At r b (bs ++ tail) → ∀ (fuel : Nat) (acc : List Byte),
      ∃ r' b', readStringLoop (fuel + k) acc r = readStringLoop fuel (acc ++ String.utf8EncodeChar c) r' ∧
        At r' b' tail := by
  cases h with
  | raw c h1 h2 _ =>
    refine ⟨_, Nat.le_refl _, ?_⟩
    intro r b hr fuel acc
    exact readStringLoop_raw _ (raw_bytes c h1 h2) tail r b hr fuel acc
  | esc e c he =>
    obtain ⟨x, e2, e3⟩ := escapeChar_simple he
    refine ⟨1, by simp, ?_⟩
    intro r b hr fuel acc
    obtain ⟨r1, hn1, hr1⟩ := next_at_cons (show At r b (92 :: (e :: tail)) from hr)
    obtain ⟨r2, hn2, hr2⟩ := next_at_cons hr1
    refine ⟨r2, _, ?_, hr2⟩
    rw [readStringLoop, PM.bind_ok hn1]
    simp only [show ¬ ((92 : Byte) = 34) by decide, if_false, if_true]
    rw [PM.bind_ok hn2]
    simp only [e2, e3]
  | uni h1 h2 h3 h4 d1 d2 d3 d4 e1 e2 e3 e4 hns =>
    refine ⟨1, by simp, ?_⟩
    intro r b hr fuel acc
    obtain ⟨r1, hn1, hr1⟩ := next_at_cons (show At r b (92 :: (117 :: h1 :: h2 :: h3 :: h4 :: tail)) from hr)
    obtain ⟨r2, hn2, hr2⟩ := next_at_cons hr1
    rw [hexDigit_eq_hexVal] at e1 e2 e3 e4
    obtain ⟨r3, hh, hr3⟩ := readHex4_four e1 e2 e3 e4 tail r2 _ hr2
    have l1 := hexDigit_lt (hexDigit_eq_hexVal h1 ▸ e1)
    have l2 := hexDigit_lt (hexDigit_eq_hexVal h2 ▸ e2)
    have l3 := hexDigit_lt (hexDigit_eq_hexVal h3 ▸ e3)
    have l4 := hexDigit_lt (hexDigit_eq_hexVal h4 ▸ e4)
    have hvalid : (((d1 * 16 + d2) * 16 + d3) * 16 + d4).isValidChar := by
      rcases hns with h | h
      · exact Or.inl h
      · exact Or.inr ⟨h, by omega⟩
    refine ⟨r3, _, ?_, hr3⟩
    rw [readStringLoop, PM.bind_ok hn1]
    simp only [show ¬ ((92 : Byte) = 34) by decide, if_false, if_true]
    rw [PM.bind_ok hn2]
    simp only [show simpleEscape 117 = none by decide, if_true]
    rw [PM.bind_ok hh]
    simp only [charOfNat_valid _ hvalid]

theorem readStringLoop_strBody {s : Str} {body : List Byte} (h : StrBody s body) (tail : List Byte) :
    ∃ k, k ≤ body.length ∧
      ∀ (r : Reader) (b : Byte), At r b (body ++ tail) → ∀ (fuel : Nat) (acc : List Byte),
      ∃ r' b', readStringLoop (fuel + k) acc r = readStringLoop fuel (acc ++ utf8 s) r' ∧
        At r' b' tail := by
  induction h with
  | nil =>
    refine ⟨0, by simp, ?_⟩
    intro r b hr fuel acc
    exact ⟨r, b, by simp [utf8_nil], by simpa using hr⟩
  | @cons c bs s rest hi _ ih =>
    obtain ⟨k2, hk2, h2⟩ := ih
    obtain ⟨k1, hk1, h1⟩ := readStringLoop_item hi (rest ++ tail)
    refine ⟨k2 + k1, by simp; omega, ?_⟩
    intro r b hr fuel acc
    rw [List.append_assoc] at hr
    obtain ⟨r1, b1, e1, hr1⟩ := h1 r b hr (fuel + k2) acc
    obtain ⟨r2, b2, e2, hr2⟩ := h2 r1 b1 hr1 fuel (acc ++ String.utf8EncodeChar c)
    refine ⟨r2, b2, ?_, hr2⟩
    rw [← Nat.add_assoc, e1, e2, utf8_cons, List.append_assoc]

/-- `read_string` (the opening quote is the current byte) reads any conforming string body -/
theorem readString_strBody {s : Str} {body : List Byte} (h : StrBody s body) (rest : List Byte) (r : Reader)
    (b : Byte) (hr : At r b (body ++ 34 :: rest)) (fuel : Nat) (hf : body.length < fuel) :
    ∃ r', readStringLoop fuel [] r = (.ok s, r') ∧ Ready r' rest := by
  obtain ⟨k, hk, h⟩ := readStringLoop_strBody h (34 :: rest)
  obtain ⟨r1, b1, e1, hr1⟩ := h r b hr (fuel - k - 1 + 1) []
  obtain ⟨r2, hn2, hr2⟩ := next_at_cons hr1
  obtain ⟨x, r3, hn3, hr3⟩ := next_at_ready hr2
  refine ⟨r3, ?_, hr3⟩
  rw [show fuel = fuel - k - 1 + 1 + k by omega, e1, readStringLoop, PM.bind_ok hn2]
  simp only [if_true]
  rw [PM.bind_ok hn3]
  simp [utf8Decode_utf8]

/-! ### Numbers -/

theorem expBlock_some (x : ExpPart) (hx : DigitRun x.digits) (rest : List Byte)
    (hrest : ∀ b ∈ rest.head?, isDigit b = false) {r : Reader} (hr : Peeked r (x.bytes ++ rest))
    (fuel : Nat) (hf : x.digits.length < fuel) (chars : List Byte) (double : Bool) :
    ∃ r', expBlock fuel chars double r = (.ok (chars ++ x.norm, true), r') ∧ Peeked r' rest := by
  obtain ⟨up, sg, ds⟩ := x
  simp only [ExpPart.bytes, ExpPart.norm, List.cons_append, List.append_assoc] at hr hx hf ⊢
  have hp := peek_peeked hr
  obtain ⟨r1, hn1, hr1⟩ := next_at
    (show At r (if up = true then 69 else 101) (signBytes sg ++ (ds ++ rest)) from hr)
  have hsign : ∃ r2, expSign (chars ++ [69]) r1 =
      (.ok (chars ++ [69] ++ (if sg = some true then [45] else [])), r2) ∧ Peeked r2 (ds ++ rest) := by
    cases sg with
    | none =>
      refine ⟨r1, ?_, by simpa [signBytes] using hr1⟩
      obtain ⟨d, ds', rfl⟩ := List.exists_cons_of_ne_nil hx.1
      have := isDigit_ne_sign (digits_of_run hx d (by simp))
      rw [expSign_none (tl := d :: (ds' ++ rest)) (by simpa [signBytes] using hr1) (by simp [this.1])
        (by simp [this.2])]
      simp
    | some b =>
      cases b with
      | true =>
        obtain ⟨r2, h2, hr2⟩ := expSign_minus (tl := ds ++ rest) (by simpa [signBytes] using hr1)
          (chars ++ [69])
        exact ⟨r2, by simpa using h2, hr2⟩
      | false =>
        obtain ⟨r2, h2, hr2⟩ := expSign_plus (tl := ds ++ rest) (by simpa [signBytes] using hr1)
          (chars ++ [69])
        exact ⟨r2, by simpa using h2, hr2⟩
  obtain ⟨r2, hs, hr2⟩ := hsign
  obtain ⟨r3, hd, hr3⟩ := readDigits_ready ds (digits_of_run hx) rest hrest r2 hr2.ready fuel hf []
  refine ⟨r3, ?_, hr3⟩
  have hmk : (some (if up = true then (69 : Byte) else 101) = some 101 ∨
      some (if up = true then (69 : Byte) else 101) = some 69) := by cases up <;> simp
  simp only [List.head?_cons] at hp
  rw [expBlock, PM.bind_ok hp, if_pos hmk, PM.bind_ok hn1, PM.bind_ok hs, PM.bind_ok hd]
  simp

/-- the exponent text, as bytes -/
def expBytes : Option ExpPart → List Byte
  | none => []
  | some x => x.bytes

def expNorm : Option ExpPart → List Byte
  | none => []
  | some x => x.norm

theorem NumText.bytes_eq (t : NumText) :
    t.bytes = (if t.neg then [45] else []) ++ (t.int ++ (fracBytes t.frac ++ expBytes t.exp)) := by
  unfold NumText.bytes expBytes
  cases t.exp <;> simp

theorem NumText.norm_eq (t : NumText) :
    t.norm = (if t.neg then [45] else []) ++ t.int ++ fracBytes t.frac ++ expNorm t.exp := by
  unfold NumText.norm expNorm
  cases t.exp <;> rfl

theorem ExpPart.bytes_head (x : ExpPart) : ∃ c tl, x.bytes = c :: tl ∧ (c = 101 ∨ c = 69) := by
  refine ⟨_, _, rfl, ?_⟩
  cases x.upper <;> simp

/-- `read_number` consumes the whole number text and hands the normalised spelling to the conversion -/
theorem readNumber_full (t : NumText) (ht : t.WF) (rest : List Byte) (hrest : NumDelim rest) (r : Reader)
    (hr : Ready r (t.bytes ++ rest)) (fuel : Nat) (hf : t.bytes.length < fuel) :
    ∃ r', readNumber fuel r = finishNumber t.neg t.int t.norm (t.frac.isSome || t.exp.isSome) r' ∧
      Peeked r' rest := by
  obtain ⟨hint, hfrac, hexp⟩ := ht
  rw [NumText.bytes_eq] at hr hf
  rw [NumText.norm_eq]
  obtain ⟨neg, ip, fp, ex⟩ := t
  simp only at hr hf hint hfrac hexp ⊢
  obtain ⟨c, ip', rfl⟩ := List.exists_cons_of_ne_nil hint.1.1
  have hip := digits_of_run hint.1
  have hc := isDigit_ne (hip c (by simp))
  -- what follows the fraction does not extend it
  have hE : ∀ b ∈ (expBytes ex ++ rest).head?, isDigit b = false ∧ b ≠ 46 := by
    intro b hb
    cases ex with
    | none => simp only [expBytes, List.nil_append] at hb; exact ⟨(hrest b hb).1, (hrest b hb).2.1⟩
    | some x =>
      obtain ⟨m, tl, hx, hm⟩ := x.bytes_head
      simp only [expBytes, hx, List.cons_append, List.head?_cons, Option.mem_def, Option.some.injEq] at hb
      subst hb
      rcases hm with rfl | rfl <;> decide
  -- sign
  have hsign : ∃ r1, signBlock r = (.ok neg, r1) ∧
      Ready r1 ((c :: ip') ++ (fracBytes fp ++ (expBytes ex ++ rest))) := by
    cases neg with
    | true =>
      obtain ⟨r1, h1, h2⟩ := signBlock_neg (r := r) (c := c)
        (bs := ip' ++ (fracBytes fp ++ (expBytes ex ++ rest))) (by simpa using hr)
      exact ⟨r1, h1, h2.ready⟩
    | false =>
      obtain ⟨r1, h1, h2⟩ := signBlock_pos (r := r)
        (bs := (c :: ip') ++ (fracBytes fp ++ (expBytes ex ++ rest)))
        (by simpa using hr) (by simp; exact hc.1)
      exact ⟨r1, h1, h2.ready⟩
  obtain ⟨r1, hs, hr1⟩ := hsign
  have hlen : (c :: ip').length < fuel ∧ (∀ d, fp = some d → d.length < fuel) ∧
      (∀ x, ex = some x → x.digits.length < fuel) := by
    refine ⟨?_, ?_, ?_⟩
    · simp at hf ⊢; omega
    · intro d hd; subst hd; simp [fracBytes] at hf; omega
    · intro x hx; subst hx; simp [expBytes, ExpPart.bytes] at hf; omega
  -- integer digits
  have hnd : ∀ b ∈ (fracBytes fp ++ (expBytes ex ++ rest)).head?, isDigit b = false := by
    intro b hb
    cases fp with
    | none => simp only [fracBytes, List.nil_append] at hb; exact (hE b hb).1
    | some d => simp [fracBytes] at hb; subst hb; rfl
  obtain ⟨r2, hd2, hr2⟩ := readDigits_ready (c :: ip') hip _ hnd r1 hr1 fuel hlen.1 []
  simp only [List.nil_append] at hd2
  rw [readNumber_eq, PM.bind_ok hs, PM.bind_ok hd2]
  -- fraction
  have hfracB : ∃ r3, fracBlock fuel ((if neg = true then [45] else []) ++ (c :: ip')) r2 =
      (.ok ((if neg = true then [45] else []) ++ (c :: ip') ++ fracBytes fp, fp.isSome), r3) ∧
      Peeked r3 (expBytes ex ++ rest) := by
    cases fp with
    | none =>
      simp only [fracBytes, List.nil_append] at hr2
      have h46 : (expBytes ex ++ rest).head? ≠ some 46 := fun h => (hE 46 (by simp [h])).2 rfl
      exact ⟨r2, by rw [fracBlock_none hr2 h46]; simp [fracBytes], hr2⟩
    | some d =>
      obtain ⟨r3, hf3, hr3⟩ := fracBlock_some d (expBytes ex ++ rest) (digits_of_run hfrac)
        (fun b hb => (hE b hb).1) (r := r2) (by simpa [fracBytes] using hr2) fuel (hlen.2.1 d rfl)
        ((if neg = true then [45] else []) ++ (c :: ip'))
      exact ⟨r3, by rw [hf3]; simp [fracBytes], hr3⟩
  obtain ⟨r3, hf3, hr3⟩ := hfracB
  rw [PM.bind_ok hf3]
  simp only []
  -- exponent
  cases ex with
  | none =>
    simp only [expBytes, List.nil_append] at hr3
    have h101 : rest.head? ≠ some 101 := fun h => (hrest 101 (by simp [h])).2.2.1 rfl
    have h69 : rest.head? ≠ some 69 := fun h => (hrest 69 (by simp [h])).2.2.2 rfl
    rw [PM.bind_ok (expBlock_none hr3 h101 h69 fuel _ _)]
    exact ⟨r3, by simp [expNorm], hr3⟩
  | some x =>
    obtain ⟨r4, h4, hr4⟩ := expBlock_some x hexp rest (fun b hb => (hrest b hb).1) (r := r3)
      (by simpa [expBytes] using hr3) fuel (hlen.2.2 x rfl)
      ((if neg = true then [45] else []) ++ (c :: ip') ++ fracBytes fp) fp.isSome
    rw [PM.bind_ok h4]
    exact ⟨r4, by simp [expNorm], hr4⟩

/-- the conversion at the end of `read_number` computes the value the specification assigns to the text -/
theorem finishNumber_value (t : NumText) (hne : t.int ≠ []) (n : Num) (hv : t.value? = some n) (r : Reader) :
    finishNumber t.neg t.int t.norm (t.frac.isSome || t.exp.isSome) r = (.ok (.num n), r) := by
  have hd : (t.frac.isSome || t.exp.isSome) = false ↔ t.frac.isNone ∧ t.exp.isNone := by
    cases t.frac <;> cases t.exp <;> simp
  have hemp : ¬ (t.neg = true ∧ t.int.isEmpty = true) := fun h => hne (List.isEmpty_iff.1 h.2)
  unfold NumText.value? at hv
  simp only [] at hv
  rw [finishNumber_eq]
  by_cases hC : t.frac.isNone ∧ t.exp.isNone ∧
      (if t.neg then F64.digitsToNat (asciiStr t.int) ≤ 2 ^ 63 else F64.digitsToNat (asciiStr t.int) < 2 ^ 64)
  · rw [if_pos hC] at hv
    rw [if_pos ⟨hd.2 ⟨hC.1, hC.2.1⟩, hC.2.2⟩, if_neg hemp]
    cases hv
    rfl
  · rw [if_neg hC] at hv
    rw [if_neg (fun h => hC ⟨(hd.1 h.1).1, (hd.1 h.1).2, h.2⟩)]
    cases hp : F64.parseDecimal (bytesToStr t.norm) with
    | none => simp [asciiStr_eq, hp] at hv
    | some f =>
      simp only [asciiStr_eq, hp] at hv
      by_cases hfin : f.isFinite = true
      · simp only [hfin, if_true, Option.some.injEq] at hv
        subst hv
        simp [parseToDouble, hp, hfin]
      · simp [hfin] at hv

/-- the first byte of a number text is `-` or a digit -/
theorem NumText.bytes_head (t : NumText) (ht : t.WF) : ∃ c tl, t.bytes = c :: tl ∧ (c = 45 ∨ isDigit c = true) := by
  rw [NumText.bytes_eq]
  obtain ⟨c, ip', hc⟩ := List.exists_cons_of_ne_nil ht.1.1.1
  cases t.neg with
  | true => exact ⟨45, _, rfl, Or.inl rfl⟩
  | false =>
    rw [hc]
    exact ⟨c, _, rfl, Or.inr (digits_of_run ht.1.1 c (by simp [hc]))⟩

/-! ### The statement proved by induction on the derivation -/

/-- `nextValue` reads the text `bs` as the value `v`, after any white space `ws`, and leaves the reader
ready for `rest`.  Fuel: every loop turn of the readers consumes a byte and a nested value costs two units
(one for `nextValue`, one for the reader it dispatches to), hence twice the length, plus two for the call itself. -/
def VSpec (v : JV) (bs : List Byte) : Prop :=
  ∀ (ws : List Byte), (∀ b ∈ ws, isWs b = true) → ∀ (rest : List Byte), Delim v rest →
    ∀ (r : Reader), Ready r (ws ++ (bs ++ rest)) →
    ∀ (fuel : Nat), 2 * (ws.length + bs.length) + 2 ≤ fuel →
    ∃ r', nextValue fuel r = (.ok (some v), r') ∧ Ready r' rest

theorem vspec_word (v : JV) (word : String) (c : Byte) (tail : List Byte) (hc : isWs c = false)
    (hd : ∀ fuel, dispatch fuel c = (do readWordTail word tail; pure (some v))) :
    VSpec v (c :: tail) := by
  intro ws hws rest _ r hr fuel hf
  obtain ⟨fuel, rfl⟩ : ∃ k, fuel = k + 1 := ⟨fuel - 1, by omega⟩
  obtain ⟨r1, hr1, hnv⟩ := nextValue_dispatch ws hws c (tail ++ rest) hc r (by simpa using hr) fuel
    (by omega)
  obtain ⟨r2, hw, hr2⟩ := readWordTail_at word tail rest r1 c hr1
  refine ⟨r2, ?_, hr2⟩
  rw [hnv, hd, PM.bind_ok hw]
  rfl

theorem vspec_null : VSpec .null [110, 117, 108, 108] :=
  vspec_word .null "null" 110 [117, 108, 108] rfl (fun _ => rfl)

theorem vspec_true : VSpec (.bool true) [116, 114, 117, 101] :=
  vspec_word (.bool true) "true" 116 [114, 117, 101] rfl (fun _ => rfl)

theorem vspec_false : VSpec (.bool false) [102, 97, 108, 115, 101] :=
  vspec_word (.bool false) "false" 102 [97, 108, 115, 101] rfl (fun _ => rfl)

theorem vspec_str {s : Str} {body : List Byte} (h : StrBody s body) : VSpec (.str s) (34 :: (body ++ [34])) := by
  intro ws hws rest _ r hr fuel hf
  obtain ⟨fuel, rfl⟩ : ∃ k, fuel = k + 1 := ⟨fuel - 1, by omega⟩
  obtain ⟨r1, hr1, hnv⟩ := nextValue_dispatch ws hws 34 (body ++ 34 :: rest) rfl r
    (by simpa using hr) fuel (by omega)
  obtain ⟨r2, hw, hr2⟩ := readString_strBody h rest r1 34 hr1 (fuel + 1)
    (by simp at hf; omega)
  refine ⟨r2, ?_, hr2⟩
  rw [hnv]
  simp only [dispatch, show ¬ ((34 : Byte) = 116) by decide, show ¬ ((34 : Byte) = 102) by decide,
    show ¬ ((34 : Byte) = 110) by decide, if_false, if_true]
  rw [PM.bind_ok hw]
  rfl

/-- `read_number` on a conforming number text followed by a delimiter -/
theorem readNumber_ser {n : Num} {bs : List Byte} (h : Ser (.num n) bs) (rest : List Byte)
    (hrest : NumDelim rest) (r : Reader) (hr : Ready r (bs ++ rest)) (fuel : Nat) (hf : bs.length < fuel) :
    ∃ r', readNumber fuel r = (.ok (.num n), r') ∧ Peeked r' rest := by
  cases h with
  | @num t _ ht hv =>
    obtain ⟨r', hw, hr'⟩ := readNumber_full t ht rest hrest r hr fuel hf
    exact ⟨r', by rw [hw]; exact finishNumber_value t ht.1.1.1 n hv r', hr'⟩

theorem vspec_num {t : NumText} {n : Num} (ht : t.WF) (hv : t.value? = some n) : VSpec (.num n) t.bytes := by
  intro ws hws rest hd r hr fuel hf
  obtain ⟨fuel, rfl⟩ : ∃ k, fuel = k + 1 := ⟨fuel - 1, by omega⟩
  obtain ⟨c, bs, hcb, hc⟩ := t.bytes_head ht
  have hr0 := hr
  rw [hcb] at hr
  obtain ⟨r1, hr1, hnv⟩ := nextValue_dispatch ws hws c (bs ++ rest) (isWs_false_of_num c hc) r
    (by simpa using hr) fuel (by omega)
  obtain ⟨r2, hw, hr2⟩ := readNumber_ser (Ser.num ht hv) rest hd r1
    (by rw [hcb]; simpa using hr1.ready) (fuel + 1) (by omega)
  refine ⟨r2, ?_, hr2.ready⟩
  rw [hnv, dispatch_num fuel c hc, PM.bind_ok hw]
  rfl

/-! ### First bytes -/

theorem headOK_of_num {c : Byte} (h : c = 45 ∨ isDigit c = true) : HeadOK c := by
  refine ⟨isWs_false_of_num c h, ?_, ?_⟩
  · rcases h with rfl | h
    · decide
    · intro e; subst e; simp [isDigit] at h
  · rcases h with rfl | h
    · decide
    · intro e; subst e; simp [isDigit] at h

/-- a JSON text starts with a byte that is neither white space nor a closing bracket -/
theorem ser_head {v : JV} {bs : List Byte} (h : Ser v bs) : ∃ c tl, bs = c :: tl ∧ HeadOK c := by
  cases h with
  | null => exact ⟨110, _, rfl, by decide⟩
  | true => exact ⟨116, _, rfl, by decide⟩
  | false => exact ⟨102, _, rfl, by decide⟩
  | str _ => exact ⟨34, _, rfl, by decide⟩
  | num ht _ =>
    obtain ⟨c, tl, h1, h2⟩ := NumText.bytes_head _ ht
    exact ⟨c, tl, h1, headOK_of_num h2⟩
  | arrEmpty _ => exact ⟨91, _, rfl, by decide⟩
  | arr _ _ => exact ⟨91, _, rfl, by decide⟩
  | objEmpty _ => exact ⟨123, _, rfl, by decide⟩
  | obj _ _ _ => exact ⟨123, _, rfl, by decide⟩

theorem ser_str_head {k : Str} {kb : List Byte} (h : Ser (.str k) kb) : ∃ tl, kb = 34 :: tl := by
  cases h with
  | str _ => exact ⟨_, rfl⟩

theorem elems_head {vs : List JV} {body : List Byte} (h : Elems vs body) :
    ∃ c tl, body = c :: tl ∧ HeadOK c := by
  cases h with
  | one hv _ =>
    obtain ⟨c, tl, rfl, hc⟩ := ser_head hv
    exact ⟨c, _, rfl, hc⟩
  | cons hv _ _ _ =>
    obtain ⟨c, tl, rfl, hc⟩ := ser_head hv
    exact ⟨c, _, rfl, hc⟩

theorem members_head {kvs : List (Str × JV)} {body : List Byte} (h : Members kvs body) :
    ∃ tl, body = 34 :: tl := by
  cases h with
  | one hk _ _ _ _ =>
    obtain ⟨tl, rfl⟩ := ser_str_head hk
    exact ⟨_, rfl⟩
  | cons hk _ _ _ _ _ _ =>
    obtain ⟨tl, rfl⟩ := ser_str_head hk
    exact ⟨_, rfl⟩

/-! ### Arrays -/

/-- `readArrayLoop` reads the elements `vs` from `body` (white space `ws0` pending), up to and including
the closing bracket -/
def ESpec (vs : List JV) (body : List Byte) : Prop :=
  ∀ (ws0 : List Byte), (∀ b ∈ ws0, isWs b = true) → ∀ (rest : List Byte) (acc : List JV) (r : Reader),
    Ready r (ws0 ++ (body ++ 93 :: rest)) →
    ∀ (fuel : Nat), 2 * (ws0.length + body.length) + 3 ≤ fuel →
    ∃ r', readArrayLoop fuel acc r = (.ok (.arr (acc ++ vs)), r') ∧ Ready r' rest

/-- one turn of `readArrayLoop`: an element, white space, and the byte that follows: `]` ends the loop,
`,` continues it -/
theorem readArrayLoop_step {v : JV} {bs w : List Byte} (hv : VSpec v bs) (hw : Ws w) (c : Byte)
    (hc : c = 93 ∨ c = 44) (ws0 : List Byte) (hws0 : ∀ b ∈ ws0, isWs b = true) (tail : List Byte)
    (acc : List JV) (r : Reader) (hr : Ready r (ws0 ++ (bs ++ (w ++ c :: tail)))) (fuel : Nat)
    (hf : 2 * (ws0.length + bs.length + w.length) + 2 ≤ fuel) :
    ∃ r', Ready r' tail ∧ readArrayLoop (fuel + 1) acc r =
      if c = 93 then (.ok (.arr (acc ++ [v])), r') else readArrayLoop fuel (acc ++ [v]) r' := by
  have hw' := ws_of_Ws hw
  have hcd : isWs c = false ∧ isDigit c = false ∧ c ≠ 46 ∧ c ≠ 101 ∧ c ≠ 69 := by
    rcases hc with rfl | rfl <;> decide
  obtain ⟨r1, h1, hr1⟩ := hv ws0 hws0 (w ++ c :: tail)
    (Delim.of_numDelim (numDelim_ws_punct w hw' c tail hcd.2)) r hr fuel (by omega)
  obtain ⟨r2, h2, hr2⟩ := eatWhitespace_before w hw' c hcd.1 tail r1 hr1 (fuel + 1) (by omega)
  obtain ⟨x, r3, h3, hr3⟩ := next_at_ready hr2
  refine ⟨r3, hr3, ?_⟩
  rw [readArrayLoop, PM.bind_ok h1]
  simp only []
  rw [PM.bind_ok h2, PM.bind_ok (peek_at hr2)]
  rcases hc with rfl | rfl
  · simp only [if_true]
    rw [PM.bind_ok h3]
    rfl
  · simp only [show ¬ ((44 : Byte) = 93) by decide, if_false, if_true]
    rw [PM.bind_ok h3]

theorem espec_one {v : JV} {bs w : List Byte} (hv : VSpec v bs) (hw : Ws w) : ESpec [v] (bs ++ w) := by
  intro ws0 hws0 rest acc r hr fuel hf
  obtain ⟨fuel, rfl⟩ : ∃ k, fuel = k + 1 := ⟨fuel - 1, by omega⟩
  simp only [List.append_assoc, List.length_append] at hr hf
  obtain ⟨r', hr', h⟩ := readArrayLoop_step hv hw 93 (Or.inl rfl) ws0 hws0 rest acc r hr fuel (by omega)
  exact ⟨r', h, hr'⟩

theorem espec_cons {v : JV} {bs w1 w2 : List Byte} {vs : List JV} {tl : List Byte}
    (hv : VSpec v bs) (hw1 : Ws w1) (hw2 : Ws w2) (ih : ESpec vs tl) :
    ESpec (v :: vs) (bs ++ (w1 ++ 44 :: (w2 ++ tl))) := by
  intro ws0 hws0 rest acc r hr fuel hf
  obtain ⟨fuel, rfl⟩ : ∃ k, fuel = k + 1 := ⟨fuel - 1, by omega⟩
  simp only [List.append_assoc, List.cons_append, List.length_append, List.length_cons] at hr hf
  obtain ⟨r1, hr1, h⟩ := readArrayLoop_step hv hw1 44 (Or.inr rfl) ws0 hws0 _ acc r hr fuel (by omega)
  obtain ⟨r2, h2, hr2⟩ := ih w2 (ws_of_Ws hw2) rest (acc ++ [v]) r1 hr1 fuel (by omega)
  exact ⟨r2, by rw [h, if_neg (by decide), h2, List.append_assoc]; rfl, hr2⟩

theorem vspec_arrEmpty {w : List Byte} (hw : Ws w) : VSpec (.arr []) (91 :: (w ++ [93])) := by
  intro ws hws rest _ r hr fuel hf
  obtain ⟨fuel, rfl⟩ : ∃ k, fuel = k + 1 := ⟨fuel - 1, by omega⟩
  simp only [List.length_cons, List.length_append, List.length_nil] at hf
  obtain ⟨fuel, rfl⟩ : ∃ k, fuel = k + 1 := ⟨fuel - 1, by omega⟩
  obtain ⟨r1, hr1, hnv⟩ := nextValue_dispatch ws hws 91 (w ++ 93 :: rest) rfl r (by simpa using hr)
    (fuel + 1) (by omega)
  obtain ⟨r2, h2, hr2⟩ := next_at hr1
  obtain ⟨r3, h3, hr3⟩ := eatWhitespace_before w (ws_of_Ws hw) 93 rfl rest r2 hr2.ready (fuel + 1) (by omega)
  obtain ⟨x, r4, h4, hr4⟩ := next_at_ready (show At r3 93 rest from hr3)
  refine ⟨r4, ?_, hr4⟩
  rw [hnv, dispatch_arr, readArray, PM.bind_ok]
  rotate_left
  · rw [PM.bind_ok h2, PM.bind_ok h3, PM.bind_ok (peek_at hr3)]
    simp only [if_true]
    rw [PM.bind_ok h4]
    rfl
  · rfl

theorem vspec_arr {w : List Byte} {vs : List JV} {body : List Byte} (hw : Ws w) (he : Elems vs body)
    (ih : ESpec vs body) : VSpec (.arr vs) (91 :: (w ++ (body ++ [93]))) := by
  intro ws hws rest _ r hr fuel hf
  obtain ⟨fuel, rfl⟩ : ∃ k, fuel = k + 1 := ⟨fuel - 1, by omega⟩
  simp only [List.length_cons, List.length_append, List.length_nil] at hf
  obtain ⟨fuel, rfl⟩ : ∃ k, fuel = k + 1 := ⟨fuel - 1, by omega⟩
  obtain ⟨r1, hr1, hnv⟩ := nextValue_dispatch ws hws 91 (w ++ (body ++ 93 :: rest)) rfl r
    (by simpa using hr) (fuel + 1) (by omega)
  obtain ⟨r2, h2, hr2⟩ := next_at hr1
  obtain ⟨c, tl, hc1, hc2⟩ := elems_head he
  obtain ⟨r3, h3, hr3⟩ := eatWhitespace_before w (ws_of_Ws hw) c hc2.1 (tl ++ 93 :: rest) r2
    (by have := hr2.ready; rw [hc1] at this; simpa using this) (fuel + 1) (by omega)
  obtain ⟨r4, h4, hr4⟩ := ih [] (by simp) rest [] r3 (by rw [hc1]; simpa using hr3.ready) fuel
    (by simp; omega)
  refine ⟨r4, ?_, hr4⟩
  rw [hnv, dispatch_arr, readArray, PM.bind_ok]
  rotate_left
  · rw [PM.bind_ok h2, PM.bind_ok h3, PM.bind_ok (peek_at hr3)]
    simp only [Option.some.injEq, hc2.2.1, if_false]
    exact h4
  · simp

/-! ### Objects -/

theorem punct_numDelim_58 : isDigit 58 = false ∧ (58 : Byte) ≠ 46 ∧ (58 : Byte) ≠ 101 ∧ (58 : Byte) ≠ 69 := by
  decide

/-- `readObjectLoop` reads the members `kvs` from `body` (white space `ws0` pending), up to and including
the closing brace, inserting them into `acc` -/
def MSpec (kvs : List (Str × JV)) (body : List Byte) : Prop :=
  ∀ (ws0 : List Byte), (∀ b ∈ ws0, isWs b = true) → ∀ (rest : List Byte) (acc : List (Str × JV))
    (r : Reader), Ready r (ws0 ++ (body ++ 125 :: rest)) →
    ∀ (fuel : Nat), 2 * (ws0.length + body.length) + 3 ≤ fuel →
    ∃ r', readObjectLoop fuel acc r = (.ok (.obj (insertAll acc kvs)), r') ∧ Ready r' rest

/-- one turn of `readObjectLoop`: a member `key : value`, white space, and the byte that follows: `}` ends
the loop, `,` continues it -/
theorem readObjectLoop_step {k : Str} {kb w1 w2 : List Byte} {v : JV} {bs w3 : List Byte}
    (hk : VSpec (.str k) kb) (hw1 : Ws w1) (hw2 : Ws w2) (hv : VSpec v bs) (hw3 : Ws w3) (c : Byte)
    (hc : c = 125 ∨ c = 44) (ws0 : List Byte) (hws0 : ∀ b ∈ ws0, isWs b = true) (tail : List Byte)
    (acc : List (Str × JV)) (r : Reader)
    (hr : Ready r (ws0 ++ (kb ++ (w1 ++ 58 :: (w2 ++ (bs ++ (w3 ++ c :: tail))))))) (fuel : Nat)
    (hf : 2 * (ws0.length + kb.length + w1.length + w2.length + bs.length + w3.length) + 2 ≤ fuel) :
    ∃ r', Ready r' tail ∧ readObjectLoop (fuel + 1) acc r =
      if c = 125 then (.ok (.obj (objInsert acc k v)), r') else readObjectLoop fuel (objInsert acc k v) r' := by
  have hw1' := ws_of_Ws hw1
  have hw3' := ws_of_Ws hw3
  have hcd : isWs c = false ∧ isDigit c = false ∧ c ≠ 46 ∧ c ≠ 101 ∧ c ≠ 69 := by
    rcases hc with rfl | rfl <;> decide
  obtain ⟨r1, h1, hr1⟩ := hk ws0 hws0 _ True.intro r hr fuel (by omega)
  obtain ⟨r2, h2, hr2⟩ := eatWhitespace_before w1 hw1' 58 rfl _ r1 hr1 (fuel + 1) (by omega)
  obtain ⟨r3, h3, hr3⟩ := next_at hr2
  obtain ⟨r4, h4, hr4⟩ := hv w2 (ws_of_Ws hw2) (w3 ++ c :: tail)
    (Delim.of_numDelim (numDelim_ws_punct w3 hw3' c tail hcd.2)) r3 hr3.ready fuel (by omega)
  obtain ⟨r5, h5, hr5⟩ := eatWhitespace_before w3 hw3' c hcd.1 tail r4 hr4 (fuel + 1) (by omega)
  obtain ⟨x, r6, h6, hr6⟩ := next_at_ready hr5
  refine ⟨r6, hr6, ?_⟩
  rw [readObjectLoop, PM.bind_ok h1]
  simp only []
  rw [PM.bind_ok h2, PM.bind_ok (peek_at hr2)]
  simp only [ne_eq, not_true_eq_false, if_false]
  rw [PM.bind_ok h3, PM.bind_ok h4]
  simp only []
  rw [PM.bind_ok h5, PM.bind_ok (peek_at hr5)]
  rcases hc with rfl | rfl
  · simp only [if_true]
    rw [PM.bind_ok h6]
    rfl
  · simp only [show ¬ ((44 : Byte) = 125) by decide, if_false, if_true]
    rw [PM.bind_ok h6]

theorem mspec_one {k : Str} {kb w1 w2 : List Byte} {v : JV} {bs w3 : List Byte}
    (hk : VSpec (.str k) kb) (hw1 : Ws w1) (hw2 : Ws w2) (hv : VSpec v bs) (hw3 : Ws w3) :
    MSpec [(k, v)] (kb ++ (w1 ++ 58 :: (w2 ++ (bs ++ w3)))) := by
  intro ws0 hws0 rest acc r hr fuel hf
  obtain ⟨fuel, rfl⟩ : ∃ k, fuel = k + 1 := ⟨fuel - 1, by omega⟩
  simp only [List.append_assoc, List.cons_append, List.length_append, List.length_cons] at hr hf
  obtain ⟨r', hr', h⟩ := readObjectLoop_step hk hw1 hw2 hv hw3 125 (Or.inl rfl) ws0 hws0 rest acc r hr fuel
    (by omega)
  exact ⟨r', h, hr'⟩

theorem mspec_cons {k : Str} {kb w1 w2 : List Byte} {v : JV} {bs w3 w4 : List Byte}
    {kvs : List (Str × JV)} {tl : List Byte}
    (hk : VSpec (.str k) kb) (hw1 : Ws w1) (hw2 : Ws w2) (hv : VSpec v bs) (hw3 : Ws w3) (hw4 : Ws w4)
    (ih : MSpec kvs tl) :
    MSpec ((k, v) :: kvs) (kb ++ (w1 ++ 58 :: (w2 ++ (bs ++ (w3 ++ 44 :: (w4 ++ tl)))))) := by
  intro ws0 hws0 rest acc r hr fuel hf
  obtain ⟨fuel, rfl⟩ : ∃ k, fuel = k + 1 := ⟨fuel - 1, by omega⟩
  simp only [List.append_assoc, List.cons_append, List.length_append, List.length_cons] at hr hf
  obtain ⟨r1, hr1, h⟩ := readObjectLoop_step hk hw1 hw2 hv hw3 44 (Or.inr rfl) ws0 hws0 _ acc r hr fuel
    (by omega)
  obtain ⟨r2, h2, hr2⟩ := ih w4 (ws_of_Ws hw4) rest (objInsert acc k v) r1 hr1 fuel (by omega)
  exact ⟨r2, by rw [h, if_neg (by decide), h2]; rfl, hr2⟩

theorem vspec_objEmpty {w : List Byte} (hw : Ws w) : VSpec (.obj []) (123 :: (w ++ [125])) := by
  intro ws hws rest _ r hr fuel hf
  obtain ⟨fuel, rfl⟩ : ∃ k, fuel = k + 1 := ⟨fuel - 1, by omega⟩
  simp only [List.length_cons, List.length_append, List.length_nil] at hf
  obtain ⟨fuel, rfl⟩ : ∃ k, fuel = k + 1 := ⟨fuel - 1, by omega⟩
  obtain ⟨r1, hr1, hnv⟩ := nextValue_dispatch ws hws 123 (w ++ 125 :: rest) rfl r (by simpa using hr)
    (fuel + 1) (by omega)
  obtain ⟨r2, h2, hr2⟩ := next_at hr1
  obtain ⟨r3, h3, hr3⟩ := eatWhitespace_before w (ws_of_Ws hw) 125 rfl rest r2 hr2.ready (fuel + 1) (by omega)
  obtain ⟨x, r4, h4, hr4⟩ := next_at_ready (show At r3 125 rest from hr3)
  refine ⟨r4, ?_, hr4⟩
  rw [hnv, dispatch_obj, readObject, PM.bind_ok]
  rotate_left
  · rw [PM.bind_ok h2, PM.bind_ok h3, PM.bind_ok (peek_at hr3)]
    simp only [if_true]
    rw [PM.bind_ok h4]
    rfl
  · rfl

theorem vspec_obj {w : List Byte} {kvs : List (Str × JV)} {body : List Byte} (hw : Ws w)
    (hm : Members kvs body) (hnd : (kvs.map (·.1)).Nodup) (ih : MSpec kvs body) :
    VSpec (.obj kvs) (123 :: (w ++ (body ++ [125]))) := by
  intro ws hws rest _ r hr fuel hf
  obtain ⟨fuel, rfl⟩ : ∃ k, fuel = k + 1 := ⟨fuel - 1, by omega⟩
  simp only [List.length_cons, List.length_append, List.length_nil] at hf
  obtain ⟨fuel, rfl⟩ : ∃ k, fuel = k + 1 := ⟨fuel - 1, by omega⟩
  obtain ⟨r1, hr1, hnv⟩ := nextValue_dispatch ws hws 123 (w ++ (body ++ 125 :: rest)) rfl r
    (by simpa using hr) (fuel + 1) (by omega)
  obtain ⟨r2, h2, hr2⟩ := next_at hr1
  obtain ⟨tl, hc1⟩ := members_head hm
  obtain ⟨r3, h3, hr3⟩ := eatWhitespace_before w (ws_of_Ws hw) 34 rfl (tl ++ 125 :: rest) r2
    (by have := hr2.ready; rw [hc1] at this; simpa using this) (fuel + 1) (by omega)
  obtain ⟨r4, h4, hr4⟩ := ih [] (by simp) rest [] r3 (by rw [hc1]; simpa using hr3.ready) fuel
    (by simp; omega)
  refine ⟨r4, ?_, hr4⟩
  have hins : insertAll [] kvs = kvs := by
    rw [insertAll_nodup [] _ (by simpa using hnd)]; simp
  rw [hins] at h4
  rw [hnv, dispatch_obj, readObject, PM.bind_ok]
  rotate_left
  · rw [PM.bind_ok h2, PM.bind_ok h3, PM.bind_ok (peek_at hr3)]
    simp only [Option.some.injEq, show ¬ ((34 : Byte) = 125) by decide, if_false]
    exact h4
  · simp

/-! ### The induction on the derivation -/

mutual
theorem vspec_of_ser : ∀ {v : JV} {bs : List Byte}, Ser v bs → VSpec v bs
  | _, _, .null => vspec_null
  | _, _, .true => vspec_true
  | _, _, .false => vspec_false
  | _, _, .str h => vspec_str h
  | _, _, .num ht hv => vspec_num ht hv
  | _, _, .arrEmpty hw => vspec_arrEmpty hw
  | _, _, .arr hw he => vspec_arr hw he (espec_of_elems he)
  | _, _, .objEmpty hw => vspec_objEmpty hw
  | _, _, .obj hw hm hnd => vspec_obj hw hm hnd (mspec_of_members hm)
theorem espec_of_elems : ∀ {vs : List JV} {body : List Byte}, Elems vs body → ESpec vs body
  | _, _, .one hv hw => espec_one (vspec_of_ser hv) hw
  | _, _, .cons hv hw1 hw2 he => espec_cons (vspec_of_ser hv) hw1 hw2 (espec_of_elems he)
theorem mspec_of_members : ∀ {kvs : List (Str × JV)} {body : List Byte}, Members kvs body → MSpec kvs body
  | _, _, .one hk hw1 hw2 hv hw3 => mspec_one (vspec_of_ser hk) hw1 hw2 (vspec_of_ser hv) hw3
  | _, _, .cons hk hw1 hw2 hv hw3 hw4 hm =>
    mspec_cons (vspec_of_ser hk) hw1 hw2 (vspec_of_ser hv) hw3 hw4 (mspec_of_members hm)
end

/-- the fuel that suffices to read the text `bs` after the white space `ws` -/
def fuelFor (ws bs : List Byte) : Nat := 2 * (ws ++ bs).length + 2

/-- Every conforming serialisation of a JSON value is read as that value: positioned before any
white space `ws`, the text `bs` with `Ser v bs`, and any `rest` that does not extend a number text,
`next_json_value` returns exactly `v` and leaves the reader before `rest`. -/
theorem parse_ser {v : JV} {bs : List Byte} (h : Ser v bs) (rest : List Byte) (hd : Delimited v rest)
    (ws : List Byte) (hws : Ws ws) (r : Reader) (hr : Ready r (ws ++ bs ++ rest))
    (fuel : Nat) (hf : fuelFor ws bs ≤ fuel) :
    ∃ r', nextValue fuel r = (.ok (some v), r') ∧ Ready r' rest :=
  vspec_of_ser h ws (ws_of_Ws hws) rest (delim_of_delimited hd) r (by simpa using hr) fuel
    (by simpa [fuelFor] using hf)

/-- one `Reader.nextJson` call (with the fuel `nextJson` itself uses) reads one conforming text -/
theorem nextJson_ser {v : JV} {bs : List Byte} (h : Ser v bs) (rest : List Byte) (hd : Delimited v rest)
    (ws : List Byte) (hws : Ws ws) (r : Reader) (hr : Ready r (ws ++ bs ++ rest)) :
    ∃ r', r.nextJson = (.ok (some v), r') ∧ Ready r' rest := by
  have hl := ready_length hr
  simp only [List.length_append] at hl
  exact parse_ser h rest hd ws hws r hr _ (by simp only [fuelFor, List.length_append]; omega)

/-! ### Streams of values -/

/-- the bytes of a stream: each item is a value, its text, and the white space after it -/
def streamText : List (JV × List Byte × List Byte) → List Byte
  | [] => []
  | (_, bs, sep) :: items => bs ++ (sep ++ streamText items)

/-- every item is a conforming text of its value followed by white space, and no number text is extended by
what follows it -/
def StreamOK : List (JV × List Byte × List Byte) → Prop
  | [] => True
  | (v, bs, sep) :: items => Ser v bs ∧ Ws sep ∧ Delimited v (sep ++ streamText items) ∧ StreamOK items

/-- the usual sufficient condition: consecutive values are separated by non-empty white space
(nothing is required after the last value, nor after a value that is not a number) -/
def SepOK : List (JV × List Byte × List Byte) → Prop
  | [] => True
  | (v, bs, sep) :: items =>
    Ser v bs ∧ Ws sep ∧ (sep ≠ [] ∨ items = [] ∨ ∀ n, v ≠ .num n) ∧ SepOK items

theorem StreamOK.of_sepOK : ∀ {items : List (JV × List Byte × List Byte)}, SepOK items → StreamOK items
  | [], _ => True.intro
  | (v, bs, sep) :: items, ⟨h1, h2, h3, h4⟩ => by
    refine ⟨h1, h2, ?_, StreamOK.of_sepOK h4⟩
    rcases h3 with h3 | h3 | h3
    · apply delimited_of_delim
      apply Delim.of_numDelim
      obtain ⟨s, sep', rfl⟩ := List.exists_cons_of_ne_nil h3
      exact numDelim_cons s _ (isWs_numDelim (isWs_of_IsWs (h2 s (by simp))))
    · subst h3
      cases sep with
      | nil => exact delimited_of_delim (Delim.of_numDelim numDelim_nil)
      | cons s sep' =>
        exact delimited_of_delim (Delim.of_numDelim
          (numDelim_cons s _ (isWs_numDelim (isWs_of_IsWs (h2 s (by simp))))))
    · cases v with
      | num n => exact absurd rfl (h3 n)
      | _ => exact True.intro

theorem stream_fidelity_aux (items : List (JV × List Byte × List Byte)) (h : StreamOK items)
    (lead : List Byte) (hlead : Ws lead) (r : Reader) (hr : Ready r (lead ++ streamText items)) :
    ∃ r' r'', Reads r (items.map (·.1)) r' ∧ r'.nextJson = (.ok none, r'') ∧ Ready r'' [] := by
  induction items generalizing lead r with
  | nil =>
    obtain ⟨r'', h1, h2⟩ := nextJson_end lead (ws_of_Ws hlead) r (by simpa [streamText] using hr)
    exact ⟨r, r'', Reads.nil r, h1, h2⟩
  | cons it items ih =>
    obtain ⟨v, bs, sep⟩ := it
    obtain ⟨h1, h2, h3, h4⟩ := h
    obtain ⟨r1, e1, hr1⟩ := nextJson_ser h1 (sep ++ streamText items) h3 lead hlead r
      (by simpa [streamText] using hr)
    obtain ⟨r', r'', e2, e3, e4⟩ := ih h4 sep h2 r1 hr1
    exact ⟨r', r'', Reads.cons e1 e2, e3, e4⟩

/-- A stream of conforming JSON texts `bs₁ sep₁ bs₂ sep₂ … bsₙ sepₙ` (after optional
leading white space), where no number text is extended by what follows it: successive
`Reader.nextJson` calls return exactly `v₁, …, vₙ` in order, without any error in between, and then
`none` (end of input). -/
theorem stream_fidelity (lead : List Byte) (hlead : Ws lead) (items : List (JV × List Byte × List Byte))
    (h : StreamOK items) (name : Option Str) :
    ∃ r' r'', Reads (Reader.ofBytes (lead ++ streamText items) name) (items.map (·.1)) r' ∧
      r'.nextJson = (.ok none, r'') :=
  let ⟨r', r'', h1, h2, _⟩ := stream_fidelity_aux items h lead hlead _ (ready_ofBytes _ name)
  ⟨r', r'', h1, h2⟩

/-- the same for values separated by non-empty white space -/
theorem stream_fidelity_ws (lead : List Byte) (hlead : Ws lead) (items : List (JV × List Byte × List Byte))
    (h : SepOK items) (name : Option Str) :
    ∃ r' r'', Reads (Reader.ofBytes (lead ++ streamText items) name) (items.map (·.1)) r' ∧
      r'.nextJson = (.ok none, r'') :=
  stream_fidelity lead hlead items (StreamOK.of_sepOK h) name

/-! ### Closing the loop: what was read from a conforming text can be printed and read back (C02) -/

/-- the value of a number text is one of the numbers described by `ParsedNum`; if it is a float, that float
is in canonical form -/
theorem value_parsed {t : NumText} {n : Num} (hv : t.value? = some n) :
    ParsedNum n ∧ ∀ f, n = .flt f → f.Canonical := by
  unfold NumText.value? at hv
  simp only [] at hv
  by_cases hC : t.frac.isNone ∧ t.exp.isNone ∧
      (if t.neg then F64.digitsToNat (asciiStr t.int) ≤ 2 ^ 63 else F64.digitsToNat (asciiStr t.int) < 2 ^ 64)
  · rw [if_pos hC] at hv
    simp only [Option.some.injEq] at hv
    subst hv
    have h3 := hC.2.2
    cases hneg : t.neg with
    | true =>
      simp only [hneg, if_true] at h3 ⊢
      exact ⟨⟨by omega, by omega⟩, by intro f hf; cases hf⟩
    | false =>
      simp only [hneg, Bool.false_eq_true, if_false] at h3 ⊢
      exact ⟨h3, by intro f hf; cases hf⟩
  · rw [if_neg hC] at hv
    cases hp : F64.parseDecimal (asciiStr t.norm) with
    | none => simp [hp] at hv
    | some f' =>
      simp only [hp] at hv
      by_cases hfin : f'.isFinite = true
      · simp only [hfin, if_true, Option.some.injEq] at hv
        subst hv
        refine ⟨parsedNum_ofF64 f' hfin, ?_⟩
        intro f hf
        rw [ofF64_flt_inv hf]
        exact parseDecimal_canonical hp
      · simp [hfin] at hv

/-- 17 significant digits always suffice: the digit search of `Display for f64` succeeds on every finite
double in canonical form.  Proved as `Ser.h17` in `Lemmas/H17.lean`; kept as a `Prop` because `H17.lean`
imports this file. -/
def H17 : Prop := ∀ f : F64, f.Canonical → f.isFinite = true → (F64.toDisplay? f).isSome = true

theorem strOK_utf8 (o : JsonOpts) (ho : o.utf8Strings = true) (s : Str) : StrOK o s :=
  fun _ _ => Or.inr ho

mutual
/-- every value of a conforming text is a value of the kind described by `Parsed` (with `utf8Strings`,
so that characters outside the BMP are printed raw) -/
theorem parsed_of_ser (h17 : H17) (o : JsonOpts) (ho : o.utf8Strings = true) :
    ∀ {v : JV} {bs : List Byte}, Ser v bs → Parsed o v
  | _, _, .null => by rw [Parsed]; exact True.intro
  | _, _, .true => by rw [Parsed]; exact True.intro
  | _, _, .false => by rw [Parsed]; exact True.intro
  | _, _, .str _ => by rw [Parsed]; exact strOK_utf8 o ho _
  | _, _, .num _ hv => by
    rw [Parsed]
    obtain ⟨h1, h2⟩ := value_parsed hv
    refine ⟨h1, ?_⟩
    intro f hf
    subst hf
    exact h17 f (h2 f rfl) h1.1
  | _, _, .arrEmpty _ => by rw [Parsed, ParsedList]; exact True.intro
  | _, _, .arr _ he => by rw [Parsed]; exact parsedList_of_elems h17 o ho he
  | _, _, .objEmpty _ => by rw [Parsed, ParsedMembers]; exact ⟨True.intro, List.nodup_nil⟩
  | _, _, .obj _ hm hnd => by rw [Parsed]; exact ⟨parsedMembers_of_members h17 o ho hm, hnd⟩
theorem parsedList_of_elems (h17 : H17) (o : JsonOpts) (ho : o.utf8Strings = true) :
    ∀ {vs : List JV} {body : List Byte}, Elems vs body → ParsedList o vs
  | _, _, .one hv _ => by
    rw [ParsedList, ParsedList]; exact ⟨parsed_of_ser h17 o ho hv, True.intro⟩
  | _, _, .cons hv _ _ he => by
    rw [ParsedList]; exact ⟨parsed_of_ser h17 o ho hv, parsedList_of_elems h17 o ho he⟩
theorem parsedMembers_of_members (h17 : H17) (o : JsonOpts) (ho : o.utf8Strings = true) :
    ∀ {kvs : List (Str × JV)} {body : List Byte}, Members kvs body → ParsedMembers o kvs
  | _, _, .one _ _ _ hv _ => by
    rw [ParsedMembers, ParsedMembers]
    exact ⟨strOK_utf8 o ho _, parsed_of_ser h17 o ho hv, True.intro⟩
  | _, _, .cons _ _ _ hv _ _ hm => by
    rw [ParsedMembers]
    exact ⟨strOK_utf8 o ho _, parsed_of_ser h17 o ho hv, parsedMembers_of_members h17 o ho hm⟩
end

/-! ### Non-vacuity: a concrete text with an exponent, escapes, nesting and arbitrary white space -/

/-- `[ 1E2 ,<TAB>"aA\n" , {"k" : [-0.5e-1, true], "" :{ }}<LF>]` -/
def exText : String := "[ 1E2 ,\t\"a\\u0041\\n\" , {\"k\" : [-0.5e-1, true], \"\" :{ }}\n]"

def exValue : JV :=
  .arr [.num (.pos 100), .str ['a', 'A', '\n'],
    .obj [(['k'], .arr [.num (.flt (.fin true 7205759403792794 (-57))), .bool true]), ([], .obj [])]]

/-- `1E2`: an exponent spelling whose value is normalised to the integer `100` -/
theorem ex_num1 : Ser (.num (.pos 100)) [49, 69, 50] :=
  Ser.num (t := ⟨false, [49], none, some ⟨true, none, [50]⟩⟩) (by decide) (by decide +kernel)

/-- `-0.5e-1` -/
theorem ex_num2 : Ser (.num (.flt (.fin true 7205759403792794 (-57)))) [45, 48, 46, 53, 101, 45, 49] :=
  Ser.num (t := ⟨true, [48], some [53], some ⟨false, some true, [49]⟩⟩) (by decide) (by decide +kernel)

/-- `"aA\n"`: a raw character, a `\u` escape and a two-character escape -/
theorem ex_str : Ser (.str ['a', 'A', '\n']) (34 :: (([97] ++ ([92, 117, 48, 48, 52, 49] ++ ([92, 110] ++ []))) ++ [34])) :=
  Ser.str (StrBody.cons (StrItem.raw 'a' (by decide) (by decide) (by decide))
    (StrBody.cons (StrItem.uni 48 48 52 49 0 0 4 1 rfl rfl rfl rfl (Or.inl (by decide)))
      (StrBody.cons (StrItem.esc 110 '\n' rfl) StrBody.nil)))

theorem ex_ser : Ser exValue (utf8 exText.toList) := by
  have hk : Ser (.str ['k']) (34 :: (([107] ++ []) ++ [34])) :=
    Ser.str (StrBody.cons (StrItem.raw 'k' (by decide) (by decide) (by decide)) StrBody.nil)
  have he : Ser (.str []) (34 :: ([] ++ [34])) := Ser.str StrBody.nil
  have hinner : Ser (.arr [.num (.flt (.fin true 7205759403792794 (-57))), .bool true]) _ :=
    Ser.arr (w := []) (by decide)
      (Elems.cons (w1 := []) (w2 := [32]) ex_num2 (by decide) (by decide)
        (Elems.one (w := []) Ser.true (by decide)))
  have hobj : Ser (.obj [(['k'], .arr [.num (.flt (.fin true 7205759403792794 (-57))), .bool true]),
      ([], .obj [])]) _ :=
    Ser.obj (w := []) (by decide)
      (Members.cons (w1 := [32]) (w2 := [32]) (w3 := []) (w4 := [32]) hk (by decide) (by decide) hinner
        (by decide) (by decide)
        (Members.one (w1 := [32]) (w2 := []) (w3 := []) he (by decide) (by decide)
          (Ser.objEmpty (w := [32]) (by decide)) (by decide)))
      (by decide)
  have h : Ser exValue _ :=
    Ser.arr (w := [32]) (by decide)
      (Elems.cons (w1 := [32]) (w2 := [9]) ex_num1 (by decide) (by decide)
        (Elems.cons (w1 := [32]) (w2 := [32]) ex_str (by decide) (by decide)
          (Elems.one (w := [10]) hobj (by decide))))
  -- the literal is `String.ofList` of its characters; evaluating `toList` on it instead is quadratic
  refine Eq.mp (congrArg _ ?_) h
  rw [exText, String.toList_ofList]
  decide +kernel

/-- the example text is read by the model as the example value -/
example : ∃ r', (Reader.ofBytes (utf8 exText.toList)).nextJson = (.ok (some exValue), r') ∧ Ready r' [] :=
  nextJson_ser ex_ser [] (delimited_of_delim (Delim.of_numDelim numDelim_nil)) [] (by decide) _
    (by rw [List.nil_append, List.append_nil]; exact ready_ofBytes _ none)

/-- the items of the stream `<SP>1E2<SP>"aA\n"<LF>-0.5e-1` -/
def exStream : List (JV × List Byte × List Byte) :=
  [(.num (.pos 100), [49, 69, 50], [32]),
   (.str ['a', 'A', '\n'], 34 :: (([97] ++ ([92, 117, 48, 48, 52, 49] ++ ([92, 110] ++ []))) ++ [34]), [10]),
   (.num (.flt (.fin true 7205759403792794 (-57))), [45, 48, 46, 53, 101, 45, 49], [])]

theorem exStream_ok : SepOK exStream :=
  ⟨ex_num1, by decide, Or.inl (by decide), ex_str, by decide, Or.inl (by decide),
    ex_num2, by decide, Or.inr (Or.inl rfl), True.intro⟩

/-- the stream is read as its three values, then end of input -/
example : ∃ r' r'', Reads (Reader.ofBytes (utf8 " 1E2 \"a\\u0041\\n\"\n-0.5e-1".toList) none)
      [.num (.pos 100), .str ['a', 'A', '\n'], .num (.flt (.fin true 7205759403792794 (-57)))] r' ∧
      r'.nextJson = (.ok none, r'') :=
  stream_fidelity_ws [32] (by decide) exStream exStream_ok none

end Jawk.Ser
