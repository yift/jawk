/-
  The sort functions of the expression language (`sort`, `sort_by`, `sort_unique`,
  `sort_by_keys`, `sort_by_values`, `sort_by_values_by`) and repeated `--sort-by`
  keys (property C07).  Core Lean only.

  1. `stableSortBy` (the model of Rust's stable `slice::sort_by`, a `List.mergeSort`) by a key
     under a total preorder: permutation, sorted, stable, and EQUAL to the specification's stable
     insertion sort `SortSpec.sortDir … false` (uniqueness of the stable sort).
  2. the instances for the functions of `Jawk/Model/Eval.lean`.
  3. two and n sort keys: sorting by the least significant key first and the most significant
     key last is the stable sort by the lexicographic comparison.
  4. the direction words `ASC` / `DESC` are case-insensitive.
-/
import Jawk.Model.Eval
import Jawk.Model.Run
import Jawk.Lemmas.EvalEqns
import Jawk.Spec.Sort
import Jawk.Lemmas.Order
import Jawk.Lemmas.SortSpec

namespace Jawk
namespace SortFns
open SortSpec

/-! ## 1. Generic: `stableSortBy` by a key under a total preorder -/

section Generic
variable {α κ : Type} {cmp : κ → κ → Ordering}

/-- the Boolean `≤` handed to `List.mergeSort` -/
def leB (c : α → α → Ordering) (a b : α) : Bool := c a b != .gt

theorem stableSortBy_eq (c : α → α → Ordering) (l : List α) :
    stableSortBy c l = l.mergeSort (leB c) := rfl

theorem leB_iff (c : α → α → Ordering) (a b : α) : leB c a b = true ↔ c a b ≠ .gt := by
  unfold leB; cases c a b <;> decide

theorem leB_trans (H : TotalPreorderCmp cmp) (key : α → κ) (a b c : α) :
    leB (fun x y => cmp (key x) (key y)) a b = true →
    leB (fun x y => cmp (key x) (key y)) b c = true →
    leB (fun x y => cmp (key x) (key y)) a c = true := by
  simp only [leB_iff]; exact H.le_trans _ _ _

theorem leB_total (H : TotalPreorderCmp cmp) (key : α → κ) (a b : α) :
    (leB (fun x y => cmp (key x) (key y)) a b || leB (fun x y => cmp (key x) (key y)) b a) = true := by
  show (cmp (key a) (key b) != .gt || cmp (key b) (key a) != .gt) = true
  rw [H.swap (key a) (key b)]; cases cmp (key a) (key b) <;> decide

/-- no hypothesis at all is needed for the permutation property -/
theorem stableSortBy_perm' (c : α → α → Ordering) (l : List α) : (stableSortBy c l).Perm l :=
  List.mergeSort_perm l _

theorem stableSortBy_perm (_H : TotalPreorderCmp cmp) (key : α → κ) (l : List α) :
    (stableSortBy (fun x y => cmp (key x) (key y)) l).Perm l :=
  stableSortBy_perm' _ l

theorem stableSortBy_length (c : α → α → Ordering) (l : List α) :
    (stableSortBy c l).length = l.length := (stableSortBy_perm' c l).length_eq

theorem stableSortBy_sorted (H : TotalPreorderCmp cmp) (key : α → κ) (l : List α) :
    (stableSortBy (fun x y => cmp (key x) (key y)) l).Pairwise
      (fun a b => cmp (key a) (key b) ≠ .gt) := by
  have h := List.pairwise_mergeSort (le := leB (fun x y => cmp (key x) (key y)))
    (leB_trans H key) (leB_total H key) l
  rw [stableSortBy_eq]
  exact h.imp (fun {a b} hab => (leB_iff _ a b).mp hab)

/-- the same, in the vocabulary of the specification -/
theorem stableSortBy_sortedDir (H : TotalPreorderCmp cmp) (key : α → κ) (l : List α) :
    SortedDir cmp key false (stableSortBy (fun x y => cmp (key x) (key y)) l) :=
  stableSortBy_sorted H key l

/-- every sorted sub-sequence of the input survives in order (core's statement of stability) -/
theorem stableSortBy_sublist (H : TotalPreorderCmp cmp) (key : α → κ) {l ys : List α}
    (hs : ys.Pairwise (fun a b => cmp (key a) (key b) ≠ .gt)) (hsub : ys.Sublist l) :
    ys.Sublist (stableSortBy (fun x y => cmp (key x) (key y)) l) := by
  rw [stableSortBy_eq]
  exact List.sublist_mergeSort (leB_trans H key) (leB_total H key)
    (hs.imp (fun {a b} hab => (leB_iff _ a b).mpr hab)) hsub

/-- ties keep arrival order -/
theorem stableSortBy_stable (H : TotalPreorderCmp cmp) (key : α → κ) (l : List α) (k : κ) :
    (stableSortBy (fun x y => cmp (key x) (key y)) l).filter (fun x => cmp (key x) k = .eq)
      = l.filter (fun x => cmp (key x) k = .eq) := by
  -- the rows of one class compare `.eq`, so their sub-sequence is sorted and survives in order
  have hpw : (l.filter (fun x => cmp (key x) k = .eq)).Pairwise
      (fun a b => cmp (key a) (key b) ≠ .gt) :=
    List.pairwise_of_forall_mem_list fun a ha b hb => by
      rw [H.eq_trans (of_decide_eq_true (List.mem_filter.mp ha).2)
        (H.eq_symm (of_decide_eq_true (List.mem_filter.mp hb).2))]
      decide
  have hsub := stableSortBy_sublist H key hpw List.filter_sublist
  have hsub' := hsub.filter (fun x => decide (cmp (key x) k = .eq))
  rw [List.filter_filter] at hsub'
  simp only [Bool.and_self] at hsub'
  have hlen := ((stableSortBy_perm H key l).filter (fun x => decide (cmp (key x) k = .eq))).length_eq
  exact (hsub'.eq_of_length hlen.symm).symm

/-! ### uniqueness of the stable sort -/

/-- a list that is sorted is determined by its multiset and the order inside each class -/
theorem sorted_stable_unique (H : TotalPreorderCmp cmp) (key : α → κ) :
    ∀ (L₁ L₂ : List α), L₁.Perm L₂ →
      L₁.Pairwise (fun a b => cmp (key a) (key b) ≠ .gt) →
      L₂.Pairwise (fun a b => cmp (key a) (key b) ≠ .gt) →
      (∀ k, L₁.filter (fun x => cmp (key x) k = .eq) = L₂.filter (fun x => cmp (key x) k = .eq)) →
      L₁ = L₂
  | [], L₂, hp, _, _, _ => hp.nil_eq
  | a :: t₁, [], hp, _, _, _ => absurd hp.length_eq (by simp)
  | a :: t₁, b :: t₂, hp, h₁, h₂, hf => by
    rw [List.pairwise_cons] at h₁ h₂
    -- `a` and `b` are both minimal, hence in the same class
    have hle : ∀ {a b : α} {t₁ t₂ : List α}, (a :: t₁).Perm (b :: t₂) →
        (∀ z ∈ t₁, cmp (key a) (key z) ≠ .gt) → cmp (key a) (key b) ≠ .gt := by
      intro a b t₁ t₂ hp h
      rcases List.mem_cons.mp (hp.mem_iff.mpr (List.mem_cons_self ..)) with rfl | hb
      · rw [H.refl]; decide
      · exact h b hb
    have hbe : cmp (key b) (key a) = .eq := by
      cases h : cmp (key b) (key a) with
      | eq => rfl
      | lt => exact absurd h (H.ne_gt_iff.mp (hle hp h₁.1))
      | gt => exact absurd h (hle hp.symm h₂.1)
    have hae : cmp (key a) (key a) = .eq := H.refl _
    have e := hf (key a)
    rw [List.filter_cons, List.filter_cons] at e
    simp only [hae, hbe, decide_true, if_true] at e
    have hhead : a = b := (List.cons.inj e).1
    subst hhead
    congr 1
    refine sorted_stable_unique H key t₁ t₂ (List.Perm.cons_inv hp) h₁.2 h₂.2 ?_
    intro k
    have e := hf k
    rw [List.filter_cons, List.filter_cons] at e
    split at e
    · exact (List.cons.inj e).2
    · exact e

/-- BRIDGE: the model's stable sort is the specification's stable (insertion) sort -/
theorem stableSortBy_eq_sortDir (H : TotalPreorderCmp cmp) (key : α → κ) (l : List α) :
    stableSortBy (fun x y => cmp (key x) (key y)) l = sortDir cmp key false l := by
  apply sorted_stable_unique H key
  · exact (stableSortBy_perm H key l).trans (sortDir_perm H key false l).symm
  · exact stableSortBy_sorted H key l
  · exact sortDir_sorted H key false l
  · intro k
    rw [stableSortBy_stable H key l k, sortDir_stable H key false l k]

/-! non-vacuity (`List.mergeSort` is defined by well-founded recursion and does not reduce in the
kernel, so the concrete instances are computed through the bridge) -/
example : stableSortBy JV.cmp [.bool true, .null, .bool false] = [.null, .bool false, .bool true] :=
  (stableSortBy_eq_sortDir Order.cmp_total_preorder id _).trans rfl
/-- ties keep arrival order -/
example : stableSortBy (fun (x y : Nat × Nat) => compare x.1 y.1) [(2, 0), (1, 1), (2, 2), (1, 3)]
    = [(1, 1), (1, 3), (2, 0), (2, 2)] :=
  (stableSortBy_eq_sortDir Order.compareNat_total_preorder (Prod.fst : Nat × Nat → Nat) _).trans (by decide)

end Generic

/-! ## 2. The sort functions of the expression language -/

section Functions

/-- `Option<JsonValue>::cmp` (`None` first) is a total preorder -/
theorem cmpOpt_total_preorder : TotalPreorderCmp cmpOpt where
  refl a := by cases a with
    | none => rfl
    | some a => exact Order.cmp_refl a
  swap a b := by cases a <;> cases b <;> first | rfl | exact Order.cmp_swap _ _
  le_trans a b c := by
    cases a <;> cases b <;> cases c <;> simp only [cmpOpt] <;> intro h1 h2 <;>
      first
        | exact Order.cmp_le_trans _ _ _ h1 h2
        | exact absurd rfl h1
        | exact absurd rfl h2
        | decide

theorem cmpOpt_none_first (v : JV) : cmpOpt none (some v) = .lt := rfl
theorem cmpOpt_some (a b : JV) : cmpOpt (some a) (some b) = JV.cmp a b := rfl

/-! ### `sort` : `stableSortBy JV.cmp l` -/

theorem callFn_sort (ev : Ev) (orc : Oracles) (args : List Expr) (ctx : Ctx) (l : List JV)
    (h : applyArg ev args ctx 0 = .ok (some (.arr l))) :
    callFn ev orc "sort" args ctx = .ok (some (.arr (stableSortBy JV.cmp l))) := by
  apply callFn_list
  rw [callList]
  simp only [h, ok_bind]

theorem sort_perm (l : List JV) : (stableSortBy JV.cmp l).Perm l :=
  stableSortBy_perm' _ l

theorem sort_eq_spec (l : List JV) : stableSortBy JV.cmp l = sortDir JV.cmp id false l :=
  stableSortBy_eq_sortDir Order.cmp_total_preorder id l

/-! ### `sort_by_values` : members of an object by value -/

theorem callFn_sort_by_values (ev : Ev) (orc : Oracles) (args : List Expr) (ctx : Ctx)
    (m : List (Str × JV)) (h : applyArg ev args ctx 0 = .ok (some (.obj m))) :
    callFn ev orc "sort_by_values" args ctx
      = .ok (some (.obj (stableSortBy (fun (x y : Str × JV) => JV.cmp x.2 y.2) m))) := by
  apply callFn_object
  rw [callObject]
  simp only [h, ok_bind]

/-! ### `sort_by_keys` : members of an object by name (code point order) -/

theorem callFn_sort_by_keys (ev : Ev) (orc : Oracles) (args : List Expr) (ctx : Ctx)
    (m : List (Str × JV)) (h : applyArg ev args ctx 0 = .ok (some (.obj m))) :
    callFn ev orc "sort_by_keys" args ctx
      = .ok (some (.obj (stableSortBy (fun (x y : Str × JV) => cmpStr x.1 y.1) m))) := by
  apply callFn_object
  rw [callObject]
  simp only [h, ok_bind]

/-! ### `sort_by`, `sort_by_values_by` : by an evaluated key, a missing key first

The functions evaluate the key expression once per element (`mapM'`), zip, sort the pairs on the
second component and project.  A successful `mapM'` makes the key list a function of the elements
(`keyOf`), so the result is the stable sort of the ELEMENTS by that key. -/

/-- the key of an element, given the (successful) key evaluator -/
def keyOf {β : Type} (f : β → Except Abort (Option JV)) (v : β) : Option JV :=
  match f v with
  | .ok k => k
  | .error _ => none

theorem mapM'_ok {β : Type} (f : β → Except Abort (Option JV)) :
    ∀ (l : List β) (keys : List (Option JV)), mapM' f l = .ok keys → keys = l.map (keyOf f)
  | [], keys, h => by
    simp only [mapM'] at h
    cases h; rfl
  | x :: xs, keys, h => by
    simp only [mapM'] at h
    cases hx : f x with
    | error e => rw [hx] at h; cases h
    | ok k =>
      rw [hx] at h
      cases hxs : mapM' f xs with
      | error e => rw [hxs] at h; cases h
      | ok ks =>
        rw [hxs] at h
        have ih := mapM'_ok f xs ks hxs
        cases h
        simp only [List.map_cons, keyOf, hx, ih]

theorem mapM'_length {β : Type} (f : β → Except Abort (Option JV)) (l : List β)
    (keys : List (Option JV)) (h : mapM' f l = .ok keys) : keys.length = l.length := by
  rw [mapM'_ok f l keys h, List.length_map]

/-- sort the elements paired with their keys on the key, then forget the keys
(the body of `sort_by` / `sort_by_values_by`) -/
def sortZip {β : Type} (items : List β) (keys : List (Option JV)) : List β :=
  (stableSortBy (fun (x y : β × Option JV) => cmpOpt x.2 y.2) (items.zip keys)).map (·.1)

/-- when the keys are a function of the elements, `sortZip` is the stable sort by that key -/
theorem sortZip_map {β : Type} (g : β → Option JV) (items : List β) :
    sortZip items (items.map g) = stableSortBy (fun x y => cmpOpt (g x) (g y)) items := by
  unfold sortZip
  have h := List.map_mergeSort (r := leB (fun x y => cmpOpt (g x) (g y)))
    (s := leB (fun (x y : β × Option JV) => cmpOpt x.2 y.2)) (f := fun x => (x, g x)) (l := items)
    (fun a _ b _ => rfl)
  rw [← List.map_prod_left_eq_zip, stableSortBy_eq, stableSortBy_eq, ← h, List.map_map]
  simp [Function.comp_def]

/-- permutation even for an arbitrary key list of the right length -/
theorem sortZip_perm {β : Type} (items : List β) (keys : List (Option JV))
    (hlen : keys.length = items.length) : (sortZip items keys).Perm items := by
  unfold sortZip
  have h := (stableSortBy_perm' (fun (x y : β × Option JV) => cmpOpt x.2 y.2) (items.zip keys)).map
    (·.1)
  rwa [List.map_fst_zip (by omega)] at h

/-- `sort_by` on an array: evaluate the keys (the first failure aborts), then `sortZip` -/
theorem callFn_sort_by_bind (ev : Ev) (orc : Oracles) (args : List Expr) (ctx : Ctx)
    (l : List JV) (h : applyArg ev args ctx 0 = .ok (some (.arr l))) :
    callFn ev orc "sort_by" args ctx
      = (do let keys ← mapM' (fun v => applyArg ev args (ctx.withInput v) 1) l
            .ok (some (.arr (sortZip l keys))) : R) := by
  apply callFn_list
  rw [callList]
  simp only [h, ok_bind]
  rfl

theorem callFn_sort_by (ev : Ev) (orc : Oracles) (args : List Expr) (ctx : Ctx) (l : List JV)
    (keys : List (Option JV)) (h : applyArg ev args ctx 0 = .ok (some (.arr l)))
    (hk : mapM' (fun v => applyArg ev args (ctx.withInput v) 1) l = .ok keys) :
    callFn ev orc "sort_by" args ctx = .ok (some (.arr (sortZip l keys))) := by
  rw [callFn_sort_by_bind ev orc args ctx l h, hk]; rfl

/-- a failing key evaluation aborts `sort_by` with the same abort -/
theorem callFn_sort_by_error (ev : Ev) (orc : Oracles) (args : List Expr) (ctx : Ctx) (l : List JV)
    (e : Abort) (h : applyArg ev args ctx 0 = .ok (some (.arr l)))
    (hk : mapM' (fun v => applyArg ev args (ctx.withInput v) 1) l = .error e) :
    callFn ev orc "sort_by" args ctx = .error e := by
  rw [callFn_sort_by_bind ev orc args ctx l h, hk]; rfl

/-- `sort_by` is the stable sort of the elements by their evaluated key under `cmpOpt` -/
theorem callFn_sort_by_eq (ev : Ev) (orc : Oracles) (args : List Expr) (ctx : Ctx) (l : List JV)
    (keys : List (Option JV)) (h : applyArg ev args ctx 0 = .ok (some (.arr l)))
    (hk : mapM' (fun v => applyArg ev args (ctx.withInput v) 1) l = .ok keys) :
    callFn ev orc "sort_by" args ctx = .ok (some (.arr (stableSortBy
      (fun x y => cmpOpt (keyOf (fun v => applyArg ev args (ctx.withInput v) 1) x)
                         (keyOf (fun v => applyArg ev args (ctx.withInput v) 1) y)) l))) := by
  rw [callFn_sort_by ev orc args ctx l keys h hk, mapM'_ok _ l keys hk, sortZip_map]

theorem callFn_sort_by_values_by (ev : Ev) (orc : Oracles) (args : List Expr) (ctx : Ctx)
    (m : List (Str × JV)) (keys : List (Option JV))
    (h : applyArg ev args ctx 0 = .ok (some (.obj m)))
    (hk : mapM' (fun (kv : Str × JV) => applyArg ev args (ctx.withInput kv.2) 1) m = .ok keys) :
    callFn ev orc "sort_by_values_by" args ctx = .ok (some (.obj (sortZip m keys))) := by
  apply callFn_object
  rw [callObject]
  simp only [h, hk, ok_bind]
  rfl

theorem callFn_sort_by_values_by_eq (ev : Ev) (orc : Oracles) (args : List Expr) (ctx : Ctx)
    (m : List (Str × JV)) (keys : List (Option JV))
    (h : applyArg ev args ctx 0 = .ok (some (.obj m)))
    (hk : mapM' (fun (kv : Str × JV) => applyArg ev args (ctx.withInput kv.2) 1) m = .ok keys) :
    callFn ev orc "sort_by_values_by" args ctx = .ok (some (.obj (stableSortBy
      (fun x y =>
        cmpOpt (keyOf (fun (kv : Str × JV) => applyArg ev args (ctx.withInput kv.2) 1) x)
               (keyOf (fun (kv : Str × JV) => applyArg ev args (ctx.withInput kv.2) 1) y)) m))) := by
  rw [callFn_sort_by_values_by ev orc args ctx m keys h hk, mapM'_ok _ m keys hk, sortZip_map]

theorem sort_by_eq_spec {β : Type} (g : β → Option JV) (l : List β) :
    stableSortBy (fun x y => cmpOpt (g x) (g y)) l = sortDir cmpOpt g false l :=
  stableSortBy_eq_sortDir cmpOpt_total_preorder g l

/-- elements without a key come first, in arrival order -/
theorem sort_by_none_first {β : Type} (g : β → Option JV) (l : List β) :
    (stableSortBy (fun x y => cmpOpt (g x) (g y)) l).filter (fun x => cmpOpt (g x) none = .eq)
      = l.filter (fun x => cmpOpt (g x) none = .eq) :=
  stableSortBy_stable cmpOpt_total_preorder g l none

/-! ### `sort_unique` : sort, then `Vec::dedup` -/

/-- `R` holds between every two NEIGHBOURS of the list -/
def AdjacentAll {α : Type} (R : α → α → Prop) : List α → Prop
  | [] => True
  | [_] => True
  | a :: b :: t => R a b ∧ AdjacentAll R (b :: t)

theorem AdjacentAll.of_append {α : Type} {R : α → α → Prop} :
    ∀ {l : List α} (_ : AdjacentAll R l) (l₁ l₂ : List α) (a b : α), l = l₁ ++ a :: b :: l₂ → R a b
  | [], _, l₁, l₂, a, b, e => by cases l₁ <;> cases e
  | [x], _, l₁, l₂, a, b, e => by
    cases l₁ with
    | nil => cases e
    | cons y ys => cases ys <;> cases e
  | x :: y :: t, h, [], l₂, a, b, e => by
    cases e; exact h.1
  | x :: y :: t, h, z :: zs, l₂, a, b, e => by
    have e' : y :: t = zs ++ a :: b :: l₂ := (List.cons.inj e).2
    exact AdjacentAll.of_append h.2 zs l₂ a b e'

theorem AdjacentAll.getElem {α : Type} {R : α → α → Prop} {l : List α} (h : AdjacentAll R l)
    (i : Nat) (hi : i + 1 < l.length) : R (l[i]'(by omega)) (l[i + 1]'hi) := by
  induction l generalizing i with
  | nil => simp at hi
  | cons x t ih =>
    cases t with
    | nil => simp at hi
    | cons y t =>
      cases i with
      | zero => exact h.1
      | succ i => exact ih h.2 i (by simpa using hi)

/-- neighbours related by a transitive relation: all pairs related -/
theorem AdjacentAll.pairwise {α : Type} {R : α → α → Prop} (tr : ∀ a b c, R a b → R b c → R a c) :
    ∀ {l : List α}, AdjacentAll R l → l.Pairwise R
  | [], _ => List.Pairwise.nil
  | [x], _ => by simp
  | x :: y :: t, h => by
    have ih := AdjacentAll.pairwise tr h.2
    rw [List.pairwise_cons] at ih ⊢
    refine ⟨?_, List.pairwise_cons.mpr ih⟩
    intro z hz
    rcases List.mem_cons.mp hz with rfl | hz
    · exact h.1
    · exact tr _ _ _ h.1 (ih.1 z hz)

theorem dedupBy_cons_cons (eq : JV → JV → Bool) (x y : JV) (rest : List JV) :
    dedupBy eq (x :: y :: rest)
      = if eq x y then dedupBy eq (x :: rest) else x :: dedupBy eq (y :: rest) := by
  rw [dedupBy]

/-- `dedup` keeps the head -/
theorem dedupBy_head (eq : JV → JV → Bool) (x : JV) (l : List JV) :
    ∃ t, dedupBy eq (x :: l) = x :: t := by
  induction l with
  | nil => exact ⟨[], by rw [dedupBy]⟩
  | cons y rest ih =>
    rw [dedupBy_cons_cons]
    split
    · exact ih
    · exact ⟨_, rfl⟩

theorem dedupBy_sublist (eq : JV → JV → Bool) (l : List JV) : (dedupBy eq l).Sublist l := by
  fun_induction dedupBy eq l with
  | case1 => exact List.Sublist.refl _
  | case2 x => exact List.Sublist.refl _
  | case3 x y rest h ih =>
    exact ih.trans (List.Sublist.cons_cons x (List.sublist_cons_self y rest))
  | case4 x y rest h ih => exact List.Sublist.cons_cons x ih

/-- no two neighbours of the result are equal (`==`) -/
theorem dedupBy_adjacent (eq : JV → JV → Bool) (l : List JV) :
    AdjacentAll (fun a b => eq a b = false) (dedupBy eq l) := by
  fun_induction dedupBy eq l with
  | case1 => exact trivial
  | case2 x => exact trivial
  | case3 x y rest h ih => exact ih
  | case4 x y rest h ih =>
    obtain ⟨t, ht⟩ := dedupBy_head eq y rest
    rw [ht] at ih ⊢
    exact ⟨by simpa using h, ih⟩

/-- nothing is lost: a dropped element is `==` to a kept one (the head of its run) -/
theorem dedupBy_cover (eq : JV → JV → Bool) (l : List JV) :
    ∀ x ∈ l, x ∈ dedupBy eq l ∨ ∃ y ∈ dedupBy eq l, eq y x = true := by
  fun_induction dedupBy eq l with
  | case1 => intro x hx; cases hx
  | case2 x => intro z hz; exact Or.inl hz
  | case3 x y rest h ih =>
    intro z hz
    rcases List.mem_cons.mp hz with rfl | hz
    · exact ih _ (List.mem_cons_self ..)
    · rcases List.mem_cons.mp hz with rfl | hz
      · obtain ⟨t, ht⟩ := dedupBy_head eq x rest
        exact Or.inr ⟨x, by rw [ht]; exact List.mem_cons_self .., h⟩
      · exact ih z (List.mem_cons_of_mem _ hz)
  | case4 x y rest h ih =>
    intro z hz
    rcases List.mem_cons.mp hz with rfl | hz
    · exact Or.inl (List.mem_cons_self ..)
    · rcases ih z hz with h1 | ⟨w, hw, e⟩
      · exact Or.inl (List.mem_cons_of_mem _ h1)
      · exact Or.inr ⟨w, List.mem_cons_of_mem _ hw, e⟩

/-- the body of `sort_unique` -/
def sortUnique (l : List JV) : List JV := dedupBy JV.beq (stableSortBy JV.cmp l)

theorem callFn_sort_unique (ev : Ev) (orc : Oracles) (args : List Expr) (ctx : Ctx) (l : List JV)
    (h : applyArg ev args ctx 0 = .ok (some (.arr l))) :
    callFn ev orc "sort_unique" args ctx = .ok (some (.arr (sortUnique l))) := by
  apply callFn_list
  rw [callList]
  simp only [h, ok_bind]
  rfl

theorem sort_unique_sublist (l : List JV) : (sortUnique l).Sublist (stableSortBy JV.cmp l) :=
  dedupBy_sublist _ _

/-- every result element is an input element -/
theorem sort_unique_subset (l : List JV) : ∀ x ∈ sortUnique l, x ∈ l := fun _ hx =>
  (sort_perm l).mem_iff.mp ((sort_unique_sublist l).subset hx)

theorem sort_unique_sorted (l : List JV) :
    (sortUnique l).Pairwise (fun a b => JV.cmp a b ≠ .gt) :=
  (stableSortBy_sorted Order.cmp_total_preorder id l).sublist (sort_unique_sublist l)

theorem sort_unique_adjacent (l : List JV) :
    AdjacentAll (fun a b => JV.beq a b = false) (sortUnique l) := dedupBy_adjacent _ _

/-- every input element is in the result or `==` to a result element -/
theorem sort_unique_cover (l : List JV) :
    ∀ x ∈ l, x ∈ sortUnique l ∨ ∃ y ∈ sortUnique l, JV.beq y x = true := fun x hx =>
  dedupBy_cover JV.beq _ x ((sort_perm l).mem_iff.mpr hx)

/-- where `==` and the order agree on the elements of the input (`cmp = .eq → ==` is what is
used), the result is STRICTLY ascending, so no two of its elements are `==` or order-equal -/
theorem sort_unique_strict (l : List JV)
    (hcoh : ∀ a ∈ l, ∀ b ∈ l, JV.cmp a b = .eq → JV.beq a b = true) :
    (sortUnique l).Pairwise (fun a b => JV.cmp a b = .lt) := by
  have hadj : AdjacentAll (fun a b => JV.cmp a b = .lt ∧ a ∈ l ∧ b ∈ l) (sortUnique l) := by
    have h1 := sort_unique_adjacent l
    have h2 := sort_unique_sorted l
    have h3 := sort_unique_subset l
    generalize sortUnique l = r at h1 h2 h3
    induction r with
    | nil => exact trivial
    | cons x t ih =>
      cases t with
      | nil => exact trivial
      | cons y t =>
        rw [List.pairwise_cons] at h2
        have hx := h3 x (List.mem_cons_self ..)
        have hy := h3 y (List.mem_cons_of_mem _ (List.mem_cons_self ..))
        refine ⟨⟨?_, hx, hy⟩, ih h1.2 h2.2 (fun z hz => h3 z (List.mem_cons_of_mem _ hz))⟩
        have hle := h2.1 y (List.mem_cons_self ..)
        have hne : JV.cmp x y ≠ .eq := fun he => by
          have := hcoh x hx y hy he
          rw [h1.1] at this; cases this
        cases hc : JV.cmp x y with
        | lt => rfl
        | eq => exact absurd hc hne
        | gt => exact absurd hc hle
  have hpw := AdjacentAll.pairwise (R := fun a b => JV.cmp a b = .lt ∧ a ∈ l ∧ b ∈ l)
    (fun a b c hab hbc => ⟨Order.cmp_total_preorder.lt_trans hab.1 hbc.1, hab.2.1, hbc.2.2⟩) hadj
  exact hpw.imp (fun {a b} h => h.1)

/-! #### non-vacuity and a limit of `sort_unique`

`==` ignores the member order of objects, the order does not (objects with the same names are
ordered by their printed text).  Two `==` objects therefore need not be neighbours after sorting, and
`dedup` only looks at neighbours: both survive. -/

/-- toy evaluator for the examples: constants evaluate to themselves, any other expression to the
input, except that Booleans have no key -/
def ev0 : Ev := fun e ctx =>
  match e with
  | .const v => .ok (some v)
  | _ => match ctx.input with
    | .bool _ => .ok none
    | v => .ok (some v)

example : callFn ev0 {} "sort" [.const (.arr [.bool true, .null, .bool false])] {}
    = .ok (some (.arr [.null, .bool false, .bool true])) := by
  rw [callFn_sort ev0 {} _ {} [.bool true, .null, .bool false] rfl, sort_eq_spec]; rfl

example : callFn ev0 {} "sort_unique" [.const (.arr [.bool true, .null, .bool true])] {}
    = .ok (some (.arr [.null, .bool true])) := by
  rw [callFn_sort_unique ev0 {} _ {} [.bool true, .null, .bool true] rfl, sortUnique, sort_eq_spec]
  show Except.ok (some (JV.arr (dedupBy JV.beq [.null, .bool true, .bool true]))) = _
  simp [dedupBy, JV.beq]

/-- the element without a key (the Boolean) goes first -/
example : callFn ev0 {} "sort_by" [.const (.arr [.str [], .bool true, .null]), .var []] {}
    = .ok (some (.arr [.bool true, .null, .str []])) := by
  rw [callFn_sort_by_eq ev0 {} _ {} [.str [], .bool true, .null] [some (.str []), none, some .null]
    rfl rfl, sort_by_eq_spec]
  rfl

example : callFn ev0 {} "sort_by_keys"
    [.const (.obj [("b".toList, .null), ("a".toList, .bool true)])] {}
    = .ok (some (.obj [("a".toList, .bool true), ("b".toList, .null)])) := by
  rw [callFn_sort_by_keys ev0 {} _ {} _ rfl, stableSortBy_eq_sortDir Order.cmpStr_total_preorder (fun x : Str × JV => x.1)]; rfl

example : callFn ev0 {} "sort_by_values"
    [.const (.obj [("a".toList, .bool true), ("b".toList, .null)])] {}
    = .ok (some (.obj [("b".toList, .null), ("a".toList, .bool true)])) := by
  rw [callFn_sort_by_values ev0 {} _ {} _ rfl, stableSortBy_eq_sortDir Order.cmp_total_preorder (fun x : Str × JV => x.2)]; rfl

example : callFn ev0 {} "sort_by_values_by"
    [.const (.obj [("a".toList, .str []), ("b".toList, .bool true)]), .var []] {}
    = .ok (some (.obj [("b".toList, .bool true), ("a".toList, .str [])])) := by
  rw [callFn_sort_by_values_by_eq ev0 {} _ {} [("a".toList, .str []), ("b".toList, .bool true)]
    [some (.str []), none] rfl rfl, sort_by_eq_spec]
  rfl

/-- the hypothesis of `sort_unique_strict` is satisfiable -/
example : (sortUnique [.bool true, .null, .bool true]).Pairwise (fun a b => JV.cmp a b = .lt) :=
  sort_unique_strict _ (by
    intro a ha b hb
    simp only [List.mem_cons, List.not_mem_nil, or_false] at ha hb
    rcases ha with rfl | rfl | rfl <;> rcases hb with rfl | rfl | rfl <;> simp [JV.beq, JV.cmp, JV.rank])

def dupObj₁ : JV := .obj [("a".toList, .bool true), ("b".toList, .bool false)]
def dupObj₂ : JV := .obj [("a".toList, .bool true), ("b".toList, .bool true)]
def dupObj₃ : JV := .obj [("b".toList, .bool false), ("a".toList, .bool true)]

/-- a limit of `sort_unique`: three distinct-looking objects, the first and the last `==` (same
members, other order); the order puts `{"a": true, "b": true}` between them, so `dedup` removes
nothing and the "unique" result holds two `==` values. -/
theorem sort_unique_keeps_equal_objects :
    sortUnique [dupObj₃, dupObj₂, dupObj₁] = [dupObj₁, dupObj₂, dupObj₃] ∧
    JV.beq dupObj₁ dupObj₃ = true := by
  constructor
  · rw [sortUnique, sort_eq_spec]
    show dedupBy JV.beq [dupObj₁, dupObj₂, dupObj₃] = _
    simp [dedupBy, dupObj₁, dupObj₂, dupObj₃, JV.beq, JV.beqMembers, JV.beqLookup]
  · simp [dupObj₁, dupObj₃, JV.beq, JV.beqMembers, JV.beqLookup]

end Functions

/-! ## 3. Several sort keys

Repeated `--sort-by k₁ --sort-by k₂ …` build a chain of sorters in which the LAST key given sorts
first and the FIRST key given sorts last.  Every sorter is the stable sort `sortDir`
(`BucketSort.bucketsEmit_runUnbounded`), so the list that leaves the chain is
`sortDir k₁ d₁ (sortDir k₂ d₂ (… l))`: the stable sort by the lexicographic comparison, `k₁` most
significant. -/

section MultiKey
variable {α κ : Type} {cmp : κ → κ → Ordering}

theorem filter_and_congr_right {p : α → Bool} (q : α → Bool) {A B : List α}
    (h : A.filter p = B.filter p) :
    A.filter (fun x => q x && p x) = B.filter (fun x => q x && p x) := by
  rw [← List.filter_filter, ← List.filter_filter, h]

theorem filter_and_congr_left {p : α → Bool} (q : α → Bool) {A B : List α}
    (h : A.filter p = B.filter p) :
    A.filter (fun x => p x && q x) = B.filter (fun x => p x && q x) := by
  have e : (fun x => p x && q x) = (fun x => q x && p x) := funext fun x => Bool.and_comm _ _
  rw [e]; exact filter_and_congr_right q h

/-- **two keys**: sort by `k2` first, then (stably) by `k1` -/
theorem two_key_lex (H : TotalPreorderCmp cmp) (k1 k2 : α → κ) (d1 d2 : Bool) (l : List α) :
    (sortDir cmp k1 d1 (sortDir cmp k2 d2 l)).Perm l ∧
    SortedDir cmp k1 d1 (sortDir cmp k1 d1 (sortDir cmp k2 d2 l)) ∧
    (∀ k, SortedDir cmp k2 d2
      ((sortDir cmp k1 d1 (sortDir cmp k2 d2 l)).filter (fun x => cmp (k1 x) k = .eq))) ∧
    (∀ a b,
      (sortDir cmp k1 d1 (sortDir cmp k2 d2 l)).filter
          (fun x => cmp (k1 x) a = .eq && cmp (k2 x) b = .eq)
        = l.filter (fun x => cmp (k1 x) a = .eq && cmp (k2 x) b = .eq)) := by
  refine ⟨?_, ?_, ?_, ?_⟩
  · exact (sortDir_perm H k1 d1 _).trans (sortDir_perm H k2 d2 l)
  · exact sortDir_sorted H k1 d1 _
  · intro k
    rw [sortDir_stable H k1 d1 _ k]
    exact (sortDir_sorted H k2 d2 l).filter _
  · intro a b
    rw [filter_and_congr_left (fun x => decide (cmp (k2 x) b = .eq)) (sortDir_stable H k1 d1 _ a),
      filter_and_congr_right (fun x => decide (cmp (k1 x) a = .eq)) (sortDir_stable H k2 d2 l b)]

/-! ### any number of keys -/

/-- the comparison of two rows on one key in one direction -/
def dirCmp (cmp : κ → κ → Ordering) (k : α → κ) (d : Bool) (a b : α) : Ordering :=
  if d then cmp (k b) (k a) else cmp (k a) (k b)

/-- lexicographic comparison on a vector of (key, direction), the first key most significant -/
def lexCmp (cmp : κ → κ → Ordering) : List ((α → κ) × Bool) → α → α → Ordering
  | [], _, _ => .eq
  | kd :: rest, a, b => (dirCmp cmp kd.1 kd.2 a b).then (lexCmp cmp rest a b)

/-- the chain of sorters: the least significant (last) key sorts first -/
def multiSort (cmp : κ → κ → Ordering) (ks : List ((α → κ) × Bool)) (l : List α) : List α :=
  ks.foldr (fun kd acc => sortDir cmp kd.1 kd.2 acc) l

theorem multiSort_nil (l : List α) : multiSort cmp [] l = l := rfl
theorem multiSort_cons (kd : (α → κ) × Bool) (ks : List ((α → κ) × Bool)) (l : List α) :
    multiSort cmp (kd :: ks) l = sortDir cmp kd.1 kd.2 (multiSort cmp ks l) := rfl
theorem multiSort_two (k1 k2 : α → κ) (d1 d2 : Bool) (l : List α) :
    multiSort cmp [(k1, d1), (k2, d2)] l = sortDir cmp k1 d1 (sortDir cmp k2 d2 l) := rfl

theorem dirCmp_total_preorder (H : TotalPreorderCmp cmp) (k : α → κ) (d : Bool) :
    TotalPreorderCmp (dirCmp cmp k d) := by
  cases d
  · exact H.pullback k
  · exact (H.pullback k).flip

theorem lexCmp_total_preorder (H : TotalPreorderCmp cmp) :
    ∀ ks : List ((α → κ) × Bool), TotalPreorderCmp (lexCmp cmp ks)
  | [] => ⟨fun _ => rfl, fun _ _ => rfl, fun _ _ _ _ _ => by simp [lexCmp]⟩
  | kd :: rest => (dirCmp_total_preorder H kd.1 kd.2).lexProd (lexCmp_total_preorder H rest)

theorem sortedDir_iff_dirCmp (H : TotalPreorderCmp cmp) (k : α → κ) (d : Bool) (L : List α) :
    SortedDir cmp k d L ↔ L.Pairwise (fun a b => dirCmp cmp k d a b ≠ .gt) := by
  unfold SortedDir dirCmp
  cases d
  · simp
  · simp only [if_true]
    constructor
    · exact fun h => h.imp (fun {a b} hab => H.ne_gt_iff.mpr hab)
    · exact fun h => h.imp (fun {a b} hab => H.ne_gt_iff.mp hab)

theorem dirCmp_eq_iff (H : TotalPreorderCmp cmp) (k : α → κ) (d : Bool) (a b : α) :
    dirCmp cmp k d a b = .eq ↔ cmp (k a) (k b) = .eq := by
  unfold dirCmp
  cases d
  · simp
  · simp only [if_true]; exact ⟨H.eq_symm, H.eq_symm⟩

theorem lexCmp_cons_eq_iff (H : TotalPreorderCmp cmp) (kd : (α → κ) × Bool)
    (rest : List ((α → κ) × Bool)) (a b : α) :
    lexCmp cmp (kd :: rest) a b = .eq ↔ cmp (kd.1 a) (kd.1 b) = .eq ∧ lexCmp cmp rest a b = .eq := by
  simp only [lexCmp, Ordering.then_eq_eq, dirCmp_eq_iff H]

/-- one more (more significant) key: a stable sort refines the order already there -/
theorem sortDir_refines (H : TotalPreorderCmp cmp) (k : α → κ) (d : Bool) (c₂ : α → α → Ordering)
    (L : List α) (hL : L.Pairwise (fun a b => c₂ a b ≠ .gt)) :
    (sortDir cmp k d L).Pairwise (fun a b => (dirCmp cmp k d a b).then (c₂ a b) ≠ .gt) := by
  have hs := (sortedDir_iff_dirCmp H k d _).mp (sortDir_sorted H k d L)
  rw [List.pairwise_iff_forall_sublist] at hs ⊢
  intro a b hab
  have h1 := hs hab
  cases hc : dirCmp cmp k d a b with
  | gt => exact absurd hc h1
  | lt => simp [Ordering.then]
  | eq =>
    show c₂ a b ≠ .gt
    -- both rows are in the class of `k a`, whose internal order is that of `L`
    have ha : cmp (k a) (k a) = .eq := H.refl _
    have hb : cmp (k b) (k a) = .eq := H.eq_symm ((dirCmp_eq_iff H k d a b).mp hc)
    have hf := hab.filter (fun x => decide (cmp (k x) (k a) = .eq))
    rw [sortDir_stable H k d L (k a)] at hf
    simp only [List.filter_cons, ha, hb, decide_true, if_true, List.filter_nil] at hf
    exact (List.pairwise_iff_forall_sublist.mp hL) (hf.trans List.filter_sublist)

theorem multiSort_perm (H : TotalPreorderCmp cmp) (ks : List ((α → κ) × Bool)) (l : List α) :
    (multiSort cmp ks l).Perm l := by
  induction ks with
  | nil => exact List.Perm.refl _
  | cons kd rest ih => exact (sortDir_perm H kd.1 kd.2 _).trans ih

theorem multiSort_length (H : TotalPreorderCmp cmp) (ks : List ((α → κ) × Bool)) (l : List α) :
    (multiSort cmp ks l).length = l.length := (multiSort_perm H ks l).length_eq

/-- **n keys**: the result is non-decreasing under the lexicographic comparison -/
theorem multiSort_sorted (H : TotalPreorderCmp cmp) (ks : List ((α → κ) × Bool)) (l : List α) :
    (multiSort cmp ks l).Pairwise (fun a b => lexCmp cmp ks a b ≠ .gt) := by
  induction ks with
  | nil =>
    rw [List.pairwise_iff_forall_sublist]
    intro a b _; simp [lexCmp]
  | cons kd rest ih => exact sortDir_refines H kd.1 kd.2 (lexCmp cmp rest) _ ih

/-- **n keys**: rows that tie on every key keep arrival order -/
theorem multiSort_stable (H : TotalPreorderCmp cmp) (ks : List ((α → κ) × Bool)) (l : List α)
    (r : α) :
    (multiSort cmp ks l).filter (fun x => lexCmp cmp ks x r = .eq)
      = l.filter (fun x => lexCmp cmp ks x r = .eq) := by
  induction ks with
  | nil => rfl
  | cons kd rest ih =>
    have e : (fun x => decide (lexCmp cmp (kd :: rest) x r = .eq))
        = (fun x => decide (cmp (kd.1 x) (kd.1 r) = .eq) && decide (lexCmp cmp rest x r = .eq)) := by
      funext x
      rw [← Bool.decide_and]
      exact decide_eq_decide.mpr (lexCmp_cons_eq_iff H kd rest x r)
    rw [e, multiSort_cons,
      filter_and_congr_left (fun x => decide (lexCmp cmp rest x r = .eq))
        (sortDir_stable H kd.1 kd.2 (multiSort cmp rest l) (kd.1 r)),
      filter_and_congr_right (fun x => decide (cmp (kd.1 x) (kd.1 r) = .eq)) ih]

/-- **n keys**: the chain of sorters IS the stable sort by the lexicographic comparison -/
theorem multiSort_eq_sortDir_lex (H : TotalPreorderCmp cmp) (ks : List ((α → κ) × Bool))
    (l : List α) : multiSort cmp ks l = sortDir (lexCmp cmp ks) id false l := by
  have HL := lexCmp_total_preorder H ks
  apply sorted_stable_unique HL id
  · exact (multiSort_perm H ks l).trans (sortDir_perm HL id false l).symm
  · exact multiSort_sorted H ks l
  · exact sortDir_sorted HL id false l
  · intro r
    rw [sortDir_stable HL id false l r]
    exact multiSort_stable H ks l r

/-- … and Rust's stable `sort_by` with the lexicographic comparison gives the same list -/
theorem multiSort_eq_stableSortBy_lex (H : TotalPreorderCmp cmp) (ks : List ((α → κ) × Bool))
    (l : List α) : multiSort cmp ks l = stableSortBy (lexCmp cmp ks) l := by
  rw [multiSort_eq_sortDir_lex H]
  exact (stableSortBy_eq_sortDir (lexCmp_total_preorder H ks) id l).symm

/-! non-vacuity: rows `(a, b)`, first key `a` ascending, second key `b` descending -/
example : multiSort (compare : Nat → Nat → Ordering)
      [((·.1), false), ((·.2), true)] [((2 : Nat), (1 : Nat)), (1, 1), (2, 3), (1, 2), (2, 1)]
    = [(1, 2), (1, 1), (2, 3), (2, 1), (2, 1)] := by decide
example : lexCmp (compare : Nat → Nat → Ordering) [((·.1), false), ((·.2), true)]
    ((1 : Nat), (2 : Nat)) (1, 1) = .lt := by decide

end MultiKey

/-! ## 4. The direction word of `--sort-by` is case-insensitive

`directionOf` trims the text, upper-cases it (`str::to_uppercase`; of all non-ASCII characters only
U+017F LATIN SMALL LETTER LONG S upper-cases to one of the letters of `ASC` / `DESC`) and compares
with `""`, `ASC`, `DESC`.  Changing the ASCII case of any letters of ANY text (no ASCII hypothesis is
needed) does not change the answer. -/

section Direction

example : directionOf "asc".toList = .ok false := rfl
example : directionOf "ASC".toList = .ok false := rfl
example : directionOf [] = .ok false := rfl
example : directionOf "  ".toList = .ok false := rfl
example : directionOf "desc".toList = .ok true := rfl
example : directionOf "DeSc".toList = .ok true := rfl
example : directionOf " DESC\t".toList = .ok true := rfl
/-- as in Rust, where `"ſ".to_uppercase() == "S"` -/
example : directionOf "deſc".toList = .ok true := rfl
example : directionOf "down".toList = .error "UnknownOrder" := rfl
example : directionOf "de sc".toList = .error "UnknownOrder" := rfl

theorem toUpper_eq_self_or_lower (c : Char) :
    c.toUpper = c ∨ (97 ≤ c.toNat ∧ c.toNat ≤ 122) := by
  by_cases h : 'a'.val ≤ c.val ∧ c.val ≤ 'z'.val
  · right
    exact ⟨UInt32.le_iff_toNat_le.mp h.1, UInt32.le_iff_toNat_le.mp h.2⟩
  · left
    unfold Char.toUpper
    exact dif_neg h

theorem toLower_eq_self_or_upper (c : Char) :
    c.toLower = c ∨ (65 ≤ c.toNat ∧ c.toNat ≤ 90) := by
  by_cases h : 'A'.val ≤ c.val ∧ c.val ≤ 'Z'.val
  · right
    exact ⟨UInt32.le_iff_toNat_le.mp h.1, UInt32.le_iff_toNat_le.mp h.2⟩
  · left
    unfold Char.toLower
    exact dif_neg h

/-- a property of the 26 letters starting at code point `base` -/
theorem letter_cases (base : Nat) (P : Char → Prop) (h : ∀ n < 26, P (Char.ofNat (base + n)))
    (c : Char) (hc : base ≤ c.toNat ∧ c.toNat ≤ base + 25) : P c := by
  have := h (c.toNat - base) (by omega)
  rwa [show base + (c.toNat - base) = c.toNat by omega, Char.ofNat_toNat] at this

/-- what `directionOf` sees of a character -/
def dirKey (c : Char) : Bool × Char := (isTrimWs c, upperChar c)

theorem dirKey_toUpper (c : Char) : dirKey c.toUpper = dirKey c := by
  rcases toUpper_eq_self_or_lower c with h | h
  · rw [h]
  · exact letter_cases 97 (fun c => dirKey c.toUpper = dirKey c) (by decide) c h

theorem dirKey_toLower (c : Char) : dirKey c.toLower = dirKey c := by
  rcases toLower_eq_self_or_upper c with h | h
  · rw [h]
  · exact letter_cases 65 (fun c => dirKey c.toLower = dirKey c) (by decide) c h

/-- the general statement: texts that agree position by position on white space and on the
upper-cased letter have the same direction.  Trimming commutes with `map dirKey`, so the
upper-cased trimmed text is a function of `t.map dirKey`. -/
theorem directionOf_congr {t u : Str} (h : t.map dirKey = u.map dirKey) :
    directionOf t = directionOf u := by
  have e : ∀ s : Str, (trimStr s).map upperChar
      = ((((s.map dirKey).dropWhile (·.1)).reverse.dropWhile (·.1)).reverse).map (·.2) := by
    intro s
    simp only [trimStr, List.dropWhile_map, ← List.map_reverse, List.map_map]
    rfl
  simp only [directionOf, e, h]

theorem directionOf_map (f : Char → Char) (hf : ∀ c, dirKey (f c) = dirKey c) (t : Str) :
    directionOf (t.map f) = directionOf t := by
  apply directionOf_congr
  rw [List.map_map]
  exact List.map_congr_left fun c _ => hf c

/-- **case-insensitive**: upper-casing the text does not change the direction (ALL texts) -/
theorem directionOf_map_toUpper (t : Str) : directionOf (t.map Char.toUpper) = directionOf t :=
  directionOf_map _ dirKey_toUpper t

/-- … nor does lower-casing -/
theorem directionOf_map_toLower (t : Str) : directionOf (t.map Char.toLower) = directionOf t :=
  directionOf_map _ dirKey_toLower t

/-- … nor changing the case of only some letters, e.g. `DeSc`: any per-position choice between
leaving the character, upper-casing it and lower-casing it -/
theorem directionOf_mixed_case (t u : Str) (hlen : u.length = t.length)
    (h : ∀ i (hi : i < t.length),
      u[i]'(by omega) = t[i] ∨ u[i]'(by omega) = t[i].toUpper ∨ u[i]'(by omega) = t[i].toLower) :
    directionOf u = directionOf t := by
  apply directionOf_congr
  apply List.ext_getElem (by rw [List.length_map, List.length_map, hlen])
  intro i _ hi
  rw [List.length_map] at hi
  rw [List.getElem_map, List.getElem_map]
  rcases h i hi with e | e | e <;> rw [e]
  · exact dirKey_toUpper _
  · exact dirKey_toLower _

-- (`decide` computes the two lengths; `rfl` would compare the two literals' `toList` terms first,
-- which is far slower)
example : directionOf "DeSc".toList = directionOf "desc".toList :=
  directionOf_mixed_case "desc".toList "DeSc".toList (by decide) (by decide)

end Direction

end SortFns
end Jawk
