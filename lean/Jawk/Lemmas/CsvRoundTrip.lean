/-
  Property C15: a csv/text row has one field per selection, and a csv row is machine-readable:
  the RFC 4180 reader of `Jawk/Spec/Csv.lean` reads back exactly the denotation of the values.
-/
import Jawk.Model.Run
import Jawk.Model.Stages
import Jawk.Model.Print
import Jawk.Spec.Csv
import Jawk.Lemmas.PipelinePure
import Jawk.Lemmas.RoundTripLex
namespace Jawk.CsvRT
open Jawk Jawk.Csv

/-! ### The row text (characters) and its relation to `textRow` (byte chunks) -/

/-- the text of a row: the fields joined by the item separator, then the row separator -/
def rowText (o : TextOpts) (rowSep : Str) (vals : List (Option JV)) : Str :=
  List.intercalate o.itemsSep (vals.map (textField o)) ++ rowSep

theorem utf8_nil : utf8 [] = [] := rfl

theorem intercalate_cons_cons {α} (sep x y : List α) (ys : List (List α)) :
    List.intercalate sep (x :: y :: ys) = x ++ sep ++ List.intercalate sep (y :: ys) := by
  simp [List.intercalate, List.intersperse]

theorem intercalate_single {α} (sep x : List α) : List.intercalate sep [x] = x := by
  simp [List.intercalate, List.intersperse]

theorem intercalate_nil {α} (sep : List α) : List.intercalate sep ([] : List (List α)) = [] := by
  simp [List.intercalate, List.intersperse]

/-- the chunks of the fields (without the row separator), numbering the fields from `k` -/
theorem fieldChunks_flatten (o : TextOpts) (vals : List (Option JV)) (k n : Nat)
    (hn : n = k + vals.length) :
    ((vals.zipIdx k).flatMap (fun (v, i) =>
      [rowBytes (textField o v)] ++
        (if i + 1 < n then [rowBytes o.itemsSep] else []))).flatten
      = utf8 (List.intercalate o.itemsSep (vals.map (textField o))) := by
  induction vals generalizing k with
  | nil => simp [utf8_nil]
  | cons v vs ih =>
    cases vs with
    | nil =>
      have : ¬ (k + 1 < n) := by simp at hn; omega
      simp [rowBytes, this]
    | cons w ws =>
      have h := ih (k + 1) (by simp at hn ⊢; omega)
      have hlt : k + 1 < n := by simp at hn; omega
      rw [List.zipIdx_cons, List.flatMap_cons, List.flatten_append, h]
      simp only [List.map_cons, intercalate_cons_cons, RT.utf8_append]
      simp [hlt, rowBytes]

/-- with `length` = the number of values, the bytes `textRow` emits are the UTF-8 of
the fields intercalated with the item separator, followed by the row separator -/
theorem row_is_intercalate (o : TextOpts) (rowSep : Str) (vals : List (Option JV)) :
    (textRow o rowSep vals.length vals).flatten
      = utf8 (List.intercalate o.itemsSep (vals.map (textField o)) ++ rowSep) := by
  have h := fieldChunks_flatten o vals 0 vals.length (by omega)
  unfold textRow
  rw [List.flatten_append, h, RT.utf8_append]
  simp [rowBytes]

/-! ### The regenerated csv preset -/

/-- no quote, comma, CR or LF -/
def PlainChars (t : Str) : Prop := ∀ c ∈ t, c ≠ ',' ∧ c ≠ '"' ∧ c ≠ '\n' ∧ c ≠ '\r'

/-- a non-empty text without quote, comma, CR, LF: reads back as itself as an unquoted field -/
def Plain (t : Str) : Prop := t ≠ [] ∧ PlainChars t

instance (t : Str) : Decidable (PlainChars t) := by unfold PlainChars; infer_instance
instance (t : Str) : Decidable (Plain t) := by unfold Plain; infer_instance

theorem csvOpts_eq : csvOpts =
    { itemsSep := [',', ' '], strPrefix := ['"'], strPostfix := ['"'], headers := true,
      escapes := [['"', '"', '"']], nullKw := "null".toList, trueKw := "True".toList,
      falseKw := "False".toList, missingKw := none } := by decide +kernel

/-- What the round trip needs of the text options: `, ` between the fields; strings between quotes, every quote
doubled and nothing else escaped; the three keywords; nothing for an absent value. -/
structure CsvShape (o : TextOpts) : Prop where
  sep : o.itemsSep = [',', ' ']
  pre : o.strPrefix = ['"']
  post : o.strPostfix = ['"']
  esc : ∀ c, escapeLookup o.escapes c = if c = '"' then some ['"', '"'] else none
  null : o.nullKw = "null".toList
  tru : o.trueKw = "True".toList
  fal : o.falseKw = "False".toList
  missing : o.missingKw = none

theorem csvShape : CsvShape csvOpts := by
  rw [csvOpts_eq]
  refine ⟨rfl, rfl, rfl, fun c => ?_, rfl, rfl, rfl, rfl⟩
  show (if '"' = c then some ['"', '"'] else none) = _
  by_cases h : c = '"'
  · rw [h]
  · rw [if_neg h, if_neg (Ne.symm h)]

theorem csvOpts_headers : csvOpts.headers = true := by rw [csvOpts_eq]

/-- the regenerated preset has exactly the shape the round trip needs -/
theorem csvPreset_ok :
    csvOpts.itemsSep = ", ".toList ∧
    csvOpts.strPrefix = ['"'] ∧ csvOpts.strPostfix = ['"'] ∧
    csvOpts.headers = true ∧
    escapeLookup csvOpts.escapes '"' = some ['"', '"'] ∧
    (∀ c, c ≠ '"' → escapeLookup csvOpts.escapes c = none) ∧
    csvOpts.nullKw = "null".toList ∧ csvOpts.trueKw = "True".toList ∧
    csvOpts.falseKw = "False".toList ∧
    Plain csvOpts.nullKw ∧ Plain csvOpts.trueKw ∧ Plain csvOpts.falseKw ∧
    csvOpts.missingKw = none := by
  have h := csvShape
  refine ⟨h.sep, h.pre, h.post, csvOpts_headers, by rw [h.esc, if_pos rfl], fun c hc => by rw [h.esc, if_neg hc],
    h.null, h.tru, h.fal, ?_, ?_, ?_, h.missing⟩
  · rw [h.null]; decide +kernel
  · rw [h.tru]; decide +kernel
  · rw [h.fal]; decide +kernel

/-! ### Quoted fields -/

/-- every quote doubled -/
def dbl (s : Str) : Str := s.flatMap (fun c => if c = '"' then ['"', '"'] else [c])

theorem dbl_nil : dbl [] = [] := rfl

theorem dbl_cons (c : Char) (s : Str) :
    dbl (c :: s) = (if c = '"' then ['"', '"'] else [c]) ++ dbl s := by
  simp [dbl]

/-- a string is printed between quotes with every quote doubled, nothing else changed -/
theorem textString_csv {o : TextOpts} (h : CsvShape o) (s : Str) : textString o s = '"' :: dbl s ++ ['"'] := by
  rw [textString, h.pre, h.post]
  refine congrArg (fun f => '"' :: (List.flatMap f s ++ ['"'])) (funext fun c => ?_)
  rw [h.esc]
  by_cases hc : c = '"'
  · rw [if_pos hc, if_pos hc]
  · rw [if_neg hc, if_neg hc]

theorem quotedTail_cons_ne (c : Char) (t : List Char) (hc : c ≠ '"') :
    quotedTail (c :: t) = consContent c (quotedTail t) := by
  cases t with
  | nil => simp [quotedTail, hc, consContent]
  | cons d cs => simp [quotedTail, hc]

theorem quotedTail_qq (t : List Char) :
    quotedTail ('"' :: '"' :: t) = consContent '"' (quotedTail t) := by
  simp [quotedTail]

theorem quotedTail_close (t : List Char) (ht : t.head? ≠ some '"') :
    quotedTail ('"' :: t) = some ([], t) := by
  cases t with
  | nil => simp [quotedTail]
  | cons d cs =>
    have : d ≠ '"' := by simpa using ht
    simp [quotedTail, this]

/-- the quoted-field scanner undoes the doubling, for EVERY content (commas, CR, LF and
quotes included), and stops right after the closing quote -/
theorem quotedTail_dbl (s : Str) (rest : List Char) (hr : rest.head? ≠ some '"') :
    quotedTail (dbl s ++ '"' :: rest) = some (s, rest) := by
  induction s with
  | nil => simpa [dbl_nil] using quotedTail_close rest hr
  | cons c s ih =>
    rw [dbl_cons]
    by_cases hc : c = '"'
    · subst hc
      simp only [if_true, List.cons_append, List.nil_append]
      rw [quotedTail_qq, ih]; rfl
    · simp only [hc, if_false, List.cons_append, List.nil_append]
      rw [quotedTail_cons_ne _ _ hc, ih]; rfl

theorem readField_quoted {o : TextOpts} (h : CsvShape o) (s : Str) (rest : List Char) (hr : rest.head? ≠ some '"') :
    readField (textString o s ++ rest) = some ((true, s), rest) := by
  rw [textString_csv h]
  simp only [readField, List.cons_append, List.head?_cons, if_true, List.tail_cons,
    List.append_assoc, List.nil_append]
  rw [quotedTail_dbl s rest hr]

/-! ### Unquoted fields -/

theorem unquotedTail_plain (t : Str) (c : Char) (r : List Char) (ht : PlainChars t)
    (hc : c = ',' ∨ c = '\n') :
    unquotedTail (t ++ c :: r) = some (t, c :: r) := by
  induction t with
  | nil => simp [unquotedTail, hc]
  | cons a t ih =>
    have ha := ht a (by simp)
    have ht' : PlainChars t := fun x hx => ht x (by simp [hx])
    simp only [List.cons_append, unquotedTail, ha.1, ha.2.1, ha.2.2.1, ha.2.2.2, or_self,
      if_false]
    rw [ih ht']; rfl

theorem readField_plain (t : Str) (c : Char) (r : List Char) (ht : PlainChars t)
    (hc : c = ',' ∨ c = '\n') :
    readField (t ++ c :: r) = some ((false, t), c :: r) := by
  have hh : (t ++ c :: r).head? ≠ some '"' := by
    cases t with
    | nil => rcases hc with rfl | rfl <;> simp
    | cons a t => simpa using (ht a (by simp)).2.1
  simp only [readField, hh, if_false]
  rw [unquotedTail_plain t c r ht hc]

/-- decimal digits are plain -/
theorem plain_toDigits (n : Nat) : Plain (Nat.toDigits 10 n) := by
  refine ⟨Nat.toDigits_ne_nil, ?_⟩
  intro c hc
  have hd : c.isDigit = true := Nat.isDigit_of_mem_toDigits (by decide) (by decide) hc
  refine ⟨?_, ?_, ?_, ?_⟩ <;> (intro h; subst h; exact absurd hd (by decide))

theorem plain_append_left {a b : Str} (ha : Plain a) (hb : PlainChars b) : Plain (a ++ b) := by
  refine ⟨by simp [ha.1], ?_⟩
  intro c hc
  rcases List.mem_append.1 hc with h | h
  · exact ha.2 c h
  · exact hb c h

theorem plainChars_append {a b : Str} (ha : PlainChars a) (hb : PlainChars b) :
    PlainChars (a ++ b) := by
  intro c hc
  rcases List.mem_append.1 hc with h | h
  · exact ha c h
  · exact hb c h

theorem plainChars_replicate_zero (n : Nat) : PlainChars (List.replicate n '0') := by
  intro c hc
  rw [(List.mem_replicate.1 hc).2]
  decide

theorem plain_cons {c : Char} {t : Str} (hc : PlainChars [c]) (ht : PlainChars t) :
    Plain (c :: t) :=
  plain_append_left (a := [c]) ⟨by simp, hc⟩ ht

/-- a minus sign in front keeps a text plain -/
theorem plain_sign (c : Prop) [Decidable c] {t : Str} (h : Plain t) : Plain (if c then '-' :: t else t) := by
  split
  · exact plain_cons (by decide) h.2
  · exact h

/-- non-negative integers print plain -/
theorem plain_printNum_pos (n : Nat) : Plain (printNum (.pos n)) := plain_toDigits n

/-- negative integers print plain -/
theorem plain_printNum_neg (i : Int) : Plain (printNum (.neg i)) :=
  plain_sign _ (plain_toDigits _)

/-- the positional rendering of a float: sign, digits, zeros and a point only -/
theorem plain_render (neg : Bool) (digits : Nat) (p : Int) : Plain (F64.render neg digits p) := by
  unfold F64.render
  generalize F64.stripZeros 400 digits p = dp
  obtain ⟨d, q⟩ := dp
  have hds : Plain (Nat.toDigits 10 d) := plain_toDigits d
  refine plain_sign _ ?_
  split
  · decide
  · split
    · exact plain_append_left hds (plainChars_replicate_zero _)
    · show Plain (if _ then _ else _)
      split
      · refine ⟨by simp, plainChars_append (plainChars_append ?_ (by decide)) ?_⟩
        · exact fun c hc => hds.2 c (List.mem_of_mem_take hc)
        · exact fun c hc => hds.2 c (List.mem_of_mem_drop hc)
      · exact plain_append_left (plain_append_left (by decide) (plainChars_replicate_zero _)) hds.2
/-- EVERY float prints plain (`NaN`, `inf`, `-inf`, the
positional rendering, and the `<?>` fallback of the model), so the round trip needs no hypothesis
on the numbers -/
theorem plain_toDisplay (f : F64) : Plain f.toDisplay := by
  unfold F64.toDisplay F64.toDisplay?
  split
  · decide
  · split <;> decide
  · split
    · exact plain_render _ _ _
    · decide

/-- every number prints plain -/
theorem plain_printNum_all (n : Num) : Plain (printNum n) := by
  cases n with
  | pos n => exact plain_printNum_pos n
  | neg i => exact plain_printNum_neg i
  | flt f => exact plain_toDisplay f

/-! ### Rows -/

/-- the text of compound values inside a csv field -/
abbrev compoundOpts : JsonOpts := { style := .consise, utf8Strings := true }

/-- what a csv field denotes -/
def csvField : Option JV → Field
  | none => (false, [])
  | some .null => (false, "null".toList)
  | some (.bool true) => (false, "True".toList)
  | some (.bool false) => (false, "False".toList)
  | some (.num n) => (false, printNum n)
  | some (.str s) => (true, s)
  | some (.arr vs) => (true, printJson compoundOpts (.arr vs))
  | some (.obj kvs) => (true, printJson compoundOpts (.obj kvs))

/-- every float among the selected values prints plain (integers always do) -/
def FloatsPlain (vals : List (Option JV)) : Prop :=
  ∀ f, some (JV.num (.flt f)) ∈ vals → Plain f.toDisplay

/-- one field, followed by a comma or a line feed, reads back as its denotation -/
theorem readField_textField {o : TextOpts} (h : CsvShape o) (v : Option JV) (c : Char) (r : List Char)
    (hc : c = ',' ∨ c = '\n') :
    readField (textField o v ++ c :: r) = some (csvField v, c :: r) := by
  have hq : (c :: r).head? ≠ some '"' := by rcases hc with rfl | rfl <;> simp
  have plain := fun t ht => readField_plain t c r ht hc
  cases v with
  | none => rw [textField, h.missing]; exact plain [] (fun _ hx => nomatch hx)
  | some j =>
    rw [textField]
    cases j with
    | null => rw [textValue, h.null]; exact plain _ (by decide +kernel)
    | bool b =>
      cases b
      · rw [textValue, h.fal]; exact plain _ (by decide +kernel)
      · rw [textValue, h.tru]; exact plain _ (by decide +kernel)
    | num n => exact plain _ (plain_printNum_all n).2
    | str s => exact readField_quoted h s _ hq
    | arr vs => exact readField_quoted h _ _ hq
    | obj kvs => exact readField_quoted h _ _ hq

theorem terminator_comma_blank (r : List Char) : terminator (',' :: ' ' :: r) = some (true, r) := by
  simp [terminator]

theorem terminator_lf (r : List Char) : terminator ('\n' :: r) = some (false, r) := by
  simp [terminator]

/-- the fields of a row, read with enough fuel -/
theorem readFields_row {o : TextOpts} (h : CsvShape o) (vals : List (Option JV)) (hne : vals ≠ [])
    (fuel : Nat) (hfuel : vals.length ≤ fuel) (rest : List Char) :
    readFields fuel (List.intercalate [',', ' '] (vals.map (textField o)) ++ '\n' :: rest)
      = some (vals.map csvField, rest) := by
  induction vals generalizing fuel with
  | nil => exact absurd rfl hne
  | cons v vs ih =>
    cases fuel with
    | zero => simp at hfuel
    | succ fuel =>
      cases vs with
      | nil =>
        simp only [List.map_cons, List.map_nil, intercalate_single]
        simp only [readFields, readField_textField h v '\n' rest (Or.inr rfl), terminator_lf]
      | cons w ws =>
        have ih := ih (by simp) fuel (by simp at hfuel ⊢; omega)
        simp only [List.map_cons, intercalate_cons_cons, List.append_assoc, List.cons_append,
          List.nil_append]
        simp only [List.map_cons] at ih
        simp only [readFields, readField_textField h v ',' _ (Or.inl rfl), terminator_comma_blank, ih]

theorem length_le_intercalate {α} (sep : List α) (xs : List (List α)) (hsep : sep ≠ []) :
    xs.length ≤ (List.intercalate sep xs).length + 1 := by
  induction xs with
  | nil => simp
  | cons x xs ih =>
    cases xs with
    | nil => simp
    | cons y ys =>
      have : 0 < sep.length := List.length_pos_iff.2 hsep
      rw [intercalate_cons_cons]
      simp only [List.length_cons, List.length_append] at ih ⊢
      omega

/-- the csv reader reads a printed row back as the denotations of the selected
values, in order, and stops exactly after the row; this holds for EVERY non-empty list of
values (strings with commas, quotes, line breaks; arrays and objects; absent values; every number
prints plain, `plain_printNum_all`).

About `[none]` (a single absent value): the row is the empty line, which the reader of
`Spec/Csv.lean` (as the RFC 4180 grammar) reads as ONE empty unquoted field, so the statement
holds there too; a reader that maps an empty line to zero fields (python) would differ. -/
theorem readRecord_rowText {o : TextOpts} (h : CsvShape o) (vals : List (Option JV)) (hne : vals ≠ [])
    (rest : List Char) :
    Csv.readRecord (rowText o ['\n'] vals ++ rest) = some (vals.map csvField, rest) := by
  rw [rowText, h.sep]
  have hlen := length_le_intercalate [',', ' '] (vals.map (textField o)) (by simp)
  rw [List.length_map] at hlen
  rw [readRecord, if_neg (by simp), List.append_assoc]
  exact readFields_row h vals hne _ (by simp; omega) rest

theorem csv_row_roundtrip (vals : List (Option JV)) (hne : vals ≠ []) (rest : List Char) :
    Csv.readRecord (rowText csvOpts ['\n'] vals ++ rest) = some (vals.map csvField, rest) :=
  readRecord_rowText csvShape vals hne rest

/-- one field per selection: the number of fields read back is the number of values -/
theorem field_count (vals : List (Option JV)) (hne : vals ≠ []) (rest : List Char) :
    ∃ fields, Csv.readRecord (rowText csvOpts ['\n'] vals ++ rest) = some (fields, rest) ∧
      fields.length = vals.length :=
  ⟨vals.map csvField, csv_row_roundtrip vals hne rest, by simp⟩

/-- the whole csv output (header row and data rows are all rows of this shape): a sequence of
printed rows reads back, record by record, as the denotations of the rows -/
theorem csv_rows_roundtrip (rows : List (List (Option JV))) (hne : ∀ r ∈ rows, r ≠ []) :
    Csv.readAll (rows.flatMap (rowText csvOpts ['\n'])) = some (rows.map (·.map csvField)) := by
  have key : ∀ fuel, rows.length < fuel →
      Csv.readAllAux fuel (rows.flatMap (rowText csvOpts ['\n']))
        = some (rows.map (·.map csvField)) := by
    intro fuel hfuel
    induction rows generalizing fuel with
    | nil =>
      cases fuel with
      | zero => simp at hfuel
      | succ fuel => simp [readAllAux]
    | cons r rs ih =>
      cases fuel with
      | zero => simp at hfuel
      | succ fuel =>
        have hr : r ≠ [] := hne r (by simp)
        have hne0 : rowText csvOpts ['\n'] r ++ rs.flatMap (rowText csvOpts ['\n']) ≠ [] := by
          simp [rowText]
        rw [List.flatMap_cons, readAllAux, if_neg hne0, csv_row_roundtrip r hr]
        simp only
        rw [ih (fun x hx => hne x (by simp [hx])) fuel (by simp at hfuel; omega)]
        rfl
  have hlen : rows.length ≤ (rows.flatMap (rowText csvOpts ['\n'])).length := by
    clear key hne
    induction rows with
    | nil => simp
    | cons r rs ih =>
      simp only [List.flatMap_cons, List.length_cons, List.length_append, rowText]
      omega
  exact key _ (by omega)

/-! ### The sink: header row and data rows -/

/-- with titles, `start` writes exactly one row: the titles, in order, as strings -/
theorem header_row (sep : Str) (titles : List Str) (w : Writer) (ht : titles ≠ []) :
    sinkStart (.text csvOpts sep) titles w
      = wres (putAll w (textRow csvOpts sep titles.length (titles.map (some ∘ JV.str)))) := by
  have hl : titles.length > 0 := List.length_pos_iff.2 ht
  simp only [sinkStart, csvOpts_headers, if_true, hl]
  rfl

/-- on a writer that accepts everything: the bytes appended are the UTF-8 of the row
text of the titles -/
theorem header_row_unbounded (sep : Str) (titles : List Str) (w : Writer) (ht : titles ≠ [])
    (hr : w.room = none) (hf : w.failed = false) :
    sinkStart (.text csvOpts sep) titles w
      = .ok { w with out := w.out ++ utf8 (rowText csvOpts sep (titles.map (some ∘ JV.str))) } := by
  have h := row_is_intercalate csvOpts sep (titles.map (some ∘ JV.str))
  rw [List.length_map] at h
  rw [header_row sep titles w ht, (Pipe.putAll_unbounded _ ⟨hr, hf⟩).1,
    Pipe.wres_unbounded (Pipe.Unbounded.wappend ⟨hr, hf⟩ _), h]
  rfl

/-- csv without titles is an error at `start`, nothing is written -/
theorem header_row_no_titles (sep : Str) (w : Writer) :
    sinkStart (.text csvOpts sep) [] w = .error ⟨.invalidInput, w⟩ := by
  simp [sinkStart, csvOpts_headers]

/-- the header row reads back as the selection names, in order, each a quoted field -/
theorem header_reads_back (titles : List Str) (ht : titles ≠ []) (rest : List Char) :
    Csv.readRecord (rowText csvOpts ['\n'] (titles.map (some ∘ JV.str)) ++ rest)
      = some (titles.map (fun t => (true, t)), rest) := by
  have h := csv_row_roundtrip (titles.map (some ∘ JV.str)) (by simpa using ht) rest
  rw [h, List.map_map]
  rfl

/-- a data row of the text sink (any `TextOpts`) on a writer that accepts everything, when the
sink's `length` is the number of selected values: the bytes appended are the UTF-8 of the row text -/
theorem data_row_unbounded (o : TextOpts) (sep : Str) (w : Writer) (ctx : Ctx)
    (hne : ctx.toList ≠ []) (hr : w.room = none) (hf : w.failed = false) :
    sinkProcess (.text o sep) ctx.toList.length w ctx
      = .ok { w with out := w.out ++ utf8 (rowText o sep ctx.toList) } := by
  have hl : ctx.toList.length ≠ 0 := fun h => hne (List.length_eq_zero_iff.1 h)
  rw [Pipe.sinkProcess_pure _ _ ⟨hr, hf⟩, Pipe.sinkBytes, if_pos hl, row_is_intercalate]
  rfl

/-! ### Non-vacuity -/

/-- a sample row, as printed: `"x""y,z⏎w", "[1]", null, , True, 1.5⏎` -/
def sampleRow : List (Option JV) :=
  [some (.str "x\"y,z\nw".toList), some (.arr [.num (.pos 1)]), some .null, none,
    some (.bool true), some (.num (.flt (.fin false 6755399441055744 (-52))))]

example : rowText csvOpts ['\n'] sampleRow
    = "\"x\"\"y,z\nw\", \"[1]\", null, , True, 1.5\n".toList := by decide +kernel

/-- a row with a string containing quote, comma and line feed, an array, null, an absent value,
a boolean and a float: printed and read back by evaluation (no theorem used) -/
example :
    Csv.readRecord (rowText csvOpts ['\n'] sampleRow ++ "next".toList)
    = some ([(true, "x\"y,z\nw".toList), (true, "[1]".toList), (false, "null".toList),
        (false, []), (false, "True".toList), (false, "1.5".toList)], "next".toList) := by
  decide +kernel

/-- the float of the sample row (`1.5`) prints plain -/
example : sampleRow ≠ [] ∧ FloatsPlain sampleRow :=
  ⟨by decide +kernel, fun f _ => plain_toDisplay f⟩

example : Csv.readRecord (rowText csvOpts ['\n'] sampleRow ++ "next".toList)
    = some (sampleRow.map csvField, "next".toList) :=
  csv_row_roundtrip sampleRow (by decide +kernel) _

/-- `[none]`: the empty line reads back as one empty unquoted field -/
example : Csv.readRecord (rowText csvOpts ['\n'] [none] ++ "x\n".toList)
    = some ([(false, [])], "x\n".toList) := by decide +kernel

/-- two rows (a header and a data row), read by evaluation -/
example :
    Csv.readAll ([["a,b".toList, "c".toList].map (some ∘ JV.str),
        [some (.num (.neg (-7))), none]].flatMap (rowText csvOpts ['\n']))
    = some [[(true, "a,b".toList), (true, "c".toList)], [(false, "-7".toList), (false, [])]] := by
  decide +kernel

/-- `quotedTail_dbl`, `unquotedTail_plain` on concrete inputs -/
example : quotedTail (dbl "a\"\n,".toList ++ '"' :: ", 1\n".toList)
    = some ("a\"\n,".toList, ", 1\n".toList) := by decide +kernel
example : unquotedTail ("-12".toList ++ ',' :: " x".toList) = some ("-12".toList, ", x".toList) := by
  decide +kernel

/-- `header_row_unbounded` / `data_row_unbounded` on concrete instances -/
example : sinkStart (.text csvOpts ['\n']) ["a,b".toList, "c".toList] {}
    = .ok { out := utf8 "\"a,b\", \"c\"\n".toList } :=
  header_row_unbounded ['\n'] ["a,b".toList, "c".toList] {} (by decide +kernel) rfl rfl

example : sinkProcess (.text {} ['\n']) 2 {}
      { results := [("a".toList, some (.num (.pos 1))), ("b".toList, some (.str "x".toList))] }
    = .ok { out := utf8 "1\tx\n".toList } :=
  data_row_unbounded {} ['\n'] {}
    { results := [("a".toList, some (.num (.pos 1))), ("b".toList, some (.str "x".toList))] }
    (by decide +kernel) rfl rfl

end Jawk.CsvRT
