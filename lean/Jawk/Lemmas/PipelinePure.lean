/-
  Layer 1 → layer 2 of `Jawk/Spec/Pipeline.lean`: when no expression aborts and the writer never
  fails, the monadic model of the `Process` chain (`process` / `complete` / `feedUntilBreak` /
  `feedAllIgnoring` of `Model/Stages.lean`) is the effect-free machine (`processP` / `completeP` /
  `feedBrk` / `feedAll`), and what it writes is the concatenation of the sink's bytes for the rows
  the machine delivers.  Core Lean only.
-/
import Jawk.Spec.Pipeline
namespace Jawk.Pipe
open Jawk

/-! ### writers that never fail -/

theorem wappend_nil (w : Writer) : wappend w [] = w := by
  simp [wappend]

theorem wappend_wappend (w : Writer) (a b : List Byte) :
    wappend (wappend w a) b = wappend w (a ++ b) := by
  simp [wappend]

theorem wappend_out (w : Writer) (a : List Byte) : (wappend w a).out = w.out ++ a := rfl

theorem Unbounded.wappend {w : Writer} (h : Unbounded w) (bs : List Byte) :
    Unbounded (wappend w bs) := h

theorem put_unbounded {w : Writer} (h : Unbounded w) (bs : List Byte) :
    w.put bs = wappend w bs ∧ Unbounded (wappend w bs) := by
  refine ⟨?_, h.wappend bs⟩
  obtain ⟨hr, hf⟩ := h
  simp [Writer.put, hr, hf, wappend]

theorem putAll_unbounded (chunks : List (List Byte)) {w : Writer} (h : Unbounded w) :
    putAll w chunks = wappend w chunks.flatten ∧ Unbounded (wappend w chunks.flatten) := by
  refine ⟨?_, h.wappend _⟩
  unfold putAll
  induction chunks generalizing w with
  | nil => simp [wappend_nil]
  | cons c cs ih =>
    rw [List.foldl_cons, (put_unbounded h c).1, ih (h.wappend c), wappend_wappend, List.flatten_cons]

theorem wres_unbounded {w : Writer} (h : Unbounded w) : wres w = .ok w := by
  simp [wres, h.2]

theorem sinkProcess_pure (sink : SinkCfg) (n : Nat) {w : Writer} (h : Unbounded w) (ctx : Ctx) :
    sinkProcess sink n w ctx = .ok (wappend w (sinkBytes sink n ctx)) := by
  cases sink with
  | json o sep =>
    simp only [sinkProcess, sinkBytes]
    rw [(putAll_unbounded _ h).1, wres_unbounded (h.wappend _)]
    simp
  | text o sep =>
    simp only [sinkProcess, sinkBytes]
    split
    · rw [(putAll_unbounded _ h).1, wres_unbounded (h.wappend _)]
    · rw [(putAll_unbounded _ h).1, wres_unbounded (h.wappend _)]
      simp

/-! ### the evaluator -/

theorem NoAbort.tail {orc : Oracles} {c : StageCfg} {cs : List StageCfg} (h : NoAbort orc (c :: cs)) :
    NoAbort orc cs :=
  fun c' hc' => h c' (List.mem_cons_of_mem _ hc')

theorem NoAbort.head {orc : Oracles} {c : StageCfg} {cs : List StageCfg} (h : NoAbort orc (c :: cs)) :
    ∀ e ∈ stageExprs c, ∀ ctx : Ctx, ∃ v, eval orc evalFuel e ctx = .ok v :=
  h c List.mem_cons_self

theorem evalE_pure {orc : Oracles} {e : Expr} {ctx : Ctx}
    (h : ∃ v, eval orc evalFuel e ctx = .ok v) (w : Writer) :
    evalE orc w e ctx = .ok (evalT orc e ctx) := by
  obtain ⟨v, hv⟩ := h
  simp [evalE, evalT, liftR, hv]

/-! ### the machine -/

/-- the monadic result that corresponds to a pure step started with writer `w` -/
def okStep (sink : SinkCfg) (n : Nat) (w : Writer) (r : Step) : Res (PState × Decision) :=
  .ok (⟨r.1, wappend w (r.2.1.flatMap (sinkBytes sink n))⟩, r.2.2)

/-- `feedUntilBreak next` refines `feedBrk nextP` whenever `next` refines `nextP` on states
satisfying an invariant `P` that `nextP` preserves -/
theorem feedUntilBreak_gen (sink : SinkCfg) (n : Nat)
    (next : List StageSt → Writer → Ctx → Res (PState × Decision))
    (nextP : List StageSt → Ctx → Step) (P : List StageSt → Prop)
    (H : ∀ sts w ctx, Unbounded w → P sts →
      next sts w ctx = okStep sink n w (nextP sts ctx) ∧ P (nextP sts ctx).1)
    (rows : List Ctx) (sts : List StageSt) (w : Writer) (hw : Unbounded w) (hs : P sts) :
    feedUntilBreak next sts w rows = okStep sink n w (feedBrk nextP sts rows)
      ∧ P (feedBrk nextP sts rows).1 := by
  induction rows generalizing sts w with
  | nil => simp [feedUntilBreak, feedBrk, okStep, wappend_nil, hs]
  | cons c cs ih =>
    obtain ⟨h1, h2⟩ := H sts w c hw hs
    rcases hr : nextP sts c with ⟨s1, o1, d⟩
    rw [hr] at h1 h2
    cases d with
    | brk =>
      simp only [feedUntilBreak, feedBrk, hr, h1, okStep, bind, Except.bind]
      exact ⟨by simp, h2⟩
    | cont =>
      obtain ⟨i1, i2⟩ := ih s1 (wappend w (o1.flatMap (sinkBytes sink n))) (hw.wappend _) h2
      simp only [feedUntilBreak, feedBrk, hr, h1, okStep, bind, Except.bind]
      simp only [okStep] at i1
      refine ⟨?_, i2⟩
      simp [i1, wappend_wappend]

/-- `feedAllIgnoring next` refines `feedAll nextP` under the same assumptions -/
theorem feedAllIgnoring_gen (sink : SinkCfg) (n : Nat)
    (next : List StageSt → Writer → Ctx → Res (PState × Decision))
    (nextP : List StageSt → Ctx → Step) (P : List StageSt → Prop)
    (H : ∀ sts w ctx, Unbounded w → P sts →
      next sts w ctx = okStep sink n w (nextP sts ctx) ∧ P (nextP sts ctx).1)
    (rows : List Ctx) (sts : List StageSt) (w : Writer) (hw : Unbounded w) (hs : P sts) :
    feedAllIgnoring next sts w rows
        = .ok ⟨(feedAll nextP sts rows).1,
            wappend w ((feedAll nextP sts rows).2.flatMap (sinkBytes sink n))⟩
      ∧ P (feedAll nextP sts rows).1 := by
  induction rows generalizing sts w with
  | nil => simp [feedAllIgnoring, feedAll, wappend_nil, hs]
  | cons c cs ih =>
    obtain ⟨h1, h2⟩ := H sts w c hw hs
    obtain ⟨i1, i2⟩ := ih (nextP sts c).1 (wappend w ((nextP sts c).2.1.flatMap (sinkBytes sink n)))
      (hw.wappend _) h2
    simp only [feedAllIgnoring, feedAll, h1, okStep, bind, Except.bind]
    refine ⟨?_, i2⟩
    simp [i1, wappend_wappend]


theorem Shape.tail {c : StageCfg} {cs : List StageCfg} {st : StageSt} {sts : List StageSt}
    (h : Shape (c :: cs) (st :: sts)) : Shape cs sts := h.2

/-- `process_pure` with the result folded into `okStep` (the form the drivers' lemmas take) -/
theorem process_okStep (orc : Oracles) (sink : SinkCfg) (n : Nat) (cfgs : List StageCfg)
    (sts : List StageSt) (w : Writer) (ctx : Ctx)
    (hna : NoAbort orc cfgs) (hw : Unbounded w) (hs : Shape cfgs sts) :
    process orc sink n cfgs sts w ctx = okStep sink n w (processP (evalT orc) cfgs sts ctx)
      ∧ Shape cfgs (processP (evalT orc) cfgs sts ctx).1 := by
  induction cfgs generalizing sts w ctx with
  | nil =>
    simp [process, processP, okStep, sinkProcess_pure sink n hw, Shape, bind, Except.bind]
  | cons c cs ih =>
    cases sts with
    | nil => exact absurd hs (by simp [Shape])
    | cons st sts =>
      have hna' := hna.tail
      have hev := hna.head
      have hs' : Shape cs sts := hs.2
      have hc := hs.1
      have IH := fun sts w ctx hw hs => ih sts w ctx hna' hw hs
      cases c with
      | preset vars defs =>
        obtain ⟨i1, i2⟩ := IH sts w ((ctx.withVariables vars).withDefinitions defs) hw hs'
        simp only [process, processP, i1, okStep, bind, Except.bind]
        exact ⟨trivial, hc, i2⟩
      | split e =>
        have he := evalE_pure (hev e (by simp [stageExprs]) ctx) w
        have F := fun l => feedUntilBreak_gen sink n (process orc sink n cs) (processP (evalT orc) cs)
          (Shape cs) IH (List.map ctx.withInput l) sts w hw hs'
        simp only [process, processP, he, bind, Except.bind]
        rcases hv : evalT orc e ctx with _ | v
        · simp [okStep, wappend_nil, Shape, hs']
        · cases v <;> try (simp [okStep, wappend_nil, Shape, hs']; done)
          rename_i l
          obtain ⟨f1, f2⟩ := F l
          simp only [f1, okStep]
          exact ⟨trivial, hc, f2⟩
      | filter e =>
        have he := evalE_pure (hev e (by simp [stageExprs]) ctx) w
        obtain ⟨i1, i2⟩ := IH sts w ctx hw hs'
        simp only [process, processP, he, bind, Except.bind]
        rcases hv : evalT orc e ctx with _ | v
        · simp [okStep, wappend_nil, Shape, hs']
        · cases v <;> try (simp [okStep, wappend_nil, Shape, hs']; done)
          rename_i b
          cases b
          · simp [okStep, wappend_nil, Shape, hs']
          · simp only [i1, okStep]
            exact ⟨trivial, hc, i2⟩
      | select name e =>
        have he := evalE_pure (hev e (by simp [stageExprs]) ctx) w
        obtain ⟨i1, i2⟩ := IH sts w (ctx.withResult name (evalT orc e ctx)) hw hs'
        simp only [process, processP, he, i1, okStep, bind, Except.bind]
        exact ⟨trivial, hc, i2⟩
      | unique =>
        cases st <;> try (exact False.elim hc)
        rename_i seen
        obtain ⟨i1, i2⟩ := IH sts w ctx hw hs'
        simp only [process, processP]
        split
        · simp [okStep, wappend_nil, Shape, hs']
        · simp only [i1, okStep, bind, Except.bind]
          exact ⟨trivial, trivial, i2⟩
      | sort key desc =>
        cases st <;> try (exact False.elim hc)
        rename_i data space
        have he := evalE_pure (hev key (by simp [stageExprs]) ctx) w
        simp only [process, processP, he, bind, Except.bind]
        rcases hv : evalT orc key ctx with _ | v
        · simp [okStep, wappend_nil, Shape, hs']
        · simp [okStep, wappend_nil, Shape, hs']
      | limit skip take =>
        cases st <;> try (exact False.elim hc)
        rename_i skipped passed
        obtain ⟨i1, i2⟩ := IH sts w ctx hw hs'
        simp only [process, processP]
        split
        · simp [okStep, wappend_nil, Shape, hs']
        · cases take with
          | none =>
            simp only [i1, okStep, bind, Except.bind]
            exact ⟨trivial, trivial, i2⟩
          | some l =>
            simp only []
            split
            · simp [okStep, wappend_nil, Shape, hs']
            · simp only [i1, okStep, bind, Except.bind]
              exact ⟨trivial, trivial, i2⟩
      | group e =>
        cases st <;> try (exact False.elim hc)
        rename_i data
        have he := evalE_pure (hev e (by simp [stageExprs]) ctx) w
        simp only [process, processP, he, bind, Except.bind]
        rcases hv : evalT orc e ctx with _ | v
        · simp [okStep, wappend_nil, Shape, hs']
        · cases v <;> simp [okStep, wappend_nil, Shape, hs']
      | merge =>
        cases st <;> try (exact False.elim hc)
        rename_i data
        simp [process, processP, okStep, wappend_nil, Shape, hs']

/-- one step of the chain is one step of the effect-free machine, the bytes of
the delivered rows are appended to the writer, and the state keeps its shape -/
theorem process_pure (orc : Oracles) (sink : SinkCfg) (n : Nat) (cfgs : List StageCfg)
    (sts : List StageSt) (w : Writer) (ctx : Ctx)
    (hna : NoAbort orc cfgs) (hw : Unbounded w) (hs : Shape cfgs sts) :
    process orc sink n cfgs sts w ctx
        = .ok (⟨(processP (evalT orc) cfgs sts ctx).1,
                wappend w (((processP (evalT orc) cfgs sts ctx).2.1).flatMap (sinkBytes sink n))⟩,
               (processP (evalT orc) cfgs sts ctx).2.2)
      ∧ Shape cfgs (processP (evalT orc) cfgs sts ctx).1 :=
  process_okStep orc sink n cfgs sts w ctx hna hw hs

theorem feedUntilBreak_pure (orc : Oracles) (sink : SinkCfg) (n : Nat) (cfgs : List StageCfg)
    (sts : List StageSt) (w : Writer) (rows : List Ctx)
    (hna : NoAbort orc cfgs) (hw : Unbounded w) (hs : Shape cfgs sts) :
    feedUntilBreak (process orc sink n cfgs) sts w rows
        = .ok (⟨(feedBrk (processP (evalT orc) cfgs) sts rows).1,
                wappend w (((feedBrk (processP (evalT orc) cfgs) sts rows).2.1).flatMap
                  (sinkBytes sink n))⟩,
               (feedBrk (processP (evalT orc) cfgs) sts rows).2.2)
      ∧ Shape cfgs (feedBrk (processP (evalT orc) cfgs) sts rows).1 :=
  feedUntilBreak_gen sink n _ _ (Shape cfgs)
    (fun sts w ctx hw hs => process_okStep orc sink n cfgs sts w ctx hna hw hs) rows sts w hw hs

theorem feedAllIgnoring_pure (orc : Oracles) (sink : SinkCfg) (n : Nat) (cfgs : List StageCfg)
    (sts : List StageSt) (w : Writer) (rows : List Ctx)
    (hna : NoAbort orc cfgs) (hw : Unbounded w) (hs : Shape cfgs sts) :
    feedAllIgnoring (process orc sink n cfgs) sts w rows
        = .ok ⟨(feedAll (processP (evalT orc) cfgs) sts rows).1,
               wappend w (((feedAll (processP (evalT orc) cfgs) sts rows).2).flatMap
                 (sinkBytes sink n))⟩
      ∧ Shape cfgs (feedAll (processP (evalT orc) cfgs) sts rows).1 :=
  feedAllIgnoring_gen sink n _ _ (Shape cfgs)
    (fun sts w ctx hw hs => process_okStep orc sink n cfgs sts w ctx hna hw hs) rows sts w hw hs

theorem complete_pure (orc : Oracles) (sink : SinkCfg) (n : Nat) (cfgs : List StageCfg)
    (sts : List StageSt) (w : Writer)
    (hna : NoAbort orc cfgs) (hw : Unbounded w) (hs : Shape cfgs sts) :
    complete orc sink n cfgs sts w
      = .ok (wappend w ((completeP (evalT orc) cfgs sts).flatMap (sinkBytes sink n))) := by
  induction cfgs generalizing sts w with
  | nil => simp [complete, completeP, wappend_nil]
  | cons c cs ih =>
    cases sts with
    | nil => exact absurd hs (by simp [Shape])
    | cons st sts =>
      have hna' := hna.tail
      have hs' : Shape cs sts := hs.2
      have hc := hs.1
      have IH := fun sts w hw hs => ih sts w hna' hw hs
      cases c with
      | preset vars defs => simpa [complete, completeP] using IH sts w hw hs'
      | split e => simpa [complete, completeP] using IH sts w hw hs'
      | filter e => simpa [complete, completeP] using IH sts w hw hs'
      | select name e => simpa [complete, completeP] using IH sts w hw hs'
      | unique =>
        cases st <;> try (exact False.elim hc)
        simpa [complete, completeP] using IH sts w hw hs'
      | limit skip take =>
        cases st <;> try (exact False.elim hc)
        simpa [complete, completeP] using IH sts w hw hs'
      | sort key desc =>
        cases st <;> try (exact False.elim hc)
        rename_i data space
        obtain ⟨f1, f2⟩ := feedAllIgnoring_pure orc sink n cs sts w (bucketsEmit desc data) hna' hw hs'
        simp only [complete, completeP, f1, bind, Except.bind]
        rw [IH _ _ (hw.wappend _) f2, wappend_wappend, List.flatMap_append]
      | group e =>
        cases st <;> try (exact False.elim hc)
        rename_i data
        obtain ⟨p1, _⟩ := process_pure orc sink n cs sts w
          { input := JV.obj (data.map (fun (k, vs) => (k, JV.arr vs))) } hna' hw hs'
        simp only [complete, completeP, groupValue, p1, bind, Except.bind]
      | merge =>
        cases st <;> try (exact False.elim hc)
        rename_i data
        obtain ⟨p1, _⟩ := process_pure orc sink n cs sts w { input := .arr data } hna' hw hs'
        simp only [complete, completeP, p1, bind, Except.bind]

/-- the driver's loop (feed until `Break`, then `complete`) succeeds and writes
exactly the sink's bytes of `runP`'s rows after what was already written -/
theorem total_pure (orc : Oracles) (sink : SinkCfg) (n : Nat) (cfgs : List StageCfg)
    (sts : List StageSt) (w : Writer) (rows : List Ctx)
    (hna : NoAbort orc cfgs) (hw : Unbounded w) (hs : Shape cfgs sts) :
    (feedUntilBreak (process orc sink n cfgs) sts w rows >>= fun r =>
        complete orc sink n cfgs r.1.sts r.1.w)
      = .ok (wappend w ((runP (evalT orc) cfgs sts rows).flatMap (sinkBytes sink n))) := by
  obtain ⟨f1, f2⟩ := feedUntilBreak_pure orc sink n cfgs sts w rows hna hw hs
  simp only [f1, bind, Except.bind]
  rw [complete_pure orc sink n cfgs _ _ hna (hw.wappend _) f2, wappend_wappend, runP,
    List.flatMap_append]

/-- the same, on the output bytes -/
theorem total_pure_out (orc : Oracles) (sink : SinkCfg) (n : Nat) (cfgs : List StageCfg)
    (sts : List StageSt) (w : Writer) (rows : List Ctx)
    (hna : NoAbort orc cfgs) (hw : Unbounded w) (hs : Shape cfgs sts) :
    ∃ w', (feedUntilBreak (process orc sink n cfgs) sts w rows >>= fun r =>
        complete orc sink n cfgs r.1.sts r.1.w) = .ok w' ∧ Unbounded w' ∧
      w'.out = w.out ++ (runP (evalT orc) cfgs sts rows).flatMap (sinkBytes sink n) :=
  ⟨_, total_pure orc sink n cfgs sts w rows hna hw hs, hw.wappend _, rfl⟩

/-! ### non-vacuity -/

/-- the concrete chain used in the examples -/
def exampleChain : List StageCfg :=
  [.filter (.extract 0 [Jawk.Step.key "k".toList]), .select "x".toList (.extract 0 []), .unique,
   .sort (.extract 0 []) false, .limit 1 (some 2), .merge]

def exampleStates : List StageSt :=
  [.none, .none, .unique [], .sort [] (some 3), .limit 0 0, .merge []]

theorem exampleChain_noAbort (orc : Oracles) : NoAbort orc exampleChain := by
  intro c hc e he ctx
  simp only [exampleChain, List.mem_cons, List.not_mem_nil, or_false] at hc
  rcases hc with rfl | rfl | rfl | rfl | rfl | rfl <;>
    simp only [stageExprs, List.mem_singleton, List.not_mem_nil] at he <;>
    subst he <;> exact ⟨_, by simp only [evalFuel, eval]; rfl⟩

theorem exampleChain_shape : Shape exampleChain exampleStates := by
  simp [exampleChain, exampleStates, Shape]

example : Unbounded {} := ⟨rfl, rfl⟩

end Jawk.Pipe
