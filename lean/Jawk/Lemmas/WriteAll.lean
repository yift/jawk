/-
  `Write::write` may accept only a non-empty PREFIX of what it is offered; `write_all` calls it until nothing is left.
  The model's `Writer.put` stands for `write_all` (DESIGN §0.6): this file states what that assumption amounts to — over a
  descriptor that takes arbitrary non-empty prefixes, the loop delivers exactly the bytes, in order — and what a bare
  `write` whose count is ignored delivers instead (seeded change C15-m9).
-/
import Jawk.Model.Stages
namespace Jawk.WriteAll
open Jawk

/-- how many bytes the descriptor takes of an offer of `n` bytes made when `sofar` bytes have been delivered: any
non-empty prefix (`1 ≤ accept sofar n ≤ n` for `n ≥ 1`) -/
structure Policy where
  accept : Nat → Nat → Nat
  pos : ∀ sofar n, 0 < n → 0 < accept sofar n
  le : ∀ sofar n, accept sofar n ≤ n

/-- one `write`: the accepted prefix is appended -/
def write1 (p : Policy) (out : List Byte) (bs : List Byte) : List Byte × Nat :=
  let n := p.accept out.length bs.length
  (out ++ bs.take n, n)

/-- `write_all`: offer the rest until nothing is left (the fuel is the number of bytes: every call takes at least one) -/
def writeAll (p : Policy) : Nat → List Byte → List Byte → List Byte
  | 0, out, _ => out
  | fuel + 1, out, bs =>
    if bs = [] then out else
    let r := write1 p out bs
    writeAll p fuel r.1 (bs.drop r.2)

/-- over ANY such descriptor `write_all` delivers exactly the bytes, in order -/
theorem writeAll_delivers (p : Policy) : ∀ (fuel : Nat) (out bs : List Byte), bs.length ≤ fuel →
    writeAll p fuel out bs = out ++ bs := by
  intro fuel
  induction fuel with
  | zero =>
    intro out bs h
    have : bs = [] := List.length_eq_zero_iff.mp (Nat.le_zero.mp h)
    simp [writeAll, this]
  | succ f ih =>
    intro out bs h
    unfold writeAll
    by_cases hb : bs = []
    · simp [hb]
    · simp only [hb, if_false, write1]
      have hlen : 0 < bs.length := List.length_pos_iff.mpr hb
      have hp := p.pos out.length bs.length hlen
      have hl := p.le out.length bs.length
      rw [ih _ _ (by simp only [List.length_drop]; omega)]
      rw [List.append_assoc, List.take_append_drop]

/-- which is what `Writer.put` says for a descriptor with room -/
theorem writeAll_is_put (p : Policy) (w : Writer) (bs : List Byte) (hw : w.failed = false) (hr : w.room = none) :
    writeAll p bs.length w.out bs = (w.put bs).out := by
  rw [writeAll_delivers p _ _ _ (Nat.le_refl _)]
  simp [Writer.put, hw, hr]

/-- a descriptor that takes the first half (rounded up) of every offer -/
def halves : Policy where
  accept := fun _ n => (n + 1) / 2
  pos := by intro _ n h; omega
  le := by intro _ n; omega

/-- a bare `write` whose count is ignored delivers the accepted prefix only: with a descriptor that takes half, the second
half of every piece is lost (the seeded change C15-m9 on a line-buffered standard output) -/
theorem bare_write_loses : (write1 halves [] [97, 98, 99, 100]).1 = [97, 98] ∧
    writeAll halves 4 [] [97, 98, 99, 100] = [97, 98, 99, 100] := by
  decide

end Jawk.WriteAll
