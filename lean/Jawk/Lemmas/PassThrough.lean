/-
  Property C19, first half, for the STAGES: a stage never alters a row.

  "Integers in [-2^63, 2^64) pass through parsing, selection, sorting, grouping and printing without
  any change of value — no detour through floating point."  Parsing / printing are `C19.u64_print_parse`
  and C01.  Here: the stages of the pipeline (`stageSpec` / `specRows` of `Jawk/Spec/Pipeline.lean`, which
  `runP_eq_spec` proves to be what the machine computes).  The sorter converts keys to `f64` only to COMPARE
  them (`Num.cmp`); no stage ever rebuilds a value:

  1. `filter`, `unique`, `sort`, `limit` deliver rows that ARE input rows (sub-multiset of the input);
  2. `select` appends one result column, `preset` changes only the bindings: input, parents, position
     and the earlier columns are kept;
  3. `split` replaces the input by an ELEMENT of the array the expression yields;
  4. `merge` / `group` wrap `Ctx.build` of the rows; `Ctx.build` stores every selected value as is;
  5. the extractor `.` / `.k` / `.[i]` returns a SUB-VALUE of the input (`SubValue`).

  Everything is generic in the evaluator `ev`, except 5, which is about `evalT orc`.
-/
import Jawk.Lemmas.PipelineSpec
namespace Jawk.Pass
open Jawk Jawk.Pipe

variable (ev : Expr → Ctx → Option JV)

/-! ### sub-multisets of lists (core has no `Subperm`) -/

/-- `out` is a sub-multiset of `rows`: a sublist of a rearrangement.  No element is altered, none is
duplicated. -/
def SubMultiset {α : Type} (out rows : List α) : Prop := ∃ L : List α, out.Sublist L ∧ L.Perm rows

theorem SubMultiset.refl {α : Type} (l : List α) : SubMultiset l l := ⟨l, List.Sublist.refl l, List.Perm.refl l⟩

theorem SubMultiset.of_sublist {α : Type} {out rows : List α} (h : out.Sublist rows) : SubMultiset out rows :=
  ⟨rows, h, List.Perm.refl rows⟩

theorem SubMultiset.mem {α : Type} {out rows : List α} (h : SubMultiset out rows) {a : α} (ha : a ∈ out) :
    a ∈ rows := by
  obtain ⟨L, h1, h2⟩ := h
  exact h2.mem_iff.mp (h1.subset ha)

theorem SubMultiset.length_le {α : Type} {out rows : List α} (h : SubMultiset out rows) :
    out.length ≤ rows.length := by
  obtain ⟨L, h1, h2⟩ := h
  exact h2.length_eq ▸ h1.length_le

theorem SubMultiset.trans {α : Type} {a b c : List α} (h1 : SubMultiset a b) (h2 : SubMultiset b c) :
    SubMultiset a c := by
  obtain ⟨L, s1, p1⟩ := h1
  obtain ⟨L', s2, p2⟩ := h2
  obtain ⟨t, ht⟩ := s2.exists_perm_append
  exact ⟨L ++ t, s1.trans (List.sublist_append_left L t),
    ((p1.append_right t).trans ht.symm).trans p2⟩

/-- a sub-multiset keeps every image multiset: in particular the multiset of `.input`s -/
theorem SubMultiset.map {α β : Type} (f : α → β) {out rows : List α} (h : SubMultiset out rows) :
    SubMultiset (out.map f) (rows.map f) := by
  obtain ⟨L, h1, h2⟩ := h
  exact ⟨L.map f, h1.map f, h2.map f⟩

/-! ### 1. the row-preserving stages -/

/-- the sort key of the row is present -/
def keyPresent (key : Expr) (c : Ctx) : Bool := (ev key c).isSome

/-- the rows the sorter buffers are the rows themselves (paired with their key, nothing else) -/
theorem keyed_map_snd (key : Expr) (rows : List Ctx) :
    (keyed ev key rows).map (·.2) = rows.filter (keyPresent ev key) := by
  induction rows with
  | nil => rfl
  | cons c cs ih =>
    rw [keyed, List.filterMap_cons, List.filter_cons, keyPresent]
    cases ev key c with
    | none => exact ih
    | some k => exact congrArg (c :: ·) ih

/-- …and the key next to a row is the evaluated key of that very row -/
theorem keyed_mem (key : Expr) (rows : List Ctx) (p : JV × Ctx) (h : p ∈ keyed ev key rows) :
    p.2 ∈ rows ∧ ev key p.2 = some p.1 :=
  mem_keyed ev key rows p h

theorem filter_sublist (e : Expr) (cap : Option Nat) (rows : List Ctx) :
    (stageSpec ev (.filter e) cap rows).Sublist rows :=
  List.filter_sublist

theorem unique_sublist (cap : Option Nat) (rows : List Ctx) :
    (stageSpec ev .unique cap rows).Sublist rows :=
  dedupFrom_sublist [] rows

theorem limit_sublist (skip : Nat) (take : Option Nat) (cap : Option Nat) (rows : List Ctx) :
    (stageSpec ev (.limit skip take) cap rows).Sublist rows :=
  (takeOpt_sublist take _).trans (List.drop_sublist skip rows)

/-- the unbounded sorter only rearranges -/
theorem sort_perm (key : Expr) (desc : Bool) (rows : List Ctx) :
    (stageSpec ev (.sort key desc) none rows).Perm (rows.filter (keyPresent ev key)) := by
  show ((SortSpec.sortDir JV.cmp (fun p : JV × Ctx => p.1) desc (keyed ev key rows)).map
    (fun p : JV × Ctx => p.2)).Perm _
  rw [← keyed_map_snd]
  exact (SortSpec.sortDir_perm Order.cmp_total_preorder _ desc (keyed ev key rows)).map _

/-- the (bounded) sorter: a prefix of a rearrangement of the rows whose key is present -/
theorem sort_sublist_perm (key : Expr) (desc : Bool) (cap : Option Nat) (rows : List Ctx) :
    ∃ L : List Ctx, (stageSpec ev (.sort key desc) cap rows).Sublist L
      ∧ L.Perm (rows.filter (keyPresent ev key)) :=
  ⟨stageSpec ev (.sort key desc) none rows, takeOpt_sublist cap _, sort_perm ev key desc rows⟩

/-- A relation between what comes out and what went in that is reflexive, transitive and holds for every stage
of a kind `P` holds for every chain of such stages, whatever the states. -/
theorem specRows_chain {P : StageCfg → Prop} {R : List Ctx → List Ctx → Prop} (hrefl : ∀ l, R l l)
    (htrans : ∀ {a b c}, R a b → R b c → R a c)
    (hstage : ∀ c, P c → ∀ cap rows, R (stageSpec ev c cap rows) rows)
    (cfgs : List StageCfg) (sts : List StageSt) (h : ∀ c ∈ cfgs, P c) (rows : List Ctx) :
    R (specRows ev cfgs sts rows) rows := by
  induction cfgs generalizing sts rows with
  | nil => exact hrefl rows
  | cons c cs ih =>
    cases sts with
    | nil => exact hrefl rows
    | cons st sts =>
      exact htrans (ih sts (fun c hc => h c (List.mem_cons_of_mem _ hc)) _)
        (hstage c (h c List.mem_cons_self) (capOf st) rows)

/-- the stages that only choose among / rearrange the rows -/
def RowPreserving : StageCfg → Bool
  | .filter _ => true
  | .unique => true
  | .sort _ _ => true
  | .limit _ _ => true
  | _ => false

/-- a row-preserving stage delivers a sub-multiset of its input rows -/
theorem stageSpec_subMultiset_of_rowPreserving (c : StageCfg) (h : RowPreserving c = true)
    (cap : Option Nat) (rows : List Ctx) : SubMultiset (stageSpec ev c cap rows) rows := by
  cases c with
  | filter e => exact .of_sublist (filter_sublist ev e cap rows)
  | unique => exact .of_sublist (unique_sublist ev cap rows)
  | limit skip take => exact .of_sublist (limit_sublist ev skip take cap rows)
  | sort key desc =>
    obtain ⟨L, h1, h2⟩ := sort_sublist_perm ev key desc cap rows
    exact SubMultiset.trans ⟨L, h1, h2⟩ (.of_sublist List.filter_sublist)
  | preset _ _ | split _ | select _ _ | group _ | merge => cases h

/-- a chain of row-preserving stages (whatever the states) delivers a sub-multiset of its input rows -/
theorem specRows_subMultiset_of_rowPreserving (cfgs : List StageCfg) (sts : List StageSt)
    (h : ∀ c ∈ cfgs, RowPreserving c = true) (rows : List Ctx) :
    SubMultiset (specRows ev cfgs sts rows) rows :=
  specRows_chain ev SubMultiset.refl SubMultiset.trans (stageSpec_subMultiset_of_rowPreserving ev) cfgs sts h rows

/-- the rows that come out are rows that went in, bit for bit (same `input`, same `results`,
same everything: they are EQUAL as `Ctx`) -/
theorem specRows_mem_of_rowPreserving (cfgs : List StageCfg) (sts : List StageSt)
    (h : ∀ c ∈ cfgs, RowPreserving c = true) (rows : List Ctx) :
    ∀ r ∈ specRows ev cfgs sts rows, r ∈ rows :=
  fun _ hr => (specRows_subMultiset_of_rowPreserving ev cfgs sts h rows).mem hr

theorem groupLast_of_rowPreserving (cfgs : List StageCfg) (h : ∀ c ∈ cfgs, RowPreserving c = true) :
    GroupLast cfgs := by
  induction cfgs with
  | nil => trivial
  | cons c cs ih =>
    have hc := h c List.mem_cons_self
    have ih' := ih (fun c hc => h c (List.mem_cons_of_mem _ hc))
    cases c <;> first | exact ih' | cases hc

/-- the same for the machine itself (`runP`: feed until `Break`, then `complete`) -/
theorem runP_subMultiset_of_rowPreserving {cfgs : List StageCfg} {sts : List StageSt}
    (hi : Initial cfgs sts) (h : ∀ c ∈ cfgs, RowPreserving c = true) (rows : List Ctx) :
    SubMultiset (runP ev cfgs sts rows) rows := by
  rw [runP_eq_spec ev hi (groupLast_of_rowPreserving cfgs h)]
  exact specRows_subMultiset_of_rowPreserving ev cfgs sts h rows

theorem runP_mem_of_rowPreserving {cfgs : List StageCfg} {sts : List StageSt}
    (hi : Initial cfgs sts) (h : ∀ c ∈ cfgs, RowPreserving c = true) (rows : List Ctx) :
    ∀ r ∈ runP ev cfgs sts rows, r ∈ rows :=
  fun _ hr => (runP_subMultiset_of_rowPreserving ev hi h rows).mem hr

/-! ### 2. `select` adds a column, `preset` changes the bindings: nothing else -/

theorem withResult_input (c : Ctx) (n : Str) (x : Option JV) : (c.withResult n x).input = c.input := rfl
theorem withResult_results (c : Ctx) (n : Str) (x : Option JV) :
    (c.withResult n x).results = c.results ++ [(n, x)] := rfl
theorem withResult_parents (c : Ctx) (n : Str) (x : Option JV) : (c.withResult n x).parents = c.parents := rfl
theorem withResult_ictx (c : Ctx) (n : Str) (x : Option JV) : (c.withResult n x).ictx = c.ictx := rfl
theorem withResult_vars (c : Ctx) (n : Str) (x : Option JV) : (c.withResult n x).vars = c.vars := rfl
theorem withResult_defs (c : Ctx) (n : Str) (x : Option JV) : (c.withResult n x).defs = c.defs := rfl

/-- `preset` touches only the bindings -/
theorem preset_keeps (c : Ctx) (vars : List (Str × JV)) (defs : List (Str × Expr)) :
    ((c.withVariables vars).withDefinitions defs).input = c.input
      ∧ ((c.withVariables vars).withDefinitions defs).results = c.results
      ∧ ((c.withVariables vars).withDefinitions defs).parents = c.parents
      ∧ ((c.withVariables vars).withDefinitions defs).ictx = c.ictx :=
  ⟨rfl, rfl, rfl, rfl⟩

/-- `r` is `r0` with (possibly) more result columns at the end and (possibly) other bindings: same
input value, same parents, same position, the earlier columns untouched -/
def Extends (r0 r : Ctx) : Prop :=
  r.input = r0.input ∧ r0.results <+: r.results ∧ r.parents = r0.parents ∧ r.ictx = r0.ictx

theorem Extends.refl (c : Ctx) : Extends c c := ⟨rfl, List.prefix_refl _, rfl, rfl⟩

theorem Extends.trans {a b c : Ctx} (h1 : Extends a b) (h2 : Extends b c) : Extends a c :=
  ⟨h2.1.trans h1.1, h1.2.1.trans h2.2.1, h2.2.2.1.trans h1.2.2.1, h2.2.2.2.trans h1.2.2.2⟩

/-- the stages that keep the input value of every row: everything but `split` / `group` / `merge` -/
def InputPreserving : StageCfg → Bool
  | .split _ => false
  | .group _ => false
  | .merge => false
  | _ => true

theorem rowPreserving_inputPreserving {c : StageCfg} (h : RowPreserving c = true) :
    InputPreserving c = true := by
  cases c <;> first | rfl | cases h

/-- what `select` delivers, exactly -/
theorem select_spec (name : Str) (e : Expr) (cap : Option Nat) (rows : List Ctx) :
    stageSpec ev (.select name e) cap rows = rows.map (fun c => c.withResult name (ev e c)) := rfl

/-- `out` comes from `rows` by a row-wise change that only appends columns or changes bindings, followed by choosing
among and rearranging the rows -/
def Through (out rows : List Ctx) : Prop :=
  ∃ f : Ctx → Ctx, (∀ c, Extends c (f c)) ∧ SubMultiset out (rows.map f)

theorem Through.of_subMultiset {out rows : List Ctx} (h : SubMultiset out rows) : Through out rows :=
  ⟨id, Extends.refl, by rwa [List.map_id]⟩

theorem Through.refl (l : List Ctx) : Through l l := .of_subMultiset (.refl l)

theorem Through.trans {a b c : List Ctx} (h1 : Through a b) (h2 : Through b c) : Through a c := by
  obtain ⟨f, hf, s1⟩ := h1
  obtain ⟨g, hg, s2⟩ := h2
  exact ⟨f ∘ g, fun x => (hg x).trans (hf (g x)), s1.trans (by rw [← List.map_map]; exact s2.map f)⟩

theorem Through.extends {out rows : List Ctx} (h : Through out rows) : ∀ r ∈ out, ∃ r0 ∈ rows, Extends r0 r := by
  obtain ⟨f, hf, hs⟩ := h
  intro r hr
  obtain ⟨r0, h0, rfl⟩ := List.mem_map.mp (hs.mem hr)
  exact ⟨r0, h0, hf r0⟩

/-- the multiset of input values that come out is a sub-multiset of those that went in: no input value
is altered, none is invented, none is duplicated -/
theorem Through.inputs {out rows : List Ctx} (h : Through out rows) :
    SubMultiset (out.map (·.input)) (rows.map (·.input)) := by
  obtain ⟨f, hf, hs⟩ := h
  have e : (rows.map f).map (·.input) = rows.map (·.input) := by
    rw [List.map_map]
    exact List.map_congr_left (fun c _ => (hf c).1)
  exact e ▸ hs.map (·.input)

theorem stageSpec_through (c : StageCfg) (h : InputPreserving c = true) (cap : Option Nat) (rows : List Ctx) :
    Through (stageSpec ev c cap rows) rows := by
  cases c with
  | preset vars defs => exact ⟨fun c => (c.withVariables vars).withDefinitions defs, fun _ => ⟨rfl, List.prefix_refl _, rfl, rfl⟩, .refl _⟩
  | select name e => exact ⟨fun c => c.withResult name (ev e c), fun _ => ⟨rfl, List.prefix_append _ _, rfl, rfl⟩, .refl _⟩
  | filter _ | unique | sort _ _ | limit _ _ =>
    exact .of_subMultiset (stageSpec_subMultiset_of_rowPreserving ev _ rfl cap rows)
  | split _ | group _ | merge => cases h

/-- a chain of preset / filter / select / unique / sort / limit -/
theorem specRows_through (cfgs : List StageCfg) (sts : List StageSt)
    (h : ∀ c ∈ cfgs, InputPreserving c = true) (rows : List Ctx) : Through (specRows ev cfgs sts rows) rows :=
  specRows_chain ev Through.refl Through.trans (stageSpec_through ev) cfgs sts h rows

/-- through a chain of preset / filter / select / unique / sort / limit every output row is an
input row with columns appended: `r.input = r0.input ∧ r0.results <+: r.results` (and same parents,
same position) -/
theorem specRows_extends (cfgs : List StageCfg) (sts : List StageSt)
    (h : ∀ c ∈ cfgs, InputPreserving c = true) (rows : List Ctx) :
    ∀ r ∈ specRows ev cfgs sts rows, ∃ r0 ∈ rows, Extends r0 r :=
  (specRows_through ev cfgs sts h rows).extends

/-- …of which C19 states the input and the earlier columns -/
theorem specRows_input_of_inputPreserving (cfgs : List StageCfg) (sts : List StageSt)
    (h : ∀ c ∈ cfgs, InputPreserving c = true) (rows : List Ctx) :
    ∀ r ∈ specRows ev cfgs sts rows, ∃ r0 ∈ rows, r.input = r0.input ∧ r0.results <+: r.results := by
  intro r hr
  obtain ⟨r0, h0, e⟩ := specRows_extends ev cfgs sts h rows r hr
  exact ⟨r0, h0, e.1, e.2.1⟩

theorem specRows_inputs_subMultiset (cfgs : List StageCfg) (sts : List StageSt)
    (h : ∀ c ∈ cfgs, InputPreserving c = true) (rows : List Ctx) :
    SubMultiset ((specRows ev cfgs sts rows).map (·.input)) (rows.map (·.input)) :=
  (specRows_through ev cfgs sts h rows).inputs

/-! ### 3. `split` replaces the input by an element of the array -/

theorem withInput_spec (c : Ctx) (v : JV) :
    (c.withInput v).input = v ∧ (c.withInput v).results = []
      ∧ (c.withInput v).parents = c.input :: c.parents ∧ (c.withInput v).ictx = c.ictx :=
  ⟨rfl, rfl, rfl, rfl⟩

/-- every row `split` delivers has an element of the array as its input, the old input as its first parent, no columns -/
theorem split_spec (e : Expr) (cap : Option Nat) (rows : List Ctx) :
    ∀ r ∈ stageSpec ev (.split e) cap rows, ∃ r0 ∈ rows, ∃ l, ev e r0 = some (.arr l) ∧ r.input ∈ l
      ∧ r.parents = r0.input :: r0.parents ∧ r.results = [] ∧ r.ictx = r0.ictx := by
  intro r hr
  simp only [stageSpec, List.mem_flatMap] at hr
  obtain ⟨r0, h0, hr⟩ := hr
  refine ⟨r0, h0, ?_⟩
  split at hr
  · rename_i l hl
    obtain ⟨v, hv, rfl⟩ := List.mem_map.mp hr
    exact ⟨l, hl, hv, rfl, rfl, rfl⟩
  · simp at hr

/-- conversely every element of the array becomes the input of exactly the corresponding row: the
inputs of the rows made from one row are the array itself, in order -/
theorem split_inputs (e : Expr) (cap : Option Nat) (r0 : Ctx) (l : List JV)
    (h : ev e r0 = some (.arr l)) : (stageSpec ev (.split e) cap [r0]).map (·.input) = l := by
  simp only [stageSpec, h, List.flatMap_cons, List.flatMap_nil, List.append_nil, List.map_map]
  exact (List.map_congr_left (fun _ _ => rfl)).trans (List.map_id l)

/-! ### 4. `merge` / `group` wrap the built rows; `build` stores the selected values as they are -/

/-- the array emitted by `--merge` is exactly the built rows, in order -/
theorem merge_spec (cap : Option Nat) (rows : List Ctx) :
    stageSpec ev .merge cap rows = [{ input := .arr (rows.map Ctx.build) }] := rfl

theorem group_spec (e : Expr) (cap : Option Nat) (rows : List Ctx) :
    stageSpec ev (.group e) cap rows
      = [{ input := .obj ((groupOf ev e rows).map (fun (k, vs) => (k, JV.arr vs))) }] := rfl

theorem lookup_of_mem_nodup {β : Type} (l : List (Str × β)) (h : (l.map (·.1)).Nodup) (k : Str) (v : β)
    (hm : (k, v) ∈ l) : l.lookup k = some v := by
  induction l with
  | nil => cases hm
  | cons b rest ih =>
    obtain ⟨k0, v0⟩ := b
    simp only [List.map_cons, List.nodup_cons] at h
    rcases List.mem_cons.mp hm with heq | hm
    · cases heq; simp
    · have hne : k ≠ k0 := fun hk => h.1 (hk ▸ List.mem_map.mpr ⟨(k, v), hm, rfl⟩)
      have : (k == k0) = false := by simpa using hne
      simp only [List.lookup_cons, this]
      exact ih h.2 hm

/-- every member array of the group object is `Ctx.build` of the input rows with that key, in arrival
order -/
theorem group_members (e : Expr) (rows : List Ctx) (k : Str) (vs : List JV)
    (h : (k, vs) ∈ groupOf ev e rows) : vs = (rows.filter (hasKey ev e k)).map Ctx.build := by
  have h1 := lookup_of_mem_nodup _ (groupOf_keys_nodup ev e rows) k vs h
  have hk : k ∈ (groupOf ev e rows).map (·.1) := List.mem_map.mpr ⟨(k, vs), h, rfl⟩
  rw [groupOf_lookup ev e k rows ((groupOf_mem_keys ev e k rows).mp hk)] at h1
  exact (Option.some.inj h1).symm

/-- …hence every value inside the group object is the built form of an input row -/
theorem group_member_mem (e : Expr) (rows : List Ctx) (k : Str) (vs : List JV)
    (h : (k, vs) ∈ groupOf ev e rows) : ∀ v ∈ vs, ∃ r ∈ rows, ev e r = some (.str k) ∧ v = r.build := by
  intro v hv
  rw [group_members ev e rows k vs h] at hv
  obtain ⟨r, hr, rfl⟩ := List.mem_map.mp hv
  obtain ⟨hr1, hr2⟩ := List.mem_filter.mp hr
  refine ⟨r, hr1, ?_, rfl⟩
  unfold hasKey at hr2
  split at hr2
  · rename_i k' hk'
    rw [hk', eq_of_beq hr2]
  · cases hr2

/-- the present selections, in order -/
def present (rs : List (Str × Option JV)) : List (Str × JV) :=
  rs.filterMap (fun (n, v) => v.map (n, ·))

theorem mem_present {rs : List (Str × Option JV)} {p : Str × JV} : p ∈ present rs ↔ (p.1, some p.2) ∈ rs := by
  refine ⟨fun h => ?_, fun h => List.mem_filterMap.2 ⟨_, h, rfl⟩⟩
  obtain ⟨⟨n, v⟩, hq, hp⟩ := List.mem_filterMap.1 h
  cases v with
  | none => cases hp
  | some v => cases hp; exact hq

theorem present_names_sublist (rs : List (Str × Option JV)) : ((present rs).map (·.1)).Sublist (rs.map (·.1)) := by
  induction rs with
  | nil => exact .slnil
  | cons b rest ih =>
    obtain ⟨t, r⟩ := b
    cases r with
    | none => exact ih.cons t
    | some v => exact ih.cons_cons t

/-- `build` collects the present selections into an object, in order (`IndexMap::insert`) -/
theorem build_eq_objOfList (c : Ctx) (h : c.results ≠ []) : c.build = .obj (objOfList (present c.results)) := by
  have key : ∀ (rs : List (Str × Option JV)) (acc : List (Str × JV)),
      rs.foldl (fun acc (t, r) => match r with
        | some v => objInsert acc t v
        | none => acc) acc = (present rs).foldl (fun a kv => objInsert a kv.1 kv.2) acc := by
    intro rs
    induction rs with
    | nil => exact fun _ => rfl
    | cons b rest ih =>
      obtain ⟨t, r⟩ := b
      cases r <;> exact fun _ => ih _
  have : c.results.isEmpty = false := by
    cases hr : c.results with
    | nil => exact absurd hr h
    | cons _ _ => rfl
  simp only [Ctx.build, this, Bool.false_eq_true, ↓reduceIte]
  exact congrArg JV.obj (key c.results [])

/-- names distinct or not: a built row is its input, or an object every member of which is
one of the selected values, stored under its own name, as it is -/
theorem build_members (c : Ctx) :
    c.build = c.input
      ∨ ∃ kvs, c.build = .obj kvs ∧ ∀ p ∈ kvs, (p.1, some p.2) ∈ c.results := by
  by_cases h : c.results = []
  · exact Or.inl (build_of_results_nil h)
  · exact Or.inr ⟨_, build_eq_objOfList c h, fun p hp => mem_present.1 (objOfList_mem hp)⟩

/-- results with pairwise distinct names ⇒ the built row is the object of the
present selections, each VALUE stored as is, in selection order -/
theorem build_of_distinct (c : Ctx) (hne : c.results ≠ []) (hn : (c.results.map (·.1)).Nodup) :
    c.build = .obj (c.results.filterMap (fun (n, v) => v.map (n, ·))) := by
  rw [build_eq_objOfList c hne, objOfList_of_nodup _ ((present_names_sublist _).nodup hn)]
  rfl

theorem objGet?_of_not_mem (kvs : List (Str × JV)) (n : Str) (h : n ∉ kvs.map (·.1)) :
    objGet? kvs n = none := by
  cases h' : objGet? kvs n with
  | none => rfl
  | some v => exact absurd (List.mem_map.2 ⟨_, objGet?_mem h', rfl⟩) h

theorem objGet?_present (rs : List (Str × Option JV)) (hn : (rs.map (·.1)).Nodup) (n : Str) :
    objGet? (present rs) n = (match Ctx.lookup rs n with
      | some r => r
      | none => none) := by
  induction rs with
  | nil => rfl
  | cons b rest ih =>
    obtain ⟨t, r⟩ := b
    simp only [List.map_cons, List.nodup_cons] at hn
    by_cases ht : t = n
    · subst ht
      cases r with
      | none =>
        have : objGet? (present rest) t = none :=
          objGet?_of_not_mem _ _ (fun h => hn.1 ((present_names_sublist rest).subset h))
        simpa [present, Ctx.lookup] using this
      | some v => simp [present, Ctx.lookup, objGet?]
    · cases r with
      | none => simpa [present, Ctx.lookup, ht] using ih hn.2
      | some v => simpa [present, Ctx.lookup, objGet?, ht] using ih hn.2

/-- …and reading member `n` of the built row gives back the value selected under `n` -/
theorem build_get_selected (c : Ctx) (hne : c.results ≠ []) (hn : (c.results.map (·.1)).Nodup)
    (n : Str) :
    ∃ kvs, c.build = .obj kvs ∧ objGet? kvs n = c.getSelected n :=
  ⟨_, build_of_distinct c hne hn, objGet?_present c.results hn n⟩

/-! ### 5. the extractor returns a sub-value of the input -/

/-- `SubValue x v`: the value `x` occurs inside `v` (as `v` itself, or inside an element / a member).
No constructor is applied to get `x` from `v`: in particular a number found this way is a number that
was stored in `v`, with the same `Num`. -/
inductive SubValue : JV → JV → Prop
  | refl (v : JV) : SubValue v v
  | arr {x y : JV} {l : List JV} : y ∈ l → SubValue x y → SubValue x (.arr l)
  | obj {x y : JV} {k : Str} {kvs : List (Str × JV)} : (k, y) ∈ kvs → SubValue x y → SubValue x (.obj kvs)

theorem SubValue.trans {x y z : JV} (h1 : SubValue x y) (h2 : SubValue y z) : SubValue x z := by
  induction h2 with
  | refl => exact h1
  | arr hm _ ih => exact .arr hm ih
  | obj hm _ ih => exact .obj hm ih

theorem singleStep_subValue {s : Step} {v x : JV} (h : SingleStep.extract s v = some x) :
    SubValue x v := by
  unfold SingleStep.extract at h
  split at h
  · exact .arr (List.mem_of_getElem? h) (.refl x)
  · exact .obj (objGet?_mem h) (.refl x)
  · cases h

theorem extractSteps_nil (v : JV) : extractSteps [] v = some v := rfl

theorem extractSteps_cons (s : Step) (steps : List Step) (v : JV) :
    extractSteps (s :: steps) v
      = (match SingleStep.extract s v with
        | none => none
        | some y => extractSteps steps y) := by
  have hnone : ∀ steps : List Step, steps.foldl (fun acc s => match acc with
      | none => none
      | some x => SingleStep.extract s x) (none : Option JV) = none := by
    intro steps
    induction steps with
    | nil => rfl
    | cons s steps ih => exact ih
  show List.foldl _ (SingleStep.extract s v) steps = _
  cases h : SingleStep.extract s v with
  | none => exact hnone steps
  | some y => rfl

/-- whatever the path, the extractor returns a sub-value of the value it is applied to -/
theorem extractSteps_subValue (steps : List Step) (v x : JV) (h : extractSteps steps v = some x) :
    SubValue x v := by
  induction steps generalizing v with
  | nil => cases h; exact .refl _
  | cons s steps ih =>
    rw [extractSteps_cons] at h
    split at h
    · cases h
    · rename_i y hy
      exact (ih y h).trans (singleStep_subValue hy)

/-- the evaluator on an extractor: no fuel issue, no oracle, no abort -/
theorem evalT_extract (orc : Oracles) (parents : Nat) (steps : List Step) (c : Ctx) :
    evalT orc (.extract parents steps) c = extractSteps steps (c.parentInput parents) := by
  simp only [evalT, evalFuel, eval]

/-- `.` evaluates to the input itself -/
theorem evalT_identity (orc : Oracles) (c : Ctx) : evalT orc (.extract 0 []) c = some c.input := by
  rw [evalT_extract]; rfl

/-- `.k` evaluates to the member as stored -/
theorem evalT_key (orc : Oracles) (k : Str) (c : Ctx) :
    evalT orc (.extract 0 [.key k]) c = (match c.input with
      | .obj m => objGet? m k
      | _ => none) := by
  rw [evalT_extract]
  show SingleStep.extract (.key k) c.input = _
  unfold SingleStep.extract
  cases c.input <;> rfl

/-- any extractor on the current input yields a sub-value of the input -/
theorem evalT_extract_subValue (orc : Oracles) (steps : List Step) (c : Ctx) (x : JV)
    (h : evalT orc (.extract 0 steps) c = some x) : SubValue x c.input := by
  rw [evalT_extract] at h
  exact extractSteps_subValue steps _ x h

/-- `select .` stores in the new column the input of the row, as it is, whatever value it is (an integer of the full
range in particular); nothing else moves -/
theorem identity_extractor_passes_integers (orc : Oracles) (n : Str) (st : StageSt) (rows : List Ctx) :
    specRows (evalT orc) [.select n (.extract 0 [])] [st] rows
      = rows.map (fun c => c.withResult n (some c.input)) := by
  simp only [specRows, stageSpec, evalT_identity]

/-- …so for a freshly read row holding the integer `x` (`.num x`, e.g. `.pos (2^64-1)` or `.neg (-2^63)`)
the row delivered to the sink is built as `{"n": x}` with the very same `Num` -/
theorem identity_extractor_build (orc : Oracles) (n : Str) (st : StageSt) (rows : List Ctx) :
    ∀ r ∈ specRows (evalT orc) [.select n (.extract 0 [])] [st] rows,
      ∃ r0 ∈ rows, r.input = r0.input ∧ r.results = r0.results ++ [(n, some r0.input)]
        ∧ (r0.results = [] → r.build = .obj [(n, r0.input)]) := by
  intro r hr
  rw [identity_extractor_passes_integers] at hr
  obtain ⟨r0, h0, rfl⟩ := List.mem_map.mp hr
  refine ⟨r0, h0, rfl, rfl, fun he => ?_⟩
  simp [Ctx.build, Ctx.withResult, he, objInsert]

/-- `select .k`: the column holds the member as stored in the input object — a sub-value of the input, whatever value
it is -/
theorem key_extractor_passes_integers (orc : Oracles) (n k : Str) (st : StageSt) (rows : List Ctx) :
    ∀ r ∈ specRows (evalT orc) [.select n (.extract 0 [.key k])] [st] rows,
      ∃ r0 ∈ rows, r.input = r0.input
        ∧ r.results = r0.results ++ [(n, match r0.input with
            | .obj m => objGet? m k
            | _ => none)]
        ∧ ∀ x, r.results.getLast? = some (n, some x) → SubValue x r0.input := by
  intro r hr
  simp only [specRows, stageSpec] at hr
  obtain ⟨r0, h0, rfl⟩ := List.mem_map.mp hr
  refine ⟨r0, h0, rfl, by rw [withResult_results, evalT_key], fun x hx => ?_⟩
  simp only [withResult_results, List.getLast?_append, List.getLast?_singleton, Option.some_or,
    Option.some.injEq, Prod.mk.injEq, true_and] at hx
  exact evalT_extract_subValue orc _ r0 x hx

/-- the whole journey: `select .` followed by any row-preserving stages (unique, sort, limit, filter):
every delivered row is an input row with exactly one column appended, holding that row's input -/
theorem identity_then_rowPreserving (orc : Oracles) (n : Str) (st : StageSt) (cfgs : List StageCfg)
    (sts : List StageSt) (h : ∀ c ∈ cfgs, RowPreserving c = true) (rows : List Ctx) :
    ∀ r ∈ specRows (evalT orc) (.select n (.extract 0 []) :: cfgs) (st :: sts) rows,
      ∃ r0 ∈ rows, r = r0.withResult n (some r0.input) := by
  intro r hr
  have h1 : specRows (evalT orc) (.select n (.extract 0 []) :: cfgs) (st :: sts) rows
      = specRows (evalT orc) cfgs sts (rows.map (fun c => c.withResult n (some c.input))) := by
    simp only [specRows, stageSpec, evalT_identity]
  rw [h1] at hr
  obtain ⟨r0, h0, e⟩ := List.mem_map.mp (specRows_mem_of_rowPreserving (evalT orc) cfgs sts h _ r hr)
  exact ⟨r0, h0, e.symm⟩

/-! ### non-vacuity -/

/-- the largest and the smallest integers of the supported range -/
def bigRows : List Ctx :=
  [{ input := .num (.pos 18446744073709551615) }, { input := .num (.neg (-9223372036854775808)) }]

def bigChain : List StageCfg :=
  [.filter (.extract 0 []), .unique, .sort (.extract 0 []) true, .limit 1 (some 2)]

def bigStates : List StageSt := [.none, .unique [], .sort [] (some 3), .limit 0 0]

example : ∀ c ∈ bigChain, RowPreserving c = true := by decide +kernel

example : Initial bigChain bigStates := by simp [bigChain, bigStates, Initial]

/-- whatever the evaluator answers, what comes out of the chain is among the two rows, unchanged -/
example : ∀ r ∈ specRows ev bigChain bigStates bigRows,
    r.input = .num (.pos 18446744073709551615) ∨ r.input = .num (.neg (-9223372036854775808)) := by
  intro r hr
  have := specRows_mem_of_rowPreserving ev bigChain bigStates (by decide +kernel) bigRows r hr
  simp only [bigRows, List.mem_cons, List.not_mem_nil, or_false] at this
  rcases this with rfl | rfl
  · exact Or.inl rfl
  · exact Or.inr rfl

example : ∀ r ∈ runP ev bigChain bigStates bigRows, r ∈ bigRows :=
  runP_mem_of_rowPreserving ev (by simp [bigChain, bigStates, Initial])
    (by decide +kernel) bigRows

/-- an input-preserving chain with a selection in it -/
example : ∀ c ∈ [StageCfg.preset [] [], .select "x".toList (.extract 0 []), .unique,
    .sort (.selected "x".toList) false], InputPreserving c = true := by
  decide +kernel

/-- `build_of_distinct` / `build_get_selected`: the hypotheses are satisfiable -/
example :
    let c : Ctx := { results := [("a".toList, some (.num (.pos 18446744073709551615))), ("b".toList, none),
      ("c".toList, some (.num (.neg (-9223372036854775808))))] }
    c.results ≠ [] ∧ (c.results.map (·.1)).Nodup
      ∧ c.build = .obj [("a".toList, .num (.pos 18446744073709551615)),
          ("c".toList, .num (.neg (-9223372036854775808)))] := by
  refine ⟨by simp, by decide, ?_⟩
  rw [build_of_distinct _ (by simp) (by decide)]
  rfl

/-- distinct names are needed for `build_of_distinct`: a repeated name overwrites in place (`IndexMap::insert`) -/
example :
    let c : Ctx := { results := [("a".toList, some .null), ("a".toList, some (.bool true))] }
    c.build = .obj [("a".toList, .bool true)]
      ∧ c.results.filterMap (fun (n, v) => v.map (n, ·)) = [("a".toList, .null), ("a".toList, .bool true)] := by
  simp [Ctx.build, objInsert]

/-- `group_members` on a concrete input -/
example : (['a'], [JV.num (.pos 18446744073709551615), JV.num (.pos 1)])
    ∈ groupOf (fun _ _ => some (.str ['a'])) (.extract 0 [])
        [{ input := .num (.pos 18446744073709551615) }, { input := .num (.pos 1) }] := by
  simp [groupOf, groupInsert, Ctx.build]

/-- `split_spec` on a concrete input -/
example : (stageSpec (fun _ c => some c.input) (.split (.extract 0 [])) none
      [{ input := .arr [.num (.pos 18446744073709551615), .num (.neg (-9223372036854775808))] }]).map (·.input)
    = [.num (.pos 18446744073709551615), .num (.neg (-9223372036854775808))] :=
  split_inputs _ _ _ _ _ rfl

/-- `SubValue` through a path: `.a[1]` -/
example : SubValue (.num (.pos 18446744073709551615))
    (.obj [("a".toList, .arr [.null, .num (.pos 18446744073709551615)])]) :=
  extractSteps_subValue [.key "a".toList, .idx 1] _ _ (by simp [extractSteps, SingleStep.extract, objGet?])

end Jawk.Pass
