/-
  Lexical part of the parser proofs: reader primitives phrased on `pending`, white space, digit runs,
  reserved words, the blocks of `read_number`, raw string bytes; what the printer writes for numbers
  (`FloatRT`, `NumPrintable`) and strings (`StrOK`, `hex4`).
-/
import Jawk.Lemmas.PM
import Jawk.Model.Parser
import Jawk.Model.Print
namespace Jawk.RT
open Jawk Reader

/-- one step down a table written as `if … then some a else if …`: either this row matched or a later one -/
theorem ite_some_cases {α} {p : Prop} [Decidable p] {a e : α} {f : Option α}
    (h : (if p then some a else f) = some e) : (p ∧ a = e) ∨ f = some e := by
  split at h
  · exact .inl ⟨‹p›, Option.some.inj h⟩
  · exact .inr h

/-! ### Reader states -/

/-- The reader stands before the bytes `bs` (with or without a look-ahead byte) and the
input is clean (no I/O error items).  At end of input `bs = []`. -/
def Ready (r : Reader) (bs : List Byte) : Prop :=
  r.pending = cleanInput bs ∧ (r.eof = true → bs = [])

/-- `b` is the current byte (pulled, not consumed), `bs` is unread. -/
def At (r : Reader) (b : Byte) (bs : List Byte) : Prop :=
  r.cur = some b ∧ r.rest = cleanInput bs ∧ r.eof = false

/-- The state after a `peek`: the first byte (if any) is the current byte. -/
def Peeked (r : Reader) : List Byte → Prop
  | [] => r.cur = none ∧ r.rest = [] ∧ r.eof = true
  | b :: bs => At r b bs

/-- the reader after `next` pulled the byte `b` -/
def stepTo (r : Reader) (b : Byte) (rest : List RItem) : Reader :=
  { r with rest := rest, cur := some b,
           loc := if b = 10 then { r.loc with line := r.loc.line + 1, col := 1 }
                  else { r.loc with col := r.loc.col + 1 },
           pulled := r.pulled + 1 }

theorem At.ready {r b bs} (h : At r b bs) : Ready r (b :: bs) := by
  obtain ⟨h1, h2, h3⟩ := h
  simp [Ready, Reader.pending, h1, h2, h3, cleanInput]

theorem Peeked.ready {r bs} (h : Peeked r bs) : Ready r bs := by
  cases bs with
  | nil => obtain ⟨h1, h2, h3⟩ := h; simp [Ready, Reader.pending, h1, h2, cleanInput]
  | cons b bs => exact At.ready h

theorem Ready.of_eof_false {r : Reader} {bs} (h : r.pending = cleanInput bs) (he : r.eof = false) :
    Ready r bs := ⟨h, by simp [he]⟩

theorem ready_ofBytes (bs : List Byte) (name : Option Str) : Ready (Reader.ofBytes bs name) bs := by
  simp [Ready, Reader.ofBytes, Reader.ofItems, Reader.pending]

/-- `peek` on a peeked reader changes nothing -/
theorem peek_peeked {r bs} (h : Peeked r bs) : Reader.peek r = (.ok bs.head?, r) := by
  cases bs with
  | nil => obtain ⟨h1, h2, h3⟩ := h; simp [Reader.peek, Reader.next, h1, h3]
  | cons b bs => obtain ⟨h1, h2, h3⟩ := h; simp [Reader.peek, h1]

theorem peek_at {r b bs} (h : At r b bs) : Reader.peek r = (.ok (some b), r) :=
  peek_peeked (bs := b :: bs) h

theorem peek_ready {r bs} (h : Ready r bs) :
    ∃ r', Reader.peek r = (.ok bs.head?, r') ∧ Peeked r' bs := by
  obtain ⟨hp, he⟩ := h
  cases hc : r.cur with
  | some c =>
    cases bs with
    | nil => simp [Reader.pending, hc, cleanInput] at hp
    | cons b bs =>
      have hne : r.eof = false := by
        cases h : r.eof with
        | false => rfl
        | true => simpa using he h
      simp only [Reader.pending, hc, cleanInput, List.map_cons, List.cons_append, List.nil_append,
        List.cons.injEq, RItem.byte.injEq] at hp
      refine ⟨r, ?_, ?_⟩
      · simp [Reader.peek, hc, hp.1]
      · exact ⟨by rw [hc, hp.1], hp.2, hne⟩
  | none =>
    simp only [Reader.pending, hc, List.nil_append] at hp
    cases bs with
    | nil =>
      cases h : r.eof with
      | true =>
        exact ⟨r, by simp [Reader.peek, hc, Reader.next, h], hc, by simpa [cleanInput] using hp, h⟩
      | false =>
        have hr : r.rest = [] := by simpa [cleanInput] using hp
        exact ⟨{ r with eof := true, cur := none }, by simp [Reader.peek, hc, Reader.next, h, hr],
          rfl, hr, rfl⟩
    | cons b bs =>
      have hne : r.eof = false := by
        cases h : r.eof with
        | false => rfl
        | true => simpa using he h
      have hr : r.rest = RItem.byte b :: cleanInput bs := by simpa [cleanInput] using hp
      refine ⟨stepTo r b (cleanInput bs), ?_, rfl, rfl, hne⟩
      simp [Reader.peek, hc, Reader.next, hne, hr, stepTo]

/-- `next` with a current byte: that byte is consumed, the following one becomes current -/
theorem next_at {r b bs} (h : At r b bs) :
    ∃ r', Reader.next r = (.ok bs.head?, r') ∧ Peeked r' bs := by
  obtain ⟨h1, h2, h3⟩ := h
  cases bs with
  | nil =>
    have hr : r.rest = [] := by simpa [cleanInput] using h2
    exact ⟨{ r with eof := true, cur := none }, by simp [Reader.next, h3, hr], rfl, hr, rfl⟩
  | cons c bs =>
    have hr : r.rest = RItem.byte c :: cleanInput bs := by simpa [cleanInput] using h2
    exact ⟨stepTo r c (cleanInput bs), by simp [Reader.next, h3, hr, stepTo], rfl, rfl, h3⟩

theorem next_at_cons {r b c bs} (h : At r b (c :: bs)) :
    ∃ r', Reader.next r = (.ok (some c), r') ∧ At r' c bs := next_at h

/-- `next` after the last byte of a token: whatever it returns, the reader is ready for the rest -/
theorem next_at_ready {r b bs} (h : At r b bs) :
    ∃ x r', Reader.next r = (.ok x, r') ∧ Ready r' bs := by
  obtain ⟨r', h1, h2⟩ := next_at h
  exact ⟨_, r', h1, h2.ready⟩

/-! ### White space and digit runs -/

theorem eatWhitespace_ready (ws : List Byte) (hws : ∀ b ∈ ws, isWs b = true) (rest : List Byte)
    (hrest : ∀ b ∈ rest.head?, isWs b = false) (r : Reader) (hr : Ready r (ws ++ rest))
    (fuel : Nat) (hf : ws.length < fuel) :
    ∃ r', eatWhitespace fuel r = (.ok (), r') ∧ Peeked r' rest := by
  induction ws generalizing r fuel with
  | nil =>
    obtain ⟨fuel, rfl⟩ : ∃ k, fuel = k + 1 := ⟨fuel - 1, by omega⟩
    obtain ⟨r', hp, hr'⟩ := peek_ready hr
    refine ⟨r', ?_, hr'⟩
    simp only [List.nil_append] at hp
    unfold eatWhitespace
    rw [PM.bind_ok hp]
    cases rest with
    | nil => rfl
    | cons b bs =>
      have := hrest b (by simp)
      simp [this]
  | cons w ws ih =>
    obtain ⟨fuel, rfl⟩ : ∃ k, fuel = k + 1 := ⟨fuel - 1, by omega⟩
    obtain ⟨r1, hp, hr1⟩ := peek_ready hr
    obtain ⟨r2, hn, hr2⟩ := next_at (show At r1 w (ws ++ rest) from hr1)
    obtain ⟨r3, he, hr3⟩ := ih (fun b hb => hws b (by simp [hb])) r2 hr2.ready fuel
      (by simp at hf; omega)
    refine ⟨r3, ?_, hr3⟩
    unfold eatWhitespace
    simp only [List.cons_append, List.head?_cons] at hp
    rw [PM.bind_ok hp]
    simp only [hws w (by simp), if_true]
    rw [PM.bind_ok hn]
    exact he

/-- white space before a byte that is none: the reader stops on that byte -/
theorem eatWhitespace_before (ws : List Byte) (hws : ∀ b ∈ ws, isWs b = true) (c : Byte) (hc : isWs c = false)
    (rest : List Byte) (r : Reader) (hr : Ready r (ws ++ c :: rest)) (fuel : Nat) (hf : ws.length < fuel) :
    ∃ r', eatWhitespace fuel r = (.ok (), r') ∧ At r' c rest :=
  eatWhitespace_ready ws hws (c :: rest) (fun _ hb => Option.some.inj hb ▸ hc) r hr fuel hf

theorem readDigits_ready (ds : List Byte) (hds : ∀ b ∈ ds, isDigit b = true) (rest : List Byte)
    (hrest : ∀ b ∈ rest.head?, isDigit b = false) (r : Reader) (hr : Ready r (ds ++ rest))
    (fuel : Nat) (hf : ds.length < fuel) (acc : List Byte) :
    ∃ r', readDigits fuel acc r = (.ok (acc ++ ds), r') ∧ Peeked r' rest := by
  induction ds generalizing r fuel acc with
  | nil =>
    obtain ⟨fuel, rfl⟩ : ∃ k, fuel = k + 1 := ⟨fuel - 1, by omega⟩
    obtain ⟨r', hp, hr'⟩ := peek_ready hr
    refine ⟨r', ?_, hr'⟩
    simp only [List.nil_append] at hp
    unfold readDigits
    rw [PM.bind_ok hp]
    cases rest with
    | nil => simp
    | cons b bs =>
      have := hrest b (by simp)
      simp [this]
  | cons w ws ih =>
    obtain ⟨fuel, rfl⟩ : ∃ k, fuel = k + 1 := ⟨fuel - 1, by omega⟩
    obtain ⟨r1, hp, hr1⟩ := peek_ready hr
    obtain ⟨r2, hn, hr2⟩ := next_at (show At r1 w (ws ++ rest) from hr1)
    obtain ⟨r3, he, hr3⟩ := ih (fun b hb => hds b (by simp [hb])) r2 hr2.ready fuel
      (by simp at hf; omega) (acc ++ [w])
    refine ⟨r3, ?_, hr3⟩
    unfold readDigits
    simp only [List.cons_append, List.head?_cons] at hp
    rw [PM.bind_ok hp]
    simp only [hds w (by simp), if_true]
    rw [PM.bind_ok hn]
    simpa using he

/-- `read_reserved_word`: the first letter is current, the tail follows -/
theorem readWordTail_at (word : String) (tail : List Byte) (rest : List Byte) (r : Reader) (b : Byte)
    (hr : At r b (tail ++ rest)) :
    ∃ r', readWordTail word tail r = (.ok (), r') ∧ Ready r' rest := by
  induction tail generalizing r b with
  | nil =>
    obtain ⟨x, r', hn, hr'⟩ := next_at_ready hr
    refine ⟨r', ?_, hr'⟩
    unfold readWordTail
    rw [PM.bind_ok hn]; rfl
  | cons e es ih =>
    obtain ⟨r1, hn, hr1⟩ := next_at_cons (show At r b (e :: (es ++ rest)) from hr)
    obtain ⟨r2, h2, hr2⟩ := ih r1 e hr1
    refine ⟨r2, ?_, hr2⟩
    unfold readWordTail
    rw [PM.bind_ok hn]
    simpa using h2

/-! ### ASCII text as bytes -/

theorem utf8_nil : utf8 [] = [] := rfl
theorem utf8_append (a b : Str) : utf8 (a ++ b) = utf8 a ++ utf8 b := by simp [utf8]
theorem utf8_cons (c : Char) (s : Str) : utf8 (c :: s) = String.utf8EncodeChar c ++ utf8 s := by
  simp [utf8]

/-- the byte of an ASCII character -/
def byteOf (c : Char) : Byte := UInt8.ofNat c.toNat

theorem utf8EncodeChar_ascii (c : Char) (h : c.toNat < 128) : String.utf8EncodeChar c = [byteOf c] := by
  have h' : c.toNat ≤ 127 := by omega
  simp [String.utf8EncodeChar, h', byteOf]

theorem utf8_ascii (s : Str) (h : ∀ c ∈ s, c.toNat < 128) : utf8 s = s.map byteOf := by
  induction s with
  | nil => rfl
  | cons c s ih =>
    rw [utf8_cons, utf8EncodeChar_ascii c (h c (by simp)), ih (fun d hd => h d (by simp [hd]))]
    rfl

theorem byteToChar_byteOf (c : Char) (h : c.toNat < 128) : byteToChar (byteOf c) = c := by
  have : (UInt8.ofNat c.toNat).toNat = c.toNat := by
    simp only [UInt8.toNat_ofNat']; omega
  simp [byteToChar, byteOf, this]

theorem bytesToStr_map_byteOf (s : Str) (h : ∀ c ∈ s, c.toNat < 128) :
    bytesToStr (s.map byteOf) = s := by
  induction s with
  | nil => rfl
  | cons c s ih =>
    simp only [bytesToStr, List.map_cons, List.map_map] at ih ⊢
    rw [ih (fun d hd => h d (by simp [hd]))]
    simp [byteToChar_byteOf c (h c (by simp))]

theorem isDigit_range (c : Char) (h : c.isDigit = true) : 48 ≤ c.toNat ∧ c.toNat ≤ 57 := by
  simp only [Char.isDigit, ge_iff_le, Bool.and_eq_true, decide_eq_true_eq, UInt32.le_iff_toNat_le] at h
  simpa using h

theorem isDigit_byteOf (c : Char) (h : c.isDigit = true) : isDigit (byteOf c) = true := by
  have := isDigit_range c h
  have h2 : (UInt8.ofNat c.toNat).toNat = c.toNat := by
    simp only [UInt8.toNat_ofNat']; omega
  simp only [isDigit, byteOf, Bool.and_eq_true, decide_eq_true_eq, UInt8.le_iff_toNat_le, h2]
  exact this

/-! ### Numbers -/

/-- what may follow a number: not a digit, `.`, `e`, `E` -/
def NumDelim (rest : List Byte) : Prop :=
  ∀ b ∈ rest.head?, isDigit b = false ∧ b ≠ 46 ∧ b ≠ 101 ∧ b ≠ 69

/-- the sign part of `read_number` -/
def signBlock : PM Bool := do
  if (← peek) = some 45 then
    match (← next) with
    | none => locErr .unexpectedEof
    | some _ => pure true
  else pure false

/-- the fraction part of `read_number` -/
def fracBlock (fuel : Nat) (chars : List Byte) : PM (List Byte × Bool) := do
  if (← peek) = some 46 then
    let _ ← next
    let fr ← readDigits fuel []
    pure (chars ++ [46] ++ fr, true)
  else pure (chars, false)

/-- the sign of the exponent in `read_number` -/
def expSign (chars : List Byte) : PM (List Byte) := do
  match (← peek) with
  | some 45 => do
    let _ ← next
    pure (chars ++ [45])
  | some 43 => do
    let _ ← next
    pure chars
  | _ => pure chars

/-- the exponent part of `read_number` -/
def expBlock (fuel : Nat) (chars : List Byte) (double : Bool) : PM (List Byte × Bool) := do
  let p ← peek
  if p = some 101 ∨ p = some 69 then
    let _ ← next
    let chars ← expSign (chars ++ [69])
    let ex ← readDigits fuel []
    pure (chars ++ ex, true)
  else pure (chars, double)

/-- the conversion at the end of `read_number` -/
def finishNumber (negative : Bool) (intDigits chars : List Byte) (double : Bool) : PM JV :=
  if double then parseToDouble chars
  else if negative then
    match parseI64Neg intDigits with
    | .ok i => pure (.num (.neg i))
    | .overflow => parseToDouble chars
    | .invalid => locErr .parseInt
  else
    match parseU64 intDigits with
    | some n => pure (.num (.pos n))
    | none => parseToDouble chars

/-- the conversion at the end of `read_number`: an integer spelling within range is taken as it is, everything
else goes through `parse_to_double` -/
theorem finishNumber_eq (neg : Bool) (ip chars : List Byte) (double : Bool) :
    finishNumber neg ip chars double =
      if double = false ∧ (if neg = true then F64.digitsToNat (bytesToStr ip) ≤ 2 ^ 63
          else F64.digitsToNat (bytesToStr ip) < 2 ^ 64) then
        if neg = true ∧ ip.isEmpty = true then locErr .parseInt
        else pure (.num (if neg = true then .neg (-(F64.digitsToNat (bytesToStr ip) : Int))
          else .pos (F64.digitsToNat (bytesToStr ip))))
      else parseToDouble chars := by
  cases double
  · cases neg
    · by_cases h : F64.digitsToNat (bytesToStr ip) < 2 ^ 64 <;> simp [finishNumber, parseU64, h]
    · by_cases he : ip.isEmpty = true
      · have : F64.digitsToNat (bytesToStr ip) ≤ 2 ^ 63 := by rw [List.isEmpty_iff.1 he]; decide
        simp [finishNumber, parseI64Neg, he, this]
      · by_cases h : F64.digitsToNat (bytesToStr ip) ≤ 2 ^ 63 <;> simp [finishNumber, parseI64Neg, he, h]
  · simp [finishNumber]

theorem readNumber_eq (fuel : Nat) : readNumber fuel = (do
    let negative ← signBlock
    let intDigits ← readDigits fuel []
    let (chars, double) ← fracBlock fuel ((if negative then [45] else []) ++ intDigits)
    let (chars, double) ← expBlock fuel chars double
    finishNumber negative intDigits chars double) := rfl

theorem signBlock_neg {r : Reader} {c : Byte} {bs : List Byte} (hr : Ready r (45 :: c :: bs)) :
    ∃ r', signBlock r = (.ok true, r') ∧ At r' c bs := by
  obtain ⟨r1, hp, hr1⟩ := peek_ready hr
  obtain ⟨r2, hn, hr2⟩ := next_at_cons (show At r1 45 (c :: bs) from hr1)
  refine ⟨r2, ?_, hr2⟩
  unfold signBlock
  simp only [List.head?_cons] at hp
  rw [PM.bind_ok hp, if_pos rfl, PM.bind_ok hn]
  rfl

theorem signBlock_pos {r : Reader} {bs : List Byte} (hr : Ready r bs) (h : bs.head? ≠ some 45) :
    ∃ r', signBlock r = (.ok false, r') ∧ Peeked r' bs := by
  obtain ⟨r1, hp, hr1⟩ := peek_ready hr
  refine ⟨r1, ?_, hr1⟩
  unfold signBlock
  rw [PM.bind_ok hp]
  simp [h]

theorem fracBlock_none {r : Reader} {bs : List Byte} (hr : Peeked r bs) (h : bs.head? ≠ some 46)
    (fuel : Nat) (chars : List Byte) : fracBlock fuel chars r = (.ok (chars, false), r) := by
  unfold fracBlock
  rw [PM.bind_ok (peek_peeked hr)]
  simp [h]

theorem fracBlock_some {r : Reader} (fp rest : List Byte) (hfp : ∀ b ∈ fp, isDigit b = true)
    (hrest : ∀ b ∈ rest.head?, isDigit b = false) (hr : Peeked r (46 :: (fp ++ rest)))
    (fuel : Nat) (hf : fp.length < fuel) (chars : List Byte) :
    ∃ r', fracBlock fuel chars r = (.ok (chars ++ [46] ++ fp, true), r') ∧ Peeked r' rest := by
  obtain ⟨r1, hn, hr1⟩ := next_at (show At r 46 (fp ++ rest) from hr)
  obtain ⟨r2, hd, hr2⟩ := readDigits_ready fp hfp rest hrest r1 hr1.ready fuel hf []
  refine ⟨r2, ?_, hr2⟩
  unfold fracBlock
  have hp := peek_peeked hr
  simp only [List.head?_cons] at hp
  rw [PM.bind_ok hp, if_pos rfl, PM.bind_ok hn, PM.bind_ok hd]
  rfl

theorem expBlock_none {r : Reader} {bs : List Byte} (hr : Peeked r bs)
    (h1 : bs.head? ≠ some 101) (h2 : bs.head? ≠ some 69)
    (fuel : Nat) (chars : List Byte) (double : Bool) :
    expBlock fuel chars double r = (.ok (chars, double), r) := by
  unfold expBlock
  rw [PM.bind_ok (peek_peeked hr)]
  simp [h1, h2]

theorem expSign_minus {r : Reader} {tl : List Byte} (hr : Peeked r (45 :: tl)) (chars : List Byte) :
    ∃ r', expSign chars r = (.ok (chars ++ [45]), r') ∧ Peeked r' tl := by
  obtain ⟨r1, hn, hr1⟩ := next_at (show At r 45 tl from hr)
  refine ⟨r1, ?_, hr1⟩
  unfold expSign
  rw [PM.bind_ok (peek_peeked hr)]
  simp only [List.head?_cons]
  rw [PM.bind_ok hn]
  rfl

theorem expSign_plus {r : Reader} {tl : List Byte} (hr : Peeked r (43 :: tl)) (chars : List Byte) :
    ∃ r', expSign chars r = (.ok chars, r') ∧ Peeked r' tl := by
  obtain ⟨r1, hn, hr1⟩ := next_at (show At r 43 tl from hr)
  refine ⟨r1, ?_, hr1⟩
  unfold expSign
  rw [PM.bind_ok (peek_peeked hr)]
  simp only [List.head?_cons]
  rw [PM.bind_ok hn]
  rfl

theorem expSign_none {r : Reader} {tl : List Byte} (hr : Peeked r tl) (h1 : tl.head? ≠ some 45)
    (h2 : tl.head? ≠ some 43) (chars : List Byte) : expSign chars r = (.ok chars, r) := by
  unfold expSign
  rw [PM.bind_ok (peek_peeked hr)]
  refine congrFun (?_ : _ = (pure chars : PM (List Byte))) r
  split
  · rename_i h; exact absurd h h1
  · rename_i h; exact absurd h h2
  · rfl

theorem isDigit_ne_sign {b : Byte} (h : isDigit b = true) : b ≠ 45 ∧ b ≠ 43 := by
  simp only [isDigit, Bool.and_eq_true, decide_eq_true_eq, UInt8.le_iff_toNat_le] at h
  constructor <;> (intro hb; subst hb; simp at h)

def fracText : Option (List Byte) → List Byte
  | none => []
  | some d => 46 :: d

/-- the bytes of `[-]digits[.digits]` -/
def numText (neg : Bool) (ip : List Byte) (fp : Option (List Byte)) : List Byte :=
  (if neg then [45] else []) ++ ip ++ fracText fp

def numChars (neg : Bool) (ip : List Byte) (fp : Option (List Byte)) : List Byte :=
  match fp with
  | none => (if neg then [45] else []) ++ ip
  | some d => (if neg then [45] else []) ++ ip ++ [46] ++ d

theorem numChars_eq_numText (neg ip fp) : numChars neg ip fp = numText neg ip fp := by
  cases fp <;> simp [numChars, numText, fracText]

theorem isDigit_ne {b : Byte} (h : isDigit b = true) : b ≠ 45 ∧ b ≠ 46 ∧ b ≠ 101 ∧ b ≠ 69 := by
  simp only [isDigit, Bool.and_eq_true, decide_eq_true_eq, UInt8.le_iff_toNat_le] at h
  refine ⟨?_, ?_, ?_, ?_⟩ <;> (intro hb; subst hb; simp at h)

/-! #### decimal digits -/

theorem toDigits_isDigit (n : Nat) : ∀ c ∈ Nat.toDigits 10 n, c.isDigit = true :=
  fun _ hc => Nat.isDigit_of_mem_toDigits (by decide) (by decide) hc

theorem isDigit_ascii (c : Char) (h : c.isDigit = true) : c.toNat < 128 := by
  have := isDigit_range c h; omega

/-- a digit string as bytes -/
theorem digits_bytes (ds : Str) (h : ∀ c ∈ ds, c.isDigit = true) :
    utf8 ds = ds.map byteOf ∧ (∀ b ∈ ds.map byteOf, isDigit b = true) ∧
      bytesToStr (ds.map byteOf) = ds := by
  refine ⟨utf8_ascii ds (fun c hc => isDigit_ascii c (h c hc)), ?_,
    bytesToStr_map_byteOf ds (fun c hc => isDigit_ascii c (h c hc))⟩
  intro b hb
  obtain ⟨c, hc, rfl⟩ := List.mem_map.1 hb
  exact isDigit_byteOf c (h c hc)

/-! #### floats: the hypothesis `FloatRT` -/

def signChars (neg : Bool) : Str := if neg then ['-'] else []

def fracChars : Option Str → Str
  | none => []
  | some d => '.' :: d

/-- What the round trip needs from `Display for f64` and `str::parse::<f64>` for the float `f`
(proved for every float the parser can produce: `Ser.floatRT_of_display` in FloatBridge, with
`F64.toDisplay?_isSome`):
* the rendering is `[-]digits[.digits]` with at least one digit before the point;
* when there is no point the digits overflow `u64` (resp. `i64` when negative), so that `read_number`
  falls through to the float conversion;
* parsing the rendering gives `f` back, `f` is finite, and `From<f64>` keeps `f` a float. -/
structure FloatRT (f : F64) : Prop where
  shape : ∃ (neg : Bool) (ip : Str) (fp : Option Str),
    F64.toDisplay f = signChars neg ++ ip ++ fracChars fp ∧ ip ≠ [] ∧
    (∀ c ∈ ip, c.isDigit = true) ∧ (∀ d, fp = some d → ∀ c ∈ d, c.isDigit = true) ∧
    (fp = none → if neg then 2 ^ 63 < F64.digitsToNat ip else 2 ^ 64 ≤ F64.digitsToNat ip)
  parse : F64.parseDecimal (F64.toDisplay f) = some f
  finite : f.isFinite = true
  stays : Num.ofF64 f = .flt f

/-- the double `1.5` (printed `1.5`) -/
theorem floatRT_one_half : FloatRT (.fin false (3 * 2 ^ 51) (-52)) := by
  refine ⟨⟨false, ['1'], some ['5'], ?_, ?_, ?_, ?_, ?_⟩, ?_, ?_, ?_⟩
  · decide +kernel
  · decide
  · decide
  · intro d hd; cases hd; decide
  · intro h; cases h
  · decide +kernel
  · rfl
  · decide +kernel

/-- `FloatRT` is satisfiable -/
example : FloatRT (.fin false (3 * 2 ^ 51) (-52)) := floatRT_one_half

/-- numbers the printer/parser pair handles -/
def NumPrintable : Num → Prop
  | .pos n => n < 2 ^ 64
  | .neg i => -(2 ^ 63 : Int) ≤ i ∧ i < 2 ^ 64
  | .flt f => FloatRT f

/-- what the parser makes of a printed number: a non-negative `neg i` comes back as `pos i` -/
def normNum : Num → Num
  | .neg i => if i < 0 then .neg i else .pos i.toNat
  | n => n

/-- the first byte of a printed number is `-` or a digit -/
theorem printNum_head (n : Num) (hn : NumPrintable n) :
    ∃ c bs, utf8 (printNum n) = c :: bs ∧ (c = 45 ∨ isDigit c = true) := by
  have hdig : ∀ (ds : Str), ds ≠ [] → (∀ c ∈ ds, c.isDigit = true) → ∀ tail : List Byte,
      ∃ c bs, utf8 ds ++ tail = c :: bs ∧ (c = 45 ∨ isDigit c = true) := by
    intro ds hne h tail
    obtain ⟨h1, h2, _⟩ := digits_bytes ds h
    cases ds with
    | nil => exact absurd rfl hne
    | cons c cs =>
      rw [h1]
      exact ⟨byteOf c, _, rfl, Or.inr (h2 _ (by simp))⟩
  have hnat : ∀ k : Nat, ∃ c bs, utf8 (Nat.toDigits 10 k) = c :: bs ∧ (c = 45 ∨ isDigit c = true) := by
    intro k
    simpa using hdig _ (Nat.toDigits_ne_nil) (toDigits_isDigit k) []
  cases n with
  | pos n => exact hnat n
  | neg i =>
    by_cases hneg : i < 0
    · simp only [printNum, hneg, if_true, utf8_cons]
      exact ⟨45, _, rfl, Or.inl rfl⟩
    · simp only [printNum, hneg, if_false]
      exact hnat _
  | flt f =>
    obtain ⟨neg, ip, fp, hshape, hne, hip, -⟩ := (show FloatRT f from hn).shape
    simp only [printNum, hshape, utf8_append]
    cases neg with
    | true => exact ⟨45, _, rfl, Or.inl rfl⟩
    | false =>
      simp only [signChars, Bool.false_eq_true, if_false, utf8_nil, List.nil_append]
      exact hdig ip hne hip _

/-! ### Strings -/

theorem char_le_iff (a b : Char) : a ≤ b ↔ a.toNat ≤ b.toNat := by
  simp [Char.le_def, UInt32.le_iff_toNat_le]

theorem char_lt_iff (a b : Char) : a < b ↔ a.toNat < b.toNat := by
  simp [Char.lt_def, UInt32.lt_iff_toNat_lt]

theorem toByteArray_eq (l : List UInt8) : l.toByteArray = ⟨l.toArray⟩ := by
  have := List.toList_data_toByteArray (l := l)
  cases h : l.toByteArray with
  | mk data =>
    rw [h] at this
    simp at this
    subst this
    simp

/-- `String::from_utf8(s.as_bytes()) = s` (from core's `List.utf8Decode?_utf8Encode`) -/
theorem utf8Decode_utf8 (s : Str) : utf8Decode? (utf8 s) = some s := by
  have := List.utf8Decode?_utf8Encode (l := s)
  simp only [List.utf8Encode, toByteArray_eq] at this
  simp [utf8Decode?, utf8, this]

theorem ofNat_high (n : Nat) (h1 : 128 ≤ n) (h2 : n < 256) : UInt8.ofNat n ≠ 34 ∧ UInt8.ofNat n ≠ 92 := by
  constructor <;> intro h <;> {
    have := congrArg UInt8.toNat h
    simp only [UInt8.toNat_ofNat'] at this
    have h3 : n % 256 = n := Nat.mod_eq_of_lt h2
    simp at this
    omega }

/-- the UTF-8 bytes of a character above `~` are neither `"` nor `\` -/
theorem utf8EncodeChar_high (c : Char) (h : 127 ≤ c.toNat) :
    ∀ x ∈ String.utf8EncodeChar c, x ≠ 34 ∧ x ≠ 92 := by
  intro x hx
  simp only [String.utf8EncodeChar, Char.toNat_val] at hx
  split at hx
  · simp at hx; subst hx
    have : c.toNat = 127 := by omega
    rw [this]; decide
  · split at hx
    · simp only [List.mem_cons, List.not_mem_nil, or_false] at hx
      rcases hx with rfl | rfl <;> apply ofNat_high <;> omega
    · split at hx
      · simp only [List.mem_cons, List.not_mem_nil, or_false] at hx
        rcases hx with rfl | rfl | rfl <;> apply ofNat_high <;> omega
      · simp only [List.mem_cons, List.not_mem_nil, or_false] at hx
        rcases hx with rfl | rfl | rfl | rfl <;> apply ofNat_high <;> omega

/-- raw bytes (neither quote nor backslash) go to the accumulator, one loop turn each -/
theorem readStringLoop_raw (bs : List Byte) (hbs : ∀ x ∈ bs, x ≠ 34 ∧ x ≠ 92) (tail : List Byte)
    (r : Reader) (b : Byte) (hr : At r b (bs ++ tail)) (fuel : Nat) (acc : List Byte) :
    ∃ r' b', readStringLoop (fuel + bs.length) acc r = readStringLoop fuel (acc ++ bs) r' ∧
      At r' b' tail := by
  induction bs generalizing r b acc with
  | nil => exact ⟨r, b, by simp, by simpa using hr⟩
  | cons x xs ih =>
    obtain ⟨r1, hn, hr1⟩ := next_at_cons (show At r b (x :: (xs ++ tail)) from hr)
    obtain ⟨r2, b2, h2, hr2⟩ := ih (fun y hy => hbs y (by simp [hy])) r1 x hr1 (acc ++ [x])
    refine ⟨r2, b2, ?_, hr2⟩
    have hx := hbs x (by simp)
    rw [show fuel + (x :: xs).length = (fuel + xs.length) + 1 by simp; omega, readStringLoop,
      PM.bind_ok hn]
    simp only [hx.1, hx.2, if_false]
    simpa using h2

theorem printEscape_none (c : Char) (h : printEscape c = none) : c ≠ '"' ∧ c ≠ '\\' := by
  constructor <;> intro hc <;> subst hc <;> simp [printEscape] at h

theorem char_eq_of_toNat (c : Char) (n : Nat) (h : c.toNat = n) : c = Char.ofNat n := by
  rw [← h, Char.ofNat_toNat]

theorem toNat_of_byteOf_eq (c : Char) (h : c.toNat < 128) (n : Nat) (hn : n < 128) :
    byteOf c = UInt8.ofNat n → c.toNat = n := by
  intro hb
  have := congrArg UInt8.toNat hb
  simp only [byteOf, UInt8.toNat_ofNat'] at this
  omega

/-! #### `\uXXXX` -/

theorem toDigits16_1 (n : Nat) (h : n < 16) : Nat.toDigits 16 n = [Nat.digitChar n] :=
  Nat.toDigits_of_lt_base h

theorem toDigits16_2 (n : Nat) (h1 : 16 ≤ n) (h : n < 256) :
    Nat.toDigits 16 n = [Nat.digitChar (n / 16), Nat.digitChar (n % 16)] := by
  rw [Nat.toDigits_of_base_le (by decide) h1, toDigits16_1 (n / 16) (by omega)]; rfl

theorem toDigits16_3 (n : Nat) (h1 : 256 ≤ n) (h : n < 4096) :
    Nat.toDigits 16 n = [Nat.digitChar (n / 256), Nat.digitChar (n / 16 % 16), Nat.digitChar (n % 16)] := by
  rw [Nat.toDigits_of_base_le (by decide) (by omega), toDigits16_2 (n / 16) (by omega) (by omega)]
  simp [Nat.div_div_eq_div_mul]

theorem toDigits16_4 (n : Nat) (h1 : 4096 ≤ n) (h : n < 65536) :
    Nat.toDigits 16 n = [Nat.digitChar (n / 4096), Nat.digitChar (n / 256 % 16),
      Nat.digitChar (n / 16 % 16), Nat.digitChar (n % 16)] := by
  rw [Nat.toDigits_of_base_le (by decide) (by omega), toDigits16_3 (n / 16) (by omega) (by omega)]
  simp [Nat.div_div_eq_div_mul]

/-- `{:04x}` of a 16-bit number: exactly four digits -/
theorem hex4_eq (n : Nat) (h : n < 65536) :
    hex4 n = [Nat.digitChar (n / 4096), Nat.digitChar (n / 256 % 16),
      Nat.digitChar (n / 16 % 16), Nat.digitChar (n % 16)] := by
  unfold hex4
  by_cases h1 : n < 16
  · have e1 : n / 4096 = 0 := by omega
    have e2 : n / 256 % 16 = 0 := by omega
    have e3 : n / 16 % 16 = 0 := by omega
    have e4 : n % 16 = n := by omega
    simp [toDigits16_1 n h1, e1, e2, e3, e4, List.replicate]
  · by_cases h2 : n < 256
    · have e1 : n / 4096 = 0 := by omega
      have e2 : n / 256 % 16 = 0 := by omega
      have e3 : n / 16 % 16 = n / 16 := by omega
      simp [toDigits16_2 n (by omega) h2, e1, e2, e3, List.replicate]
    · by_cases h3 : n < 4096
      · have e1 : n / 4096 = 0 := by omega
        have e2 : n / 256 % 16 = n / 256 := by omega
        simp [toDigits16_3 n (by omega) h3, e1, e2]
      · simp [toDigits16_4 n (by omega) h]

theorem hexVal_digitChar : ∀ d, d < 16 →
    String.utf8EncodeChar (Nat.digitChar d) = [byteOf (Nat.digitChar d)] ∧
    hexVal (byteOf (Nat.digitChar d)) = some d := by
  decide

/-- the characters `print_string` can write so that `read_string` reads them back:
without `utf8Strings` only the Basic Multilingual Plane (`{:04x}` gives five digits above it) -/
def CharOK (o : JsonOpts) (c : Char) : Prop := c.toNat ≤ 0xFFFF ∨ o.utf8Strings = true

def StrOK (o : JsonOpts) (s : Str) : Prop := ∀ c ∈ s, CharOK o c

/-- `StrOK` is satisfiable, also without `utf8Strings` -/
example : StrOK {} ['a', '"', '\n', 'é', '\x7f'] := by
  intro c hc
  simp only [List.mem_cons, List.not_mem_nil, or_false] at hc
  rcases hc with rfl | rfl | rfl | rfl | rfl <;> exact Or.inl (by decide)

example : StrOK { utf8Strings := true } [Char.ofNat 0x1F603] := fun _ _ => Or.inr rfl

/-- the printed characters of a string, as bytes -/
def strBody (o : JsonOpts) (s : Str) : List Byte := utf8 (s.flatMap (printChar o))

theorem strBody_cons (o : JsonOpts) (c : Char) (s : Str) :
    strBody o (c :: s) = utf8 (printChar o c) ++ strBody o s := by
  simp [strBody, utf8_append]

theorem utf8_printString (o : JsonOpts) (s : Str) :
    utf8 (printString o s) = 34 :: (strBody o s ++ [34]) := by
  simp only [printString, utf8_cons, utf8_append, strBody]; rfl

end Jawk.RT
