/-
  C04 — expressions evaluate to what the function documentation prescribes.

  Laws over the model of the evaluator (`eval`, `callFn` in `Jawk/Model/Eval.lean`), each for ALL argument
  values and sizes, stated through argument expressions whose evaluation is given by hypotheses (so they hold
  whatever the arguments are spelled like).  The laws are the theorems of the namespace `Jawk.C04`; they stand, with
  their proofs, in `Jawk/Lemmas/EvalLaws.lean` (take / take_last / sub and friends, size, get / keys / values /
  entries, map / filter, wrong type => nothing, booleans, comparisons and flow, `+`, the number-conversion laws),
  `EvalLawsList.lean` (flat_map, fold, group_by, all, any, sum, indexed, range, zip, cross, sort, sort_unique),
  `EvalLawsObj.lean` (filter_keys, filter_values, map_keys, map_values, put, insert_if_absent, replace_if_exists,
  the three object sorts, the casts and type tests) and `EvalLawsNum.lean` (`* - / %`, abs, floor, ceil, round,
  n-ary sums and products, finiteness, concat, split, join∘split, parse∘stringify, the library-backed functions'
  wrong-type laws), next to the list lemmas and dispatch lemmas they use; `C04.obligations` lists them
  (bin/gen-c04-props.py collects the list).  That the model's equations are the Rust functions' is the
  correspondence run's job (all 429 documentation examples + generated expressions + the reference evaluator on
  every run).
-/
import Jawk.Lemmas.EvalLaws
import Jawk.Lemmas.EvalLawsList
import Jawk.Lemmas.EvalLawsObj
import Jawk.Lemmas.EvalLawsNum
namespace Jawk.C04
open Jawk EvalLaws

/-! ### non-vacuity -/
example : eval {} 10 (.call "take" [.const (.arr [.null, .bool true]), .const (.num (.pos 0))]) {} = .ok (some (.arr [])) :=
  take_arr_zero {} 9 {} (.const (.arr [.null, .bool true])) (.const (.num (.pos 0))) [.null, .bool true] rfl rfl

end Jawk.C04
