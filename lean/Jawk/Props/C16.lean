/-
  C16 — read and write failures stop the run with an error, never a panic or silent loss.

  Step level (`Jawk/Props/C16Steps.lean`): all read-event schedules (`Interrupted`, short reads) and all write
  failure offsets of the modelled `Read` / `Write`.  Run level (this file, helper `Jawk/Lemmas/Locality.lean`):
  a fault item anywhere in a source is fatal under EVERY `--on-error` policy the moment it is pulled, no report is
  written for it, both output logs only ever grow, and what was written before the fault is a prefix of what the
  fault-free run writes.
-/
import Jawk.Props.C16Steps
import Jawk.Lemmas.Locality
import Jawk.Lemmas.WriteAll
namespace Jawk.C16
open Jawk Loc

variable (orc : Oracles) (c : Cfg) (p : Pipeline)

/-- a read fault is never skipped like a malformed value nor mistaken for the end of input: a parser call either
leaves it unread or returns the I/O error, consuming exactly up to it -/
theorem fault_is_not_skipped (r : Reader) (post : List RItem) (hs : (RItem.err :: post) <:+ r.rest) :
    (RItem.err :: post) <:+ r.nextJson.2.rest ∨ (r.nextJson.1 = .error .io ∧ r.nextJson.2.rest = post) :=
  nextJson_fault r post hs

/-- From any configuration of the read loop with a fault ahead: the loop reaches a configuration with the
fault still ahead and both logs extended, and then EITHER the next call returns the I/O error and the loop ends
with `.error .io` in exactly that state (no report, whatever the policy) OR the loop had already ended (Break,
or an earlier error) without pulling it -/
theorem read_error_is_fatal_run (fuel : Nat) (k : Conf) (post : List RItem)
    (hs : (RItem.err :: post) <:+ k.r.rest) :
    ∃ k', Reach orc c p k k' ∧ (RItem.err :: post) <:+ k'.r.rest ∧
      k.s.out.out <+: k'.s.out.out ∧ k.s.err.out <+: k'.s.err.out ∧
      ((k'.r.nextJson.1 = .error .io ∧ k'.r.nextJson.2.rest = post ∧
          readLoop orc c p fuel k.r k.inFile k.s = .error ⟨.error .io,
            { k'.s with pulled := k.s.pulled ++ [k.r.pulled + (k.r.rest.length - post.length)] }⟩) ∨
       (∃ s' r' d, readLoop orc c p fuel k.r k.inFile k.s = .ok (s', r', d) ∧ (RItem.err :: post) <:+ r'.rest) ∨
       (∃ e, readLoop orc c p fuel k.r k.inFile k.s = .error e ∧
          (e.st.pulled = k.s.pulled ∨
           ∃ n, e.st.pulled = k.s.pulled ++ [n] ∧ n < k.r.pulled + (k.r.rest.length - post.length)))) :=
  Loc.read_error_is_fatal_run orc c p fuel k post hs

/-- nothing written is ever taken back: for every configuration, every input, every writer (bounded or not), the
bytes on stdout / stderr at the start are a prefix of those at the end -/
theorem output_only_grows (sources : List Source) (wOut wErr : Writer) :
    wOut.out <+: (run orc c sources wOut wErr).stdout ∧ wErr.out <+: (run orc c sources wOut wErr).stderr :=
  run_out_monotone orc c sources wOut wErr

/-- streaming prefix: when the run over `pre ++ fault ++ post` ends at the fault, its result is the I/O error and
its stdout and stderr are PREFIXES of those of the run over `pre ++ cont` for every fault-free or faulty
continuation `cont` — whatever reached the output before the failure is a prefix of the fault-free output -/
theorem streaming_prefix (name : Option Str) (pre post cont : List RItem) (rest rest₂ : List Source)
    (wOut wErr w0 : Writer) (e : RunEnd)
    (hb : build orc c = .ok p) (hs : sinkStart p.sink p.titles wOut = .ok w0)
    (h : readLoop orc c p ((pre ++ RItem.err :: post).length + 2) (Reader.ofItems (pre ++ RItem.err :: post) name) 0
          { sts := p.sts, out := w0, err := wErr } = .error e)
    (hp : e.st.pulled = [pre.length + 1]) :
    (run orc c (⟨name, pre ++ RItem.err :: post⟩ :: rest) wOut wErr).result = .error .io ∧
    (run orc c (⟨name, pre ++ RItem.err :: post⟩ :: rest) wOut wErr).stdout
      <+: (run orc c (⟨name, pre ++ cont⟩ :: rest₂) wOut wErr).stdout ∧
    (run orc c (⟨name, pre ++ RItem.err :: post⟩ :: rest) wOut wErr).stderr
      <+: (run orc c (⟨name, pre ++ cont⟩ :: rest₂) wOut wErr).stderr :=
  streaming_prefix_run orc c p name pre post cont rest rest₂ wOut wErr w0 e hb hs h hp

/-! ### what `Writer.put` stands for -/

/-- `Writer.put` models `write_all`: over a descriptor that takes ANY non-empty prefix of what it is offered, the loop
delivers exactly the bytes, in order — which is `put` on a descriptor with room.  (The correspondence run's writers do
accept only part of an offer now and then; a bare `write` whose count is ignored would lose the rest: `WriteAll.bare_write_loses`.) -/
theorem write_all_delivers (pol : WriteAll.Policy) (w : Writer) (bs : List Byte) (hw : w.failed = false) (hr : w.room = none) :
    WriteAll.writeAll pol bs.length w.out bs = (w.put bs).out :=
  WriteAll.writeAll_is_put pol w bs hw hr

end Jawk.C16
