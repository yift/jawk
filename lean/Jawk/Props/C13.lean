/-
  C13 — an expression means the same under every alias, in every position, for every cache size and
  in every spelling.
-/
import Jawk.Lemmas.ParseRender
import Jawk.Model.Run
import Jawk.Spec.Cache
import Jawk.Props.Tables
namespace Jawk.C13
open Jawk Jawk.Spec

/-! ### Aliases (over the GENERATED table, re-checked on every run) -/

/-- all 192 names and aliases of the function table are distinct, so a name resolves to one function -/
theorem names_nodup : Generated.functionNameCodes.Nodup := PR.nameCodes_nodup

/-- the signature table `functionSigCodes` has as many entries as `functionTable` (the lengths only;
the names themselves are tied to the table by `PR.tableNames_codes`) -/
theorem sig_table_length : Generated.functionSigCodes.length = Generated.functionTable.length := by decide

/-- the table of names has one entry per function plus one per alias -/
theorem names_count :
    Generated.functionNameCodes.length =
      (Generated.functionSigCodes.map (fun s => 1 + s.2.1)).sum := by decide +kernel

/-- name resolution only depends on the table entry: two names of the same entry give the same function -/
theorem alias_same_fn (n₁ n₂ : String) (e : String × List String × Nat × Option Nat)
    (h₁ : Generated.functionTable.find? (fun (name, aliases, _, _) => name == n₁ || aliases.contains n₁) = some e)
    (h₂ : Generated.functionTable.find? (fun (name, aliases, _, _) => name == n₂ || aliases.contains n₂) = some e) :
    findFunction n₁ = findFunction n₂ := by
  unfold findFunction
  rw [h₁, h₂]

/-- an alias resolves to the same definition as the canonical name — over the whole table regenerated from the
source, so the parser builds THE SAME AST for `(alias args…)` and `(name args…)`, with and without dot sugar -/
theorem alias_same_ast (e : String × List String × Nat × Option Nat) (he : e ∈ Generated.functionTable)
    (a : String) (ha : a ∈ e.2.1) (fuel : Nat) :
    PR.resolveCall a.toList fuel = PR.resolveCall e.1.toList fuel ∧
    PR.resolveCall ('.' :: a.toList) fuel = PR.resolveCall ('.' :: e.1.toList) fuel :=
  PR.alias_same_ast e he a ha fuel

/-! ### Position: every option position evaluates the expression with the same evaluator -/

theorem filter_uses_eval (orc : Oracles) (sink : SinkCfg) (n : Nat) (e : Expr) (cs : List StageCfg)
    (st : StageSt) (sts : List StageSt) (w : Writer) (ctx : Ctx) (v : Option JV)
    (hv : eval orc evalFuel e ctx = .ok v) :
    process orc sink n (.filter e :: cs) (st :: sts) w ctx =
      (match v with
        | some (.bool true) =>
          (do let (p, d) ← process orc sink n cs sts w ctx
              pure (⟨st :: p.sts, p.w⟩, d))
        | _ => .ok (⟨st :: sts, w⟩, .cont)) := by
  simp only [process, evalE, liftR, hv, bind, Except.bind]
  cases v with
  | none => rfl
  | some x =>
    cases x with
    | bool b => cases b <;> rfl
    | _ => rfl

theorem select_uses_eval (orc : Oracles) (sink : SinkCfg) (n : Nat) (name : Str) (e : Expr) (cs : List StageCfg)
    (st : StageSt) (sts : List StageSt) (w : Writer) (ctx : Ctx) (v : Option JV)
    (hv : eval orc evalFuel e ctx = .ok v) :
    process orc sink n (.select name e :: cs) (st :: sts) w ctx =
      (do let (p, d) ← process orc sink n cs sts w (ctx.withResult name v)
          pure (⟨st :: p.sts, p.w⟩, d)) := by
  simp [process, evalE, liftR, hv, bind, Except.bind]
  rfl

theorem group_uses_eval (orc : Oracles) (sink : SinkCfg) (n : Nat) (e : Expr) (cs : List StageCfg)
    (data : List (Str × List JV)) (sts : List StageSt) (w : Writer) (ctx : Ctx) (v : Option JV)
    (hv : eval orc evalFuel e ctx = .ok v) :
    process orc sink n (.group e :: cs) (.group data :: sts) w ctx =
      .ok (⟨(match v with
              | some (.str key) => .group (groupInsert key ctx.build data)
              | _ => .group data) :: sts, w⟩, .cont) := by
  simp only [process, evalE, liftR, hv, bind, Except.bind]
  cases v with
  | none => rfl
  | some x => cases x <;> rfl

theorem sort_uses_eval (orc : Oracles) (sink : SinkCfg) (n : Nat) (e : Expr) (desc : Bool) (cs : List StageCfg)
    (data : Buckets) (sts : List StageSt) (w : Writer) (ctx : Ctx) (k : JV)
    (hv : eval orc evalFuel e ctx = .ok (some k)) :
    process orc sink n (.sort e desc :: cs) (.sort data none :: sts) w ctx =
      .ok (⟨.sort (bucketInsert k ctx data) none :: sts, w⟩, .cont) := by
  simp [process, evalE, liftR, hv, bind, Except.bind, sortStep]

/-- a macro is its body: `@m` where `m` is bound to `e` has the value of `e` -/
theorem macro_uses_eval (orc : Oracles) (fuel : Nat) (c : Ctx) (n : Str) (e : Expr)
    (h : c.getDefinition n = some e) :
    eval orc (fuel + 2) (.macro n) c = eval orc (fuel + 1) e c := by simp [eval, h]

/-! ### Cache: transparent for every capacity, every history, every eviction policy -/

theorem cache_transparent {α} (compile : List Char → α) (evict : CacheSt α → CacheSt α)
    (hev : ∀ s, ∀ e ∈ evict s, e ∈ s) (cap : Nat) (s : CacheSt α) (p : List Char)
    (hinv : CacheInv compile s) :
    (compileCached compile evict cap s p).1 = compile p ∧
    CacheInv compile (compileCached compile evict cap s p).2 := by
  unfold compileCached
  by_cases hc : cap = 0
  · simp [hc, hinv]
  · simp only [hc, if_false]
    cases hf : s.find? (fun e => e.1 = p) with
    | some e =>
      have hmem := List.mem_of_find?_eq_some hf
      have hp : e.1 = p := by simpa using List.find?_some hf
      exact ⟨by simp [hinv e hmem, hp], hinv⟩
    | none =>
      refine ⟨rfl, ?_⟩
      intro e he
      simp only [List.mem_cons] at he
      rcases he with rfl | he
      · rfl
      · split at he
        · exact hinv e (hev s e he)
        · exact hinv e he

/-- any sequence of compilations through the cache returns what uncached compilation returns -/
theorem cache_any_history {α} (compile : List Char → α) (evict : CacheSt α → CacheSt α)
    (hev : ∀ s, ∀ e ∈ evict s, e ∈ s) (cap : Nat) (ps : List (List Char)) (s : CacheSt α)
    (hinv : CacheInv compile s) :
    (ps.foldl (fun (acc : List α × CacheSt α) p =>
        let r := compileCached compile evict cap acc.2 p
        (acc.1 ++ [r.1], r.2)) ([], s)).1 = ps.map compile := by
  suffices h : ∀ (done : List α) (s : CacheSt α), CacheInv compile s →
      (ps.foldl (fun (acc : List α × CacheSt α) p =>
        let r := compileCached compile evict cap acc.2 p
        (acc.1 ++ [r.1], r.2)) (done, s)).1 = done ++ ps.map compile by
    simpa using h [] s hinv
  induction ps with
  | nil => intro done s _; simp
  | cons p ps ih =>
    intro done s hs
    have ht := cache_transparent compile evict hev cap s p hs
    simp only [List.foldl_cons, List.map_cons]
    rw [ih _ _ ht.2, ht.1]
    simp

/-- non-vacuity: an empty cache satisfies the invariant, and FIFO eviction satisfies `hev` -/
example : CacheInv (fun p => p.length) ([] : CacheSt Nat) := by intro e he; cases he
example : ∀ (s : CacheSt Nat), ∀ e ∈ s.dropLast, e ∈ s := fun s e he => (List.dropLast_sublist s).subset he


/-! ### spelling independence: `parse ∘ render = id` (helper file `Jawk/Lemmas/ParseRender.lean`)

`PR.render st e` writes an AST as text in a `Style` (how arguments are separated — any non-empty mix of blanks
and commas —, what precedes the closing parenthesis, which of its names each function is called by, how literals
are printed); `PR.WFR` is the set of ASTs that have a text at all (keys without stop bytes, printable literals,
arities in range). -/

/-- every renderable AST, written in ANY valid style with any surrounding white space, parses back to
exactly that AST -/
theorem parse_render (st : PR.Style) (hst : PR.StyleOK st) (e : Expr) (he : PR.WFR st.o e)
    (lead trail : Str) (hlead : ∀ c ∈ lead, RT.isWsChar c = true) (htrail : ∀ c ∈ trail, RT.isWsChar c = true) :
    parseWholeExpr (lead ++ (PR.render st e ++ trail)) = .ok e :=
  PR.parseWholeExpr_render st hst e he lead trail hlead htrail

/-- hence two spellings of the same expression — spaces or commas or both, padding, any alias, any literal
style — mean the same: they ARE the same AST -/
theorem spelling_independent (st₁ st₂ : PR.Style) (h₁ : PR.StyleOK st₁) (h₂ : PR.StyleOK st₂) (e : Expr)
    (he₁ : PR.WFR st₁.o e) (he₂ : PR.WFR st₂.o e) (lead₁ trail₁ lead₂ trail₂ : Str)
    (hl₁ : ∀ c ∈ lead₁, RT.isWsChar c = true) (ht₁ : ∀ c ∈ trail₁, RT.isWsChar c = true)
    (hl₂ : ∀ c ∈ lead₂, RT.isWsChar c = true) (ht₂ : ∀ c ∈ trail₂, RT.isWsChar c = true) :
    parseWholeExpr (lead₁ ++ (PR.render st₁ e ++ trail₁)) = parseWholeExpr (lead₂ ++ (PR.render st₂ e ++ trail₂)) :=
  PR.style_independent st₁ st₂ h₁ h₂ e he₁ he₂ lead₁ trail₁ lead₂ trail₂ hl₁ ht₁ hl₂ ht₂

theorem separator_independent (e : Expr) (he : PR.WellFormedR e) (sp₁ sp₂ : PR.SepStyle) :
    parseWholeExpr (PR.renderSp sp₁ e) = parseWholeExpr (PR.renderSp sp₂ e) :=
  PR.separator_independent e he sp₁ sp₂

/-- `(.f x)` is `(f . x)`: both spellings parse to the same AST -/
theorem dot_sugar (st : PR.Style) (hst : PR.StyleOK st) (fn : String) (as : List Expr)
    (hwf : PR.WFR st.o (.call fn (PR.root :: as))) :
    parseWholeExpr (PR.renderDot st fn as) = .ok (.call fn (PR.root :: as)) ∧
    parseWholeExpr (PR.render st (.call fn (PR.root :: as))) = .ok (.call fn (PR.root :: as)) :=
  PR.dot_sugar_whole st hst fn as hwf

end Jawk.C13
