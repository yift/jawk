/-
The tie between the model's byte classes, escape tables and defaults and the tables regenerated on every
run (`Jawk.Generated.*`): `ByteClasses` by running the real code on EVERY byte (`harness probe`,
cross-checked against the control flow where `extract/extract_tables.py` recognises it), `Presets` by
reading the literals of /repo/src.

Every theorem here says: "the model's definition is the table the code has now".  A change of the
code changes the generated table, and the theorem stops checking.  Statements over bytes
are proved for all 256 bytes by kernel evaluation and lifted by `forall_byte` / `contains_of_filter`.
-/
import Jawk.Generated.ByteClasses
import Jawk.Generated.Presets
import Jawk.Model.Run
import Jawk.Props.C06Steps

namespace Jawk.Tables
open Jawk Reader

/-- a Boolean statement checked for 0 … 255 holds for every byte -/
theorem forall_byte {p : Byte → Bool} (h : ∀ n : Fin 256, p (UInt8.ofNat n.val) = true) (b : Byte) :
    p b = true := by
  have := h ⟨b.toNat, UInt8.toNat_lt b⟩
  simpa using this

/-- a class of bytes is the ascending list of its members: one pass over the 256 bytes, where
`contains` for each byte would scan the list 256 times -/
theorem contains_of_filter {p : Byte → Bool} {L : List Nat}
    (h : (List.range 256).filter (fun n => p (UInt8.ofNat n)) = L) (b : Byte) :
    p b = L.contains b.toNat := by
  subst h
  rw [List.contains_eq_mem, Bool.eq_iff_iff, decide_eq_true_eq, List.mem_filter, List.mem_range,
    UInt8.ofNat_toNat]
  exact ⟨fun hb => ⟨UInt8.toNat_lt b, hb⟩, fun hb => hb.2⟩

/-- `Reader.isWs` is exactly the set of bytes the real code skips between values. -/
theorem isWs_generated (b : Byte) : isWs b = Generated.whitespaceBytes.contains b.toNat :=
  contains_of_filter (by decide +kernel) b

/-- the stop set of `:name` / `@name` -/
theorem varStop_generated (b : Byte) : varStop b = Generated.varStopBytes.contains b.toNat :=
  contains_of_filter (by decide +kernel) b

/-- the stop set of a function name (`is_ascii_whitespace`, `is_ascii_control` expanded by the extractor) -/
theorem fnNameStop_generated (b : Byte) : fnNameStop b = Generated.fnNameStopBytes.contains b.toNat :=
  contains_of_filter (by decide +kernel) b

/-- the stop set of a bare `.key` -/
theorem keyStop_generated (b : Byte) : keyStop b = Generated.keyStopBytes.contains b.toNat :=
  contains_of_filter (by decide +kernel) b

/-- the bytes that can start a value, by what the real code reads after them -/
def startsValue (b : Byte) : Bool := Generated.valueStartKinds.any (fun arm => arm.1.contains b.toNat)

/-- C06's `Garbage` is exactly the set of bytes on which the real code spends one byte and one recoverable
error where a value may start. -/
theorem garbage_generated (b : Byte) : C06.Garbage b = Generated.garbageBytes.contains b.toNat :=
  contains_of_filter (by decide +kernel) b

/-- every byte is white space, the start of a value, or garbage — exactly one of the three -/
theorem byte_classes_partition (b : Byte) :
    ((isWs b && !startsValue b && !C06.Garbage b) || (!isWs b && startsValue b && !C06.Garbage b)
      || (!isWs b && !startsValue b && C06.Garbage b)) = true := by
  exact forall_byte (p := fun b =>
    (isWs b && !startsValue b && !C06.Garbage b) || (!isWs b && startsValue b && !C06.Garbage b)
      || (!isWs b && !startsValue b && C06.Garbage b)) (by decide +kernel) b

/-- The first byte decides the kind of value, as in the model's `nextValue` chain: `t`, `f`, `n`, `"`,
`-`/digit, `[`, `{` (kinds compared as code points). -/
theorem valueStart_kinds :
    Generated.valueStartKinds =
      [([116], "true".toList.map Char.toNat),
       ([102], "false".toList.map Char.toNat),
       ([110], "null".toList.map Char.toNat),
       ([34], "string".toList.map Char.toNat),
       (45 :: (List.range 10).map (· + 48), "number".toList.map Char.toNat),
       ([91], "array".toList.map Char.toNat),
       ([123], "object".toList.map Char.toNat)] := by
  decide +kernel

/-- the two-character escapes `read_string` accepts, and the byte each one pushes -/
theorem simpleEscape_generated (b : Byte) :
    simpleEscape b = (Generated.parseEscapeArms.lookup b.toNat).map UInt8.ofNat := by
  have := forall_byte
    (p := fun b => simpleEscape b == (Generated.parseEscapeArms.lookup b.toNat).map UInt8.ofNat)
    (by decide +kernel) b
  simpa using this

/-- what the arms of the JSON `print_string` write for a character: `\` and one letter -/
def printArm (n : Nat) : Option Char :=
  match Generated.printEscapeArms.lookup n with
  | some [92, e] => some (Char.ofNat e)
  | _ => none

/-- every arm of `print_string` writes a backslash and one more character -/
theorem printEscapeArms_shape :
    Generated.printEscapeArms.all (fun a => match a.2 with | [92, _] => true | _ => false) = true := by
  decide +kernel

/-- `printEscape` is the arm table of the JSON `print_string` in the source, for every character. -/
theorem printEscape_generated (c : Char) : printEscape c = printArm c.toNat := by
  have key : ∀ d : Char, c.toNat = d.toNat → c = d := fun d h =>
    Char.ext (UInt32.toNat_inj.mp h)
  have neq : ∀ d : Char, c.toNat ≠ d.toNat → c ≠ d := fun d h e => h (by rw [e])
  by_cases h1 : c.toNat = 34
  · rw [key '"' h1]; decide
  by_cases h2 : c.toNat = 92
  · rw [key '\\' h2]; decide
  by_cases h3 : c.toNat = 47
  · rw [key '/' h3]; decide
  by_cases h4 : c.toNat = 8
  · rw [key '\x08' h4]; decide
  by_cases h5 : c.toNat = 12
  · rw [key '\x0c' h5]; decide
  by_cases h6 : c.toNat = 10
  · rw [key '\n' h6]; decide
  by_cases h7 : c.toNat = 13
  · rw [key '\r' h7]; decide
  by_cases h8 : c.toNat = 9
  · rw [key '\t' h8]; decide
  have e1 : printEscape c = none := by
    unfold printEscape
    simp [neq '"' h1, neq '\\' h2, neq '/' h3, neq '\x08' h4, neq '\x0c' h5, neq '\n' h6,
      neq '\r' h7, neq '\t' h8]
  have e2 : printArm c.toNat = none := by
    have b : ∀ n, c.toNat ≠ n → (c.toNat == n) = false := fun n h => by simp [h]
    unfold printArm
    simp only [Generated.printEscapeArms, List.lookup, b _ h1, b _ h2, b _ h3, b _ h4, b _ h5,
      b _ h6, b _ h7, b _ h8]
  rw [e1, e2]

/-- the characters the JSON printer writes unchanged: the source's `(' '..='~')` and, with
`utf8_strings`, everything above `'~'` -/
theorem printChar_generated (o : JsonOpts) (c : Char) (h : printEscape c = none) :
    printChar o c =
      if (Generated.printPlainRange.1 ≤ c.toNat ∧ c.toNat ≤ Generated.printPlainRange.2) ∨
          (o.utf8Strings = true ∧ Generated.printUtf8Above < c.toNat)
      then [c] else '\\' :: 'u' :: hex4 c.toNat := by
  unfold printChar
  rw [h]
  simp only [Generated.printPlainRange, Generated.printUtf8Above, Char.le_def, Char.lt_def]
  rfl

/-! ### defaults -/

private def onErrorName : OnError → String
  | .ignore => "Ignore" | .panic => "Panic" | .stderr => "Stderr" | .stdout => "Stdout"

/-- the `OnError` variants and the default one -/
theorem onError_generated :
    Generated.onErrorVariants = [OnError.ignore, .panic, .stderr, .stdout].map onErrorName ∧
    onErrorName ({} : Cfg).onError = Generated.onErrorDefault := by
  constructor <;> decide

/-- `--skip` defaults to the source's default, the row separator to the source's default -/
theorem cfg_defaults_generated :
    ({} : Cfg).skip = Generated.skipDefault ∧
    ({} : Cfg).rowSep = codesToStr Generated.rowSeparatorDefault := by
  constructor <;> decide

/-- `TextOutputOptions::default()` -/
theorem textDefaults_generated :
    let (sep, pre, post, headers, esc, nul, tru, fal, miss) := Generated.textDefaultCodes
    ({} : TextOpts) =
      { itemsSep := codesToStr sep, strPrefix := codesToStr pre, strPostfix := codesToStr post,
        headers := headers, escapes := esc.map codesToStr, nullKw := codesToStr nul,
        trueKw := codesToStr tru, falseKw := codesToStr fal, missingKw := miss.map codesToStr } := by
  decide +kernel

private def styleName : JsonStyle → String
  | .oneLine => "OneLine" | .consise => "Consise" | .pretty => "Pretty"

/-- `JsonOutputOptions::default()` -/
theorem jsonDefaults_generated :
    styleName ({} : JsonOpts).style = Generated.jsonDefaultStyle ∧
    ({} : JsonOpts).utf8Strings = Generated.jsonDefaultUtf8 := by
  constructor <;> decide

end Jawk.Tables
