/-
  C20 — the executable separates data from diagnostics and signals failure by exit code.
  `mainModel` mirrors `src/main.rs`; the process boundary (pipes, EPIPE, exit status
  encoding) is a failing writer and an integer (partial: tied to the real binary by K2).
-/
import Jawk.Model.Run
import Jawk.Lemmas.LineBuffer
namespace Jawk.C20
open Jawk

variable (orc : Oracles)

/-- exit status 0 exactly when the run succeeded -/
theorem exit_zero_iff_ok (c : Cfg) (srcs : List Source) (fd1 fd2 : Writer) :
    (mainModel orc c srcs fd1 fd2).code = 0 ↔ (run orc c srcs fd1 fd2).result = .ok () := by
  simp only [mainModel]
  split <;> simp_all

/-- a failed run exits non-zero and puts a non-empty message on standard error -/
theorem failure_has_message (c : Cfg) (srcs : List Source) (fd1 fd2 : Writer) (f : Fail)
    (h : (run orc c srcs fd1 fd2).result = .error f) :
    (mainModel orc c srcs fd1 fd2).code ≠ 0 ∧
    ∃ msg, msg ≠ [] ∧ (mainModel orc c srcs fd1 fd2).fd2 = (run orc c srcs fd1 fd2).stderr ++ msg := by
  simp only [mainModel, h]
  refine ⟨by simp, utf8 (f.text ++ ['\n']), ?_, rfl⟩
  simp [utf8, List.flatMap_append]

/-- what reaches descriptor 1 is exactly what `go` wrote to its first writer: `main` passes
fd 1 as `stdout` and fd 2 as `stderr`, in that order -/
theorem fd1_is_go_stdout (c : Cfg) (srcs : List Source) (fd1 fd2 : Writer) :
    (mainModel orc c srcs fd1 fd2).fd1 = (run orc c srcs fd1 fd2).stdout := by
  simp only [mainModel]
  split <;> rfl

/-- a report written under `--on-error=stderr` goes to the error writer and leaves the
output writer untouched (one step of the read loop) -/
theorem stderr_report_step (c : Cfg) (p : Pipeline) (fuel : Nat) (r r' : Reader) (inFile : Nat) (s : RunState) (e : PErr)
    (hc : c.onError = .stderr) (hn : r.nextJson = (.error e, r')) (hrec : e.canRecover = true)
    (hw : (s.err.put (reportBytes e)).failed = false) :
    readLoop orc c p (fuel + 1) r inFile s =
      readLoop orc c p fuel r' inFile { s with err := s.err.put (reportBytes e) } := by
  rw [readLoop]
  simp [hn, hrec, hc, hw]

/-- under `--on-error=stdout` the same report goes to the output writer instead -/
theorem stdout_report_step (c : Cfg) (p : Pipeline) (fuel : Nat) (r r' : Reader) (inFile : Nat) (s : RunState) (e : PErr)
    (hc : c.onError = .stdout) (hn : r.nextJson = (.error e, r')) (hrec : e.canRecover = true)
    (hw : (s.out.put (reportBytes e)).failed = false) :
    readLoop orc c p (fuel + 1) r inFile s =
      readLoop orc c p fuel r' inFile { s with out := s.out.put (reportBytes e) } := by
  rw [readLoop]
  simp [hn, hrec, hc, hw]

/-! ### the line buffer between `go` and descriptor 1 (finding F25) -/

/-- as long as no write has failed, what descriptor 1 got followed by what is still buffered is exactly what the run wrote,
in order — for every sequence of writes, every buffer size, every failing offset of the descriptor -/
theorem buffered_stdout_conservation (cap : Nat) (ws : List (List Byte)) (s : LineBuffer.LW)
    (h : (LineBuffer.writes cap s ws).dev.failed = false) :
    (LineBuffer.writes cap s ws).total = s.total ++ ws.flatten ∧ s.dev.failed = false :=
  LineBuffer.conservation cap ws s h

/-- `main` flushes after a successful run: exit status 0 means every byte `go` wrote reached descriptor 1 -/
theorem exit_zero_means_delivered (cap : Nat) (dev : Writer) (ws : List (List Byte))
    (h : (LineBuffer.flushedMain cap dev ws).1 = 0) :
    (LineBuffer.flushedMain cap dev ws).2.out = dev.out ++ ws.flatten :=
  LineBuffer.flushed_main_delivers cap dev ws h

/-- F25: without that flush a row that does not end with a line feed is lost on a full device and the exit
status is 0; with it the same run exits 255 (replayed on the binary by the C20 cases with `--row-seperator=,`) -/
theorem unflushed_exit_loses_output :
    (LineBuffer.unflushedMain 1024 { room := some 0 } [[49, 44]]).1 = 0 ∧
    (LineBuffer.unflushedMain 1024 { room := some 0 } [[49, 44]]).2.out = [] ∧
    (LineBuffer.flushedMain 1024 { room := some 0 } [[49, 44]]).1 = 255 :=
  LineBuffer.unflushed_main_loses

/-- non-vacuity: an invalid configuration is a failing run (exit code 255, message on fd 2) -/
example : (mainModel {} { style := .csv, jsonOpts := some {} } [] {} {}).code = 255 := by decide

end Jawk.C20
