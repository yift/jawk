/-
  C09 — `--group-by` / `--merge` emit exactly one complete collection at end of input.
  Corollaries of the pipeline refinement (C03).  Helper lemmas: `Jawk/Lemmas/PipelineSpec.lean`;
  the statements about whole configurations come from `Jawk/Lemmas/RunCor.lean`.
-/
import Jawk.Lemmas.RunCor
import Jawk.Lemmas.PipelineSpec
namespace Jawk.C09
open Jawk Pipe

variable (ev : Expr → Ctx → Option JV)

/-- exactly one row reaches the printer: the object of the groups of the rows the chain in front yields -/
theorem group_emits_once (pre : List StageCfg) (spre : List StageSt) (e : Expr) (rows : List Ctx)
    (hlen : spre.length = pre.length) (hi : Initial pre spre) (hg : GroupLast (pre ++ [.group e])) :
    runP ev (pre ++ [.group e]) (spre ++ [.group []]) rows
      = [{ input := groupValue (groupOf ev e (runP ev pre spre rows)) }] :=
  Pipe.group_emits_once ev pre spre e rows hlen hi hg

/-- `--merge`: exactly one array holding every surviving row, in order, as the printer would print it -/
theorem merge_emits_once (pre : List StageCfg) (spre : List StageSt) (rows : List Ctx)
    (hlen : spre.length = pre.length) (hi : Initial pre spre) (hg : GroupLast (pre ++ [.merge])) :
    runP ev (pre ++ [.merge]) (spre ++ [.merge []]) rows
      = [{ input := .arr ((runP ev pre spre rows).map Ctx.build) }] :=
  Pipe.merge_emits_once ev pre spre rows hlen hi hg

/-- both emit their empty collection when no row survives -/
theorem empty_input_emits (e : Expr) :
    runP ev [.group e] [.group []] [] = [{ input := .obj [] }] ∧
    runP ev [.merge] [.merge []] [] = [{ input := .arr [] }] := ⟨rfl, rfl⟩

/-- keys are distinct … -/
theorem group_keys_distinct (e : Expr) (rows : List Ctx) : ((groupOf ev e rows).map (·.1)).Nodup :=
  groupOf_keys_nodup ev e rows

/-- … in first-seen order: a key is appended the first time it is seen and never moves; rows whose key is
absent or not a string add nothing … -/
theorem group_keys_first_seen (e : Expr) (rows : List Ctx) (c : Ctx) :
    (groupOf ev e (rows ++ [c])).map (·.1)
      = match ev e c with
        | some (.str k) =>
          if k ∈ (groupOf ev e rows).map (·.1) then (groupOf ev e rows).map (·.1)
          else (groupOf ev e rows).map (·.1) ++ [k]
        | _ => (groupOf ev e rows).map (·.1) := groupOf_keys_snoc ev e rows c

/-- … a key is present exactly when some row has it … -/
theorem group_key_present_iff (e : Expr) (k : Str) (rows : List Ctx) :
    k ∈ (groupOf ev e rows).map (·.1) ↔ rows.any (hasKey ev e k) = true := groupOf_mem_keys ev e k rows

/-- … and its array holds every row with that key exactly once, in arrival order, as the ungrouped printer
would print it (`Ctx.build`) -/
theorem group_members (e : Expr) (k : Str) (rows : List Ctx) (h : rows.any (hasKey ev e k) = true) :
    (groupOf ev e rows).lookup k = some ((rows.filter (hasKey ev e k)).map Ctx.build) :=
  groupOf_lookup ev e k rows h

/-- `complete` reaches the collector through a limiter (finding F13): one row, from the window -/
theorem complete_reaches_collector (skip : Nat) (take : Option Nat) (e : Expr) (rows : List Ctx) :
    runP ev ([.limit skip take] ++ [.group e]) ([.limit 0 0] ++ [.group []]) rows
      = [{ input := groupValue (groupOf ev e (takeOpt take (rows.drop skip))) }] := by
  have h := group_emits_once ev [.limit skip take] [.limit 0 0] e rows rfl
    (⟨⟨rfl, rfl⟩, trivial⟩ : Initial [StageCfg.limit skip take] [StageSt.limit 0 0]) (by simp [GroupLast])
  have h2 := Pipe.skip_take_window ev [] [] skip take rows rfl trivial (by simp [GroupLast])
  simp only [List.nil_append] at h2
  rw [h, h2, runP_nil_chain]

/-! ### non-vacuity -/
example : runP ev [.merge] [.merge []] [{ input := .num (.pos 1) }, { input := .null }]
    = [{ input := .arr [.num (.pos 1), .null] }] := by
  have := merge_emits_once ev [] [] [{ input := .num (.pos 1) }, { input := .null }] rfl trivial (by simp [GroupLast])
  simpa [runP, feedBrk, processP, completeP, Ctx.build] using this


/-! ### whole configurations: the grouped run against the ungrouped run of the same configuration -/

/-- `--group-by E`: exactly one row, the object of the groups of the rows the SAME configuration without
`--group-by` would print -/
theorem group_config (orc : Oracles) (c : Cfg) (p : Pipeline) (h : build orc c = .ok p)
    (g : Str) (hg : c.group = some (some g)) (e : Expr) (he : parseOptionExpr g = .ok e) :
    ∃ p', build orc { c with group := none } = .ok p' ∧
      ∀ rows, RunCor.R orc p rows = [{ input := groupValue (groupOf (evalT orc) e (RunCor.R orc p' rows)) }] :=
  RunCor.group_config orc c p h g hg e he

/-- `--merge`: exactly one row, the array of the rows the ungrouped configuration would print, in order -/
theorem merge_config (orc : Oracles) (c : Cfg) (p : Pipeline) (h : build orc c = .ok p) (hg : c.group = some none) :
    ∃ p', build orc { c with group := none } = .ok p' ∧
      ∀ rows, RunCor.R orc p rows = [{ input := .arr ((RunCor.R orc p' rows).map Ctx.build) }] :=
  RunCor.merge_config orc c p h hg

/-- whatever the other options and whatever the input (empty included): exactly ONE collection reaches the printer -/
theorem exactly_one_collection (orc : Oracles) (c : Cfg) (p : Pipeline) (h : build orc c = .ok p)
    (hg : c.group ≠ none) (rows : List Ctx) : (RunCor.R orc p rows).length = 1 :=
  RunCor.group_one_row orc c p h hg rows

end Jawk.C09
