/-
  C17 — delivery-independent input; files stay separate; the input context is exact.

  `Jawk/Props/C17Steps.lean`: chunking invisible, stdin = file, per-byte location tracking, ordinals exact for
  whole runs, files concatenate.  This file (helper `Jawk/Lemmas/Locality.lean`): the closed form of line/column,
  the tiling of consecutive ranges, what a range contains — and the precise statement of finding F11.
-/
import Jawk.Props.C17Steps
import Jawk.Lemmas.Locality
import Jawk.Props.Tables  -- the obligations of C17 also list the byte-class tables `Jawk.Tables.*`
namespace Jawk.C17
open Jawk Loc

/-- after pulling `n` items of a source, the reader's location is: line = 1 + number of LF among the bytes pulled,
column = 1 + number of bytes since the last LF, file name = the source's — an invariant of every parser action -/
theorem location_is_lineCol {items : List RItem} {name : Option Str} {r : Reader} (h : LocInv items name r) :
    r.rest = items.drop r.pulled ∧ r.pulled ≤ items.length ∧ r.loc.name = name ∧
    r.loc.line = 1 + (itemBytes (items.take r.pulled)).count 10 ∧
    r.loc.col = 1 + ((itemBytes (items.take r.pulled)).reverse.takeWhile (· ≠ 10)).length :=
  Loc.location_is_lineCol h

theorem location_invariant (items : List RItem) (name : Option Str) :
    LocInv items name (Reader.ofItems items name) ∧
    ∀ r, LocInv items name r → LocInv items name r.nextJson.2 :=
  ⟨locInv_ofItems items name, fun _ h => nextJson_locInv h⟩

/-- consecutive ranges are contiguous (`ended k = started (k+1)`) and the first starts at `name:1:1`, when no
malformed region and no dropped scalar lies between the values -/
theorem ranges_tile (c : Cfg) (src : Source) (idx : Nat)
    (h : AllRows c (src.items.length + 2) (Reader.ofItems src.items src.name)) :
    let cs := RunSpec.ctxsOf c (src.items.length + 2) (Reader.ofItems src.items src.name) 0 idx
    (∀ k (hk : k + 1 < cs.length), ∃ a b, cs[k].ictx = some a ∧ cs[k + 1].ictx = some b ∧ a.endLoc = b.startLoc) ∧
    (∀ hk : 0 < cs.length, ∃ a, cs[0].ictx = some a ∧ a.startLoc = { name := src.name, line := 1, col := 1 }) :=
  ranges_tile_source c src idx h

/-- the range delimits the value's text (and the single byte after it) when the call starts without a look-ahead
byte; with one — a value that TOUCHES the previous token — the range misses the value's first byte: that is the
known finding F11, stated exactly by `Loc.range_contains_text_general` -/
theorem range_contains_text (r : Reader) (hc : r.cur = none) {x : Option JV} {r' : Reader}
    (h : r.nextJson = (.ok x, r')) :
    ∃ consumed, r.rest = consumed ++ r'.pending ∧
      r.rest.take (r'.pulled - r.pulled) = consumed ++ curItems r' := Loc.range_contains_text r hc h

end Jawk.C17
