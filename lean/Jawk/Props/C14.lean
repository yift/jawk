/-
  C14 — `--take` stops reading: jawk terminates on unbounded input when it can.

  Step level (`Jawk/Props/C14Steps.lean`): the limiter answers Break on the row that fills the limit and ever
  after; every streaming stage and the splitter's loop propagate Break; the read loop and the file loop stop.
  Run level (this file, helper `Jawk/Lemmas/Locality.lean`): the reader looks at most ONE position ahead, so
  whatever follows the point where the loop stopped — finite, endless, faulty — cannot influence the run:
  "for every continuation" is how an unbounded input is expressed.
-/
import Jawk.Props.C14Steps
import Jawk.Lemmas.Locality
namespace Jawk.C14
open Jawk Loc

variable (orc : Oracles) (c : Cfg) (p : Pipeline)

/-- prefix locality of the parser: two readers in the same state whose streams agree up to absolute position `N`
give the same result, as long as the call does not look beyond `N` -/
theorem parser_is_local {N : Nat} {r₁ r₂ : Reader} (hag : AgreeTo N r₁ r₂) (hw : Fuel.WF r₁)
    (hpos : pos r₁.nextJson.2 ≤ N) :
    r₂.nextJson.1 = r₁.nextJson.1 ∧ AgreeTo N r₁.nextJson.2 r₂.nextJson.2 := nextJson_local hag hw hpos

/-- one byte of look-ahead, never more: a call pulls at most one item beyond what it consumed -/
theorem lookahead_bound (r : Reader) :
    r.nextJson.2.pulled ≤ r.pulled + (r.pending.length - r.nextJson.2.pending.length) + 1 :=
  Loc.lookahead_bound r

/-- The loop: if the loop stopped on Break having pulled `d` items, then on ANY stream that agrees on those
`d` items and the next position the loop does exactly the same: same state, same output, same number of bytes
consumed — however long the stream goes on -/
theorem take_stops (fuel fuel₂ : Nat) (r r₂ : Reader) (inFile : Nat) (s : RunState)
    {s' : RunState} {r' : Reader} (hw : Fuel.WF r)
    (h : readLoop orc c p fuel r inFile s = .ok (s', r', .brk))
    (hag : Agree (r'.pulled - r.pulled + 1) r r₂) (hf : fuel ≤ fuel₂) :
    ∃ r₂', readLoop orc c p fuel₂ r₂ inFile s = .ok (s', r₂', .brk) ∧ r₂'.pulled = r'.pulled :=
  Loc.take_stops orc c p fuel fuel₂ r r₂ inFile s hw h hag hf

/-- The run: when the loop over the first source stops on Break before the end of `items`, the whole run on
`items ++ cont` — for EVERY continuation `cont` and whatever sources follow — equals the run on `items`:
same stdout, same stderr, same result, same bytes pulled.  Hence termination on an endless stream. -/
theorem take_stops_run (sources sources₂ : List Source) (items cont : List RItem) (name : Option Str)
    (wOut wErr w0 : Writer) {s' : RunState} {r' : Reader}
    (hb : build orc c = .ok p) (hs : sinkStart p.sink p.titles wOut = .ok w0)
    (h : readLoop orc c p (items.length + 2) (Reader.ofItems items name) 0
          { sts := p.sts, out := w0, err := wErr } = .ok (s', r', .brk))
    (he : r'.eof = false) :
    run orc c (⟨name, items ++ cont⟩ :: sources₂) wOut wErr = run orc c (⟨name, items⟩ :: sources) wOut wErr :=
  Loc.take_stops_run orc c p sources sources₂ items cont name wOut wErr w0 hb hs h he

end Jawk.C14
