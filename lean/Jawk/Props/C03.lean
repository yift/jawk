/-
  C03 — the pipeline is the documented stage composition in the documented order.

  Refinement in three layers (`Jawk/Spec/Pipeline.lean`): the model of the Rust `Process` chain
  (stateful stages, error monad, fallible writer, `Break`) = the effect-free machine (`processP`,
  `completeP`) = the documented composition of list functions (`specRows`: each stage a function
  `List Ctx → List Ctx`, applied left to right, no state, no `Break`).  For EVERY history of rows.
  Helper lemmas: `Jawk/Lemmas/PipelinePure.lean`, `Jawk/Lemmas/PipelineSpec.lean`.

  Then what `build` assembles from the options: single options, repeated options and their order
  (`Jawk/Lemmas/RunCor.lean`), the whole run (`Jawk/Lemmas/RunSpec.lean`), the order of the
  command-line arguments (`Jawk/Lemmas/ArgsOrder.lean`), and the option table against the one
  regenerated from the `#[arg(..)]` attributes (`Jawk/Generated/CliOptions.lean`).
-/
import Jawk.Lemmas.RunCor
import Jawk.Lemmas.PipelineSpec
import Jawk.Lemmas.RunSpec
import Jawk.Props.Tables
import Jawk.Lemmas.ArgsOrder
import Jawk.Generated.CliOptions
namespace Jawk.C03
open Jawk Pipe

/-- one step of the real chain is one step of the effect-free machine (nothing aborts, the writer does not fail) -/
theorem process_refines (orc : Oracles) (sink : SinkCfg) (n : Nat) (cfgs : List StageCfg) (sts : List StageSt)
    (w : Writer) (ctx : Ctx) (hna : NoAbort orc cfgs) (hw : Unbounded w) (hs : Shape cfgs sts) :
    process orc sink n cfgs sts w ctx =
      .ok (⟨(processP (evalT orc) cfgs sts ctx).1,
            wappend w (((processP (evalT orc) cfgs sts ctx).2.1).flatMap (sinkBytes sink n))⟩,
           (processP (evalT orc) cfgs sts ctx).2.2) :=
  (process_pure orc sink n cfgs sts w ctx hna hw hs).1

/-- `complete` of the real chain writes exactly the rows the effect-free `completeP` delivers -/
theorem complete_refines (orc : Oracles) (sink : SinkCfg) (n : Nat) (cfgs : List StageCfg) (sts : List StageSt)
    (w : Writer) (hna : NoAbort orc cfgs) (hw : Unbounded w) (hs : Shape cfgs sts) :
    complete orc sink n cfgs sts w
      = .ok (wappend w ((completeP (evalT orc) cfgs sts).flatMap (sinkBytes sink n))) :=
  complete_pure orc sink n cfgs sts w hna hw hs

/-- stopping at the first `Break` (what the read loop does) never changes what reaches the sink -/
theorem break_is_invisible (ev : Expr → Ctx → Option JV) (cfgs : List StageCfg) (sts : List StageSt)
    (rows : List Ctx) : runAll ev cfgs sts rows = runP ev cfgs sts rows := runAll_eq_runP' ev cfgs sts rows

/-- the effect-free machine, fed any rows and completed, is the documented composition -/
theorem machine_is_composition (ev : Expr → Ctx → Option JV) {cfgs : List StageCfg} {sts : List StageSt}
    (hi : Initial cfgs sts) (hg : GroupLast cfgs) (rows : List Ctx) :
    runP ev cfgs sts rows = specRows ev cfgs sts rows := runP_eq_spec ev hi hg rows

/-- feeding any sequence of rows to the real chain (stopping at `Break` like the read loop) and
completing it writes exactly the bytes of `specRows` — the stages as pure list functions in the order
`set → split → filter → select → unique → sort → skip/take → group|merge` -/
theorem pipeline_refines (orc : Oracles) (sink : SinkCfg) (n : Nat) {cfgs : List StageCfg} {sts : List StageSt}
    (w : Writer) (rows : List Ctx) (hna : NoAbort orc cfgs) (hw : Unbounded w) (hi : Initial cfgs sts)
    (hg : GroupLast cfgs) :
    (feedUntilBreak (process orc sink n cfgs) sts w rows >>= fun r => complete orc sink n cfgs r.1.sts r.1.w)
      = .ok (wappend w ((specRows (evalT orc) cfgs sts rows).flatMap (sinkBytes sink n))) :=
  total_spec orc sink n w rows hna hw hi hg

/-- the composition splits at any point of the chain: stage `k+1` sees exactly the output of stages `1..k` -/
theorem composition_splits (ev : Expr → Ctx → Option JV) (pre post : List StageCfg) (spre spost : List StageSt)
    (rows : List Ctx) (hlen : spre.length = pre.length) :
    specRows ev (pre ++ post) (spre ++ spost) rows = specRows ev post spost (specRows ev pre spre rows) :=
  specRows_append ev pre post spre spost rows hlen

/-- appending one more stage applies that stage's list function to the previous result -/
theorem stage_appended (ev : Expr → Ctx → Option JV) (pre : List StageCfg) (spre : List StageSt)
    (c : StageCfg) (st : StageSt) (rows : List Ctx) (hlen : spre.length = pre.length) (hi : Initial pre spre)
    (hc : Initial [c] [st]) (hg : GroupLast (pre ++ [c])) :
    runP ev (pre ++ [c]) (spre ++ [st]) rows = stageSpec ev c (capOf st) (runP ev pre spre rows) :=
  runP_snoc ev pre spre c st rows hlen hi hc hg

/-- an absent `--skip` / `--take` is the identity stage -/
theorem absent_limit_is_identity (ev : Expr → Ctx → Option JV) (cap : Option Nat) (rows : List Ctx) :
    stageSpec ev (.limit 0 none) cap rows = rows := rfl

/-- the documented stage functions, spelled out -/
theorem stage_functions (ev : Expr → Ctx → Option JV) (rows : List Ctx) (e : Expr) (name : Str) (skip : Nat)
    (take : Option Nat) :
    stageSpec ev (.filter e) none rows = rows.filter (fun c => match ev e c with
      | some (.bool true) => true
      | _ => false) ∧
    stageSpec ev (.select name e) none rows = rows.map (fun c => c.withResult name (ev e c)) ∧
    stageSpec ev (.split e) none rows = rows.flatMap (fun c => match ev e c with
      | some (.arr l) => l.map c.withInput
      | _ => []) ∧
    stageSpec ev (.limit skip take) none rows = takeOpt take (rows.drop skip) ∧
    stageSpec ev .merge none rows = [{ input := .arr (rows.map Ctx.build) }] :=
  ⟨rfl, rfl, rfl, rfl, rfl⟩


/-! ### the whole run -/

/-- what `build` assembles is a chain in initial state with grouping (if any) last — for EVERY configuration
that builds, whatever order the options were given in (the configuration is a record) -/
theorem build_is_initial (orc : Oracles) (c : Cfg) (p : Pipeline) (h : build orc c = .ok p) :
    Initial p.cfgs p.sts ∧ GroupLast p.cfgs ∧ p.sts.length = p.cfgs.length ∧ p.sinkLen = p.titles.length :=
  RunSpec.build_initial orc c p h

/-- end to end: for every configuration that builds, every list of input sources (any bytes, malformed
regions included — they are skipped under `--on-error=ignore`) the standard output of `run` is the header (if
any) followed by exactly the bytes of the documented composition applied to the values read, in order
(`ctxsOfSources`: `--only-objects-and-arrays` already applied), and nothing is written to standard error -/
theorem run_refines (orc : Oracles) (c : Cfg) (sources : List Source) (wOut wErr : Writer) (p : Pipeline)
    (hpol : c.onError = .ignore) (hb : build orc c = .ok p) (hna : NoAbort orc p.cfgs) (hw : Unbounded wOut)
    (hcl : RunSpec.CleanIO sources) (hh : ¬ RunSpec.HeaderMissing p) :
    (run orc c sources wOut wErr).result = .ok ()
      ∧ (run orc c sources wOut wErr).stdout
          = wOut.out ++ RunSpec.headerBytes p ++
            (specRows (evalT orc) p.cfgs p.sts (RunSpec.ctxsOfSources c sources 0)).flatMap (sinkBytes p.sink p.sinkLen)
      ∧ (run orc c sources wOut wErr).stderr = wErr.out :=
  RunSpec.run_ignore_spec orc c sources wOut wErr p hpol hb hna hw hcl hh

/-! ### non-vacuity: a chain with every kind of stage satisfies the hypotheses -/
example (orc : Oracles) : NoAbort orc exampleChain ∧ Initial exampleChain exampleStates ∧ GroupLast exampleChain :=
  ⟨exampleChain_noAbort orc, by simp [exampleChain, exampleStates, Initial], by simp [exampleChain, GroupLast]⟩


/-! ### absent options are identity stages; repeated options keep their order -/

/-- no options: no stage at all — every row reaches the printer unchanged -/
theorem absent_options_identity (orc : Oracles) :
    build orc {} = .ok RunSpec.defaultPipeline ∧ RunSpec.defaultPipeline.cfgs = [] ∧ RunSpec.defaultPipeline.sts = [] ∧
      ∀ rows, RunCor.R orc RunSpec.defaultPipeline rows = rows := RunCor.absent_options_identity orc

/-- exactly one option given = exactly that stage's list function (here `--filter`; `RunCor.only_split`,
`only_select`, `only_skip_take`, `only_unique`, `only_sort`, `only_group`, `only_merge` are the others) -/
theorem only_filter (orc : Oracles) (f : Str) (e : Expr) (hf : parseOptionExpr f = .ok e) :
    ∃ p, build orc { filter := some f } = .ok p ∧ p.cfgs = [.filter e] ∧
      ∀ rows, RunCor.R orc p rows = rows.filter (fun c => match evalT orc e c with
        | some (.bool true) => true
        | _ => false) := RunCor.only_filter orc f e hf

/-- repeated `--select` keep the order given (columns and titles in that order); everything else in the chain
is not a select -/
theorem selects_in_order (orc : Oracles) (c : Cfg) (p : Pipeline) (h : build orc c = .ok p) :
    ∃ (parsed : List (Str × Expr)) (A B : List StageCfg),
      mapRes (fun s => cfgErr (parseSelection s)) c.selects = .ok parsed ∧
      c.selects.map (fun s => cfgErr (parseSelection s)) = parsed.map .ok ∧
      p.cfgs = A ++ parsed.map (fun (n, e) => StageCfg.select n e) ++ B ∧
      (∀ x ∈ A, RunCor.isSelect x = false) ∧ (∀ x ∈ B, RunCor.isSelect x = false) ∧
      p.cfgs.filter RunCor.isSelect = parsed.map (fun (n, e) => StageCfg.select n e) ∧
      (c.group = none → p.titles = parsed.map (·.1)) ∧
      (c.group ≠ none → p.titles = []) := RunCor.selects_in_order orc c p h

/-- repeated `--sort-by k1 --sort-by k2`: the last given sorts first (outermost), the first given last and is the
only bounded one — so, both being stable sorts, the first given is the most significant key (C07 `two_key_lex`) -/
theorem sorts_first_most_significant (orc : Oracles) (c : Cfg) (p : Pipeline) (h : build orc c = .ok p)
    (k1 k2 : Str) (hs : c.sorts = [k1, k2]) (e1 e2 : Expr) (d1 d2 : Bool)
    (h1 : parseSorter k1 = .ok (e1, d1)) (h2 : parseSorter k2 = .ok (e2, d2)) :
    (p.cfgs.zip p.sts).filter (fun x => RunCor.isSort x.1)
        = [(.sort e2 d2, .sort [] none), (.sort e1 d1, .sort [] (c.take.map (fun t => c.skip + t)))] ∧
      p.cfgs.filter RunCor.isSort = [.sort e2 d2, .sort e1 d1] :=
  RunCor.sorts_first_most_significant orc c p h k1 k2 hs e1 e2 d1 d2 h1 h2


/-! ### the command line: argument order (model of clap's pass: `Jawk/Model/Args.lean`, helper `Lemmas/ArgsOrder.lean`)

The correspondence run hands the SAME argument vector to clap and to `Args.parseArgs`; the record the model runs
with is the one `parseArgs` yields. -/

def kindCode : Args.Kind → Nat
  | .flag => 0 | .single => 1 | .multi => 2 | .optValue => 3

/-- the model's option table: names (long name and visible aliases) and kind of every option family -/
def modelCli : List (List (List Nat) × Nat) :=
  Args.Opt.all.map (fun o => (o.names.map (fun n => n.toList.map Char.toNat), kindCode o.kind))

/-- the option table of the model IS the table regenerated from the `#[arg(..)]` attributes of `Cli`,
`OutputOptions`, `JsonOutputOptions`, `TextOutputOptions` (in any declaration order), `--additional-help` apart -/
theorem cli_table_generated :
    (modelCli.all (fun x => Generated.cliOptions.contains x) &&
     Generated.cliOptions.all (fun x => modelCli.contains x || x.1 == ["additional-help".toList.map Char.toNat])) = true := by
  decide +kernel

/-- the model's one-letter names, each with the long name of its option -/
def modelShorts : List (List Nat × Nat) :=
  Args.Opt.all.filterMap (fun o => o.short.map (fun c => ((o.names.headD "").toList.map Char.toNat, c.toNat)))

/-- the one-letter names of the model ARE those regenerated from `#[arg(short)]` / `#[arg(short = 'k')]`
(`-a`, `--additional-help`, apart) -/
theorem cli_shorts_generated :
    (modelShorts.all (fun x => Generated.cliShorts.contains x) &&
     Generated.cliShorts.all (fun x => modelShorts.contains x || x.1 == "additional-help".toList.map Char.toNat)) = true := by
  decide +kernel

/-- the values the enumerated options accept -/
theorem cli_enums_generated :
    Generated.onErrorValues = ["ignore", "panic", "stderr", "stdout"].map (fun n => n.toList.map Char.toNat) ∧
    Generated.outputStyleValues = ["json", "csv", "text"].map (fun n => n.toList.map Char.toNat) ∧
    Generated.jsonStyleValues = ["one-line", "consise", "pretty"].map (fun n => n.toList.map Char.toNat) := by
  decide +kernel

/-- ARGUMENT ORDER: two command lines that are permutations of each other and agree on the relative order of
the repeated options (inside every option family) and of the input files are parsed to the same record — both
rejected, or both accepted with the same configuration, files and cache size -/
theorem argument_order_irrelevant (a b : List Str)
    (h : Args.SameUpToFamilyOrder (Args.lexAll a) (Args.lexAll b)) : Args.parseArgs a = Args.parseArgs b :=
  Args.parseArgs_order_independent a b h

/-- in the form a user reads: swapping two neighbouring arguments of different families changes nothing — on command
lines whose arguments are one token each (`Args.oneToken`: a positional, `--flag`, `--name=value`; an option written
without an attached value takes the argument after it, and the two must then move together) -/
theorem swap_neighbours (l₁ l₂ : List Str) (s₁ s₂ : Str)
    (h : Args.sameFamily (Args.lex s₁) (Args.lex s₂) = false)
    (hb : Args.OneTokenEach (l₁ ++ s₁ :: s₂ :: l₂)) :
    Args.parseArgs (l₁ ++ s₁ :: s₂ :: l₂) = Args.parseArgs (l₁ ++ s₂ :: s₁ :: l₂) :=
  Args.swap_adjacent l₁ l₂ s₁ s₂ h hb

/-- an option written in two arguments (`--name value`) moves as a pair: swapping the pair with a neighbouring one-token
argument of another family changes nothing -/
theorem swap_neighbours_two_args (l₁ l₂ : List Str) (n v s₂ : Str) (o : Args.Opt)
    (hn : Args.findOpt n = some o) (hp : Args.plainName n = true) (hk : o.kind ≠ .flag) (hv : Args.isValue v = true)
    (h₁ : Args.OneTokenEach l₁) (h₂ : Args.OneTokenEach (s₂ :: l₂))
    (hf : Args.sameFamily (.opt o (some v)) (Args.lex s₂) = false) :
    Args.parseArgs (l₁ ++ ('-' :: '-' :: n) :: v :: s₂ :: l₂) = Args.parseArgs (l₁ ++ s₂ :: ('-' :: '-' :: n) :: v :: l₂) :=
  Args.swap_adjacent_two_args l₁ l₂ n v s₂ o hn hp hk hv h₁ h₂ hf

/-- the one place where the position of an argument matters to clap itself: a bare optional-valued option takes the
argument after it as its value unless that looks like an option (`--merge f.json` groups by the text `f.json`;
`f.json --merge` and `--merge --unique` do not).  The model follows clap (`Args.lexAll`), the theorems are
stated over its tokens. -/
theorem bare_merge_takes_the_next_argument :
    Args.lexAll ["--merge".toList, "f.json".toList] = [.opt .group (some "f.json".toList)] ∧
    Args.lexAll ["f.json".toList, "--merge".toList] = [.file "f.json".toList, .opt .group none] ∧
    Args.lexAll ["--merge".toList, "--unique".toList] = [.opt .group none, .opt .unique none] :=
  Args.bare_merge_takes_next

/-- SPELLINGS: an option that takes a value gives the same token — hence the same configuration and the same run —
however it is written: `--name=value`, `--alias=value`, `--name value`, `-c value`, `-c=value`, `-cvalue` (a value that
is to stand in an argument of its own must not look like an option; an attached value must not be empty or start
with `=`) -/
theorem option_spellings (n n' v : Str) (c : Char) (o : Args.Opt) (rest : List Str)
    (hn : Args.findOpt n = some o) (hp : Args.plainName n = true)
    (hn' : Args.findOpt n' = some o) (hp' : Args.plainName n' = true)
    (hc : Args.findShort c = some o) (hk : o.kind ≠ .flag)
    (hv : Args.isValue v = true) (hv0 : v ≠ []) (hv1 : v.head? ≠ some '=') :
    let canonical := Args.lexAll (('-' :: '-' :: (n ++ '=' :: v)) :: rest)
    Args.lexAll (('-' :: '-' :: (n' ++ '=' :: v)) :: rest) = canonical ∧
    Args.lexAll (('-' :: '-' :: n') :: v :: rest) = canonical ∧
    Args.lexAll (['-', c] :: v :: rest) = canonical ∧
    Args.lexAll (('-' :: c :: '=' :: v) :: rest) = canonical ∧
    Args.lexAll (('-' :: c :: v) :: rest) = canonical :=
  Args.option_spellings n n' v c o rest hn hp hn' hp' hc hk hv hv0 hv1

/-- … anywhere on the command line: behind arguments that are one token each, an occurrence of an option may be written
in any of its spellings and the whole line is parsed to the same record (hence the same run) -/
theorem respell_anywhere (pre rest : List Str) (n n' v : Str) (c : Char) (o : Args.Opt)
    (hpre : Args.OneTokenEach pre)
    (hn : Args.findOpt n = some o) (hp : Args.plainName n = true)
    (hn' : Args.findOpt n' = some o) (hp' : Args.plainName n' = true)
    (hc : Args.findShort c = some o) (hk : o.kind ≠ .flag)
    (hv : Args.isValue v = true) (hv0 : v ≠ []) (hv1 : v.head? ≠ some '=') :
    let canonical := Args.parseArgs (pre ++ ('-' :: '-' :: (n ++ '=' :: v)) :: rest)
    Args.parseArgs (pre ++ ('-' :: '-' :: (n' ++ '=' :: v)) :: rest) = canonical ∧
    Args.parseArgs (pre ++ ('-' :: '-' :: n') :: v :: rest) = canonical ∧
    Args.parseArgs (pre ++ ['-', c] :: v :: rest) = canonical ∧
    Args.parseArgs (pre ++ ('-' :: c :: '=' :: v) :: rest) = canonical ∧
    Args.parseArgs (pre ++ ('-' :: c :: v) :: rest) = canonical :=
  Args.respell_anywhere pre rest n n' v c o hpre hn hp hn' hp' hc hk hv hv0 hv1

/-- every long name and alias of the table satisfies the side condition of `option_spellings` -/
theorem option_names_plain : (Args.Opt.all.all fun o => o.names.all fun n => Args.plainName n.toList) = true :=
  Args.names_plain

/-- a flag letter may lead a cluster: `-uc .a` is `-u -c .a` -/
theorem flag_cluster (c : Char) (o : Args.Opt) (more : Str) (rest : List Str) (hc : Args.findShort c = some o)
    (hk : o.kind = .flag) (hm : more ≠ []) (hm1 : more.head? ≠ some '-') :
    Args.lexAll (('-' :: c :: more) :: rest) = .opt o none :: Args.lexAll (('-' :: more) :: rest) :=
  Args.short_flag_first c o more rest hc hk hm hm1

/-- what clap does not take as the value of the option before it: an argument that starts with `-` (the lone `-` is
a value); and a valued letter ends its cluster -/
theorem value_must_not_look_like_an_option :
    (Args.parseArgs ["--skip".toList, "-1".toList]).isNone = true ∧
    (Args.parseArgs ["--choose".toList, "-x".toList]).isNone = true ∧
    Args.lexAll ["--choose".toList, "-".toList] = [.opt .select (some "-".toList)] ∧
    Args.lexAll ["-cu".toList, ".a".toList] = [.opt .select (some "u".toList), .file ".a".toList] :=
  Args.value_must_not_look_like_an_option

/-- hence the whole run: same result, same standard output, same standard error -/
theorem run_argument_order_irrelevant (orc : Oracles) (a b : List Str)
    (h : Args.SameUpToFamilyOrder (Args.lexAll a) (Args.lexAll b))
    (srcs : List Str → List Source) (wOut wErr : Writer) :
    (Args.parseArgs a).map (fun p => run orc p.cfg (srcs p.files) wOut wErr)
      = (Args.parseArgs b).map (fun p => run orc p.cfg (srcs p.files) wOut wErr) := by
  rw [Args.parseArgs_order_independent a b h]

/-- which command lines are accepted does not depend on order either: every token acceptable on its own, no
flag / single-valued / optional-valued option twice -/
theorem acceptance_is_order_free (toks : List Args.Tok) :
    (Args.collect {} toks).isSome = true ↔
      (∀ t ∈ toks, Args.tokOK t = true) ∧ ∀ o, o.kind ≠ .multi → (toks.filter (Args.isOpt o)).length ≤ 1 :=
  Args.collect_isSome_iff toks

/-- the exception in the property text is real: the order of repeated `--select` and of the files matters -/
theorem repeated_options_keep_their_order :
    Args.parseArgs ["--select=.a".toList, "--select=.b".toList] ≠ Args.parseArgs ["--select=.b".toList, "--select=.a".toList] :=
  Args.repeated_order_matters'

/-- non-vacuity: eight arguments, a shuffle of them under other aliases -/
example : Args.parseArgs Args.exA = Args.parseArgs Args.exB := Args.exAB_eq

end Jawk.C03
