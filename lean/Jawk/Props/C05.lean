/-
  C05 — no input data and no parsable expression can make jawk panic or hang.

  In the model every byte loop is fuelled and running out of fuel is an explicit outcome
  (`PErr.outOfFuel`), every Rust panic site is an explicit outcome (`Abort.panic site`) and unbounded
  recursion is an explicit outcome (`Abort.overflow`).  The theorems show these outcomes unreachable —
  for every byte stream, every reader state the program can be in, every expression the parser can
  produce — except `overflow`, which is reachable exactly through self-referential macros /
  `parse_selection` (the known finding F9, proved below with a witness).
  Helper lemmas: `Jawk/Lemmas/Fuel.lean`, `Jawk/Lemmas/NoPanic.lean`.
-/
import Jawk.Lemmas.Fuel
import Jawk.Lemmas.NoPanic
import Jawk.Lemmas.Parents
namespace Jawk.C05
open Jawk Fuel NoPanic

/-! ### the reader terminates and makes progress on every byte stream -/

/-- the invariant `eof → no look-ahead byte` holds for every reader the program constructs and is preserved
by every parser action -/
theorem reader_invariant (items : List RItem) (name : Option Str) :
    WF (Reader.ofItems items name) ∧ ∀ r, WF r → WF (Reader.nextJson r).2 :=
  ⟨wf_ofItems items name, fun r hw => nextJson_wf r hw⟩

/-- reading one value never runs out of fuel: whatever the bytes (valid JSON or not, valid UTF-8 or not,
I/O errors included) the parser returns a value, end of input, or an error — it never loops -/
theorem parser_terminates (r : Reader) (hw : WF r) : (Reader.nextJson r).1 ≠ .error .outOfFuel :=
  nextJson_fuel r hw

/-- every call that does not report end of input consumes at least one byte — a value, a malformed region
and a read error alike: this is the termination argument of the read loop -/
theorem read_loop_progress (r : Reader) (hw : WF r) {res : Except PErr (Option JV)} {r' : Reader}
    (h : Reader.nextJson r = (res, r')) (h1 : res ≠ .ok none) : M r' < M r ∧ μ r' < μ r :=
  nextJson_progress r hw h h1

/-- `none` really is the end of input -/
theorem end_of_input (r : Reader) {r' : Reader} (h : Reader.nextJson r = (.ok none, r')) :
    r'.eof = true ∧ r'.cur = none := nextJson_none r h

/-- the whole run — any configuration, any number of sources, any bytes, any writers — never ends with the
model's out-of-fuel outcome: the read loop terminates -/
theorem run_terminates (orc : Oracles) (c : Cfg) (sources : List Source) (wOut wErr : Writer) :
    (run orc c sources wOut wErr).result ≠ .error (.json .outOfFuel) :=
  run_no_outOfFuel orc c sources wOut wErr

/-! ### no expression panics -/

/-- every function of the table regenerated from the source (all but `exec`, `trigger`, `now`, which are
outside every property) has an equation in the model: the dispatcher never falls through -/
theorem every_function_modelled :
    ∀ e ∈ Generated.functionTable, e.1 ∉ unmodelledNames → modelled e.1 = true := callFn_modelled

/-- the expression parser only produces calls to functions of that table, with any text -/
theorem parsed_calls_in_table {s : Str} {e : Expr} (h : parseWholeExpr s = .ok e) : AllTable e :=
  parseWholeExpr_allTable h

/-- for every expression the parser can produce, every context, every depth: if evaluation aborts with a
panic, the site is a missing library answer of the test harness (`oracle-miss:`, a modelling artefact) or one
of the three unmodelled process functions — never a site of the evaluator: no slice, subtraction,
`with_capacity` or formatting site is reachable (the findings about such sites are in known_findings.json) -/
theorem eval_never_panics (orc : Oracles) (fuel : Nat) (e : Expr) (ctx : Ctx) (s : String)
    (he : AllKnown e) (hd : ∀ n d, (n, d) ∈ ctx.defs → AllKnown d)
    (h : eval orc fuel e ctx = .error (.panic s)) :
    s.startsWith "oracle-miss:" = true ∨ s ∈ unmodelledSites := eval_panic_sites orc fuel e ctx s he hd h

/-- without library-backed functions and `parse_selection`: no panic at all -/
theorem eval_never_panics_pure (orc : Oracles) (fuel : Nat) (e : Expr) (ctx : Ctx)
    (he : AllModelled e) (hp : NoParseSelection e) (ho : NoOracleCalls e)
    (hd : ∀ n d, (n, d) ∈ ctx.defs → AllModelled d ∧ NoParseSelection d ∧ NoOracleCalls d) :
    NoPanic (eval orc fuel e ctx) := eval_no_panic_pure orc fuel e ctx he hp ho hd

/-! ### carets beyond the chain of enclosing inputs fall back to the current input -/

/-- `^…^.path` with ANY number of carets, at any nesting depth, evaluates — to the path applied to the enclosing
input that many levels up, and to the current input when there are fewer enclosing inputs than carets -/
theorem carets_never_fail (orc : Oracles) (fuel parents : Nat) (steps : List Step) (ctx : Ctx) :
    eval orc (fuel + 1) (.extract parents steps) ctx = .ok (extractSteps steps (ctx.parentInput parents)) ∧
    (ctx.parents.length < parents → ctx.parentInput parents = ctx.input) ∧
    (ctx.parentInput parents = ctx.input ∨ ctx.parentInput parents ∈ ctx.parents) :=
  ⟨Parents.eval_extract orc fuel parents steps ctx, Parents.parentInput_excess ctx parents, Parents.parentInput_mem ctx parents⟩

/-! ### unbounded recursion: only through macros (known finding F9) -/

/-- a macro-free expression never exhausts the depth fuel: `evalFuel = 2000` matters only for macros -/
theorem overflow_only_by_macros (orc : Oracles) (e : Expr) (ctx : Ctx) (hd : ctx.defs = []) (hm : MacroFree e)
    (hdepth : e.depth < evalFuel) : eval orc evalFuel e ctx ≠ .error .overflow :=
  evalFuel_enough orc e ctx hd hm hdepth

/-- F9, proved on the model: a macro that reaches itself overflows at EVERY depth budget
(replayed on the real binary by `bin/check C05`: stack overflow, SIGABRT) -/
theorem self_referential_macro_overflows (orc : Oracles) (fuel : Nat) :
    eval orc fuel (.macro "f".toList) { defs := [("f".toList, .macro "f".toList)] } = .error .overflow := by
  induction fuel with
  | zero => rfl
  | succ n ih => simpa [eval, Ctx.getDefinition, Ctx.lookup] using ih

/-! ### non-vacuity -/
example : WF (Reader.ofBytes [91, 49, 44]) := wf_ofBytes _ _
example : AllKnown (.call "take" [.const (.arr []), .const (.num (.pos 0))]) := by decide +kernel

end Jawk.C05
