/-
  C08 — `--skip S --take T` pick exactly rows S .. S+T-1 of the unlimited result.
  Corollaries of the pipeline refinement (C03) plus the bounded-sorter invariant (C07).
  Helper lemmas: `Jawk/Lemmas/PipelineSpec.lean`, `Jawk/Lemmas/BucketSort.lean`; the statements about
  whole configurations and runs come from `Jawk/Lemmas/RunCor.lean`.
-/
import Jawk.Lemmas.RunCor
import Jawk.Lemmas.PipelineSpec
namespace Jawk.C08
open Jawk Pipe

variable (ev : Expr → Ctx → Option JV)

/-- the window: appending the limiter to ANY chain `pre` yields `drop S` then `take T` of what `pre` yields -/
theorem skip_take_window (pre : List StageCfg) (spre : List StageSt) (skip : Nat) (take : Option Nat)
    (rows : List Ctx) (hlen : spre.length = pre.length) (hi : Initial pre spre)
    (hg : GroupLast (pre ++ [.limit skip take])) :
    runP ev (pre ++ [.limit skip take]) (spre ++ [.limit 0 0]) rows
      = takeOpt take ((runP ev pre spre rows).drop skip) :=
  Pipe.skip_take_window ev pre spre skip take rows hlen hi hg

/-- the limiter as a machine, from any counters: it forwards rows `skip-skipped ..` up to `take-passed` many,
then nothing, whatever the successor answers -/
theorem limiter_machine (skip : Nat) (take : Option Nat) (cs : List StageCfg) (skipped passed : Nat)
    (s : List StageSt) (rows : List Ctx) :
    runP ev (.limit skip take :: cs) (.limit skipped passed :: s) rows
      = runP ev cs s (takeOpt (take.map (· - passed)) (rows.drop (skip - skipped))) :=
  runP_limit ev skip take cs skipped passed s rows

/-- the top-N shortcut is invisible: a sorter bounded by `c ≥ S+T` next to `--skip S --take T` gives the same
rows as the unbounded sorter — ties and secondary keys included, since both are the same stable sort -/
theorem topN_shortcut_invisible (key : Expr) (desc : Bool) (skip t c : Nat) (h : skip + t ≤ c)
    {post : List StageCfg} {spost : List StageSt} (hi : Initial post spost) (hg : GroupLast post)
    (rows : List Ctx) :
    runP ev (.sort key desc :: .limit skip (some t) :: post) (.sort [] (some c) :: .limit 0 0 :: spost) rows
      = runP ev (.sort key desc :: .limit skip (some t) :: post) (.sort [] none :: .limit 0 0 :: spost) rows :=
  topN_shortcut_runP ev key desc skip t c h hi hg rows

/-- the pure list fact behind the shortcut -/
theorem take_drop_take {α : Type} (L : List α) (skip t c : Nat) (h : skip + t ≤ c) :
    takeOpt (some t) ((takeOpt (some c) L).drop skip) = takeOpt (some t) (L.drop skip) :=
  takeOpt_drop_takeOpt L skip t c h

/-- the bounded buffer itself: after any history it holds exactly the first `cap` rows of the stable sort
(the statement of `C07.sortStage_bounded_spec`) -/
theorem bounded_buffer_is_prefix (desc : Bool) (cap : Nat) (rows : List (JV × Ctx)) :
    bucketsEmit desc (rows.foldl (fun s r => sortStep desc r.1 r.2 s) ([], some cap)).1
      = ((SortSpec.sortDir JV.cmp (·.1) desc rows).map (·.2)).take cap :=
  BucketSort.bucketsEmit_run Order.cmp_total_preorder desc cap rows

/-- any one stage after the limiter works on exactly the retained rows -/
theorem stage_after_window (pre : List StageCfg) (spre : List StageSt) (skip : Nat) (take : Option Nat)
    (c : StageCfg) (st : StageSt) (rows : List Ctx) (hlen : spre.length = pre.length) (hi : Initial pre spre)
    (hc : Initial [c] [st]) (hg : GroupLast (pre ++ [.limit skip take] ++ [c]))
    (hg' : GroupLast (pre ++ [.limit skip take])) :
    runP ev (pre ++ [.limit skip take] ++ [c]) (spre ++ [.limit 0 0] ++ [st]) rows
      = stageSpec ev c (capOf st) (takeOpt take ((runP ev pre spre rows).drop skip)) := by
  have hi2 : Initial (pre ++ [.limit skip take]) (spre ++ [.limit 0 0]) :=
    hi.append hlen (⟨⟨rfl, rfl⟩, trivial⟩ : Initial [StageCfg.limit skip take] [StageSt.limit 0 0])
  rw [runP_snoc ev _ _ c st rows (by simp [hlen]) hi2 hc hg,
    Pipe.skip_take_window ev pre spre skip take rows hlen hi hg']

/-- with grouping: the group is built from exactly the retained rows, and is still emitted (once) -/
theorem group_from_window (pre : List StageCfg) (spre : List StageSt) (skip : Nat) (take : Option Nat)
    (e : Expr) (rows : List Ctx) (hlen : spre.length = pre.length) (hi : Initial pre spre)
    (hg : GroupLast (pre ++ [.limit skip take] ++ [.group e])) (hg' : GroupLast (pre ++ [.limit skip take])) :
    runP ev (pre ++ [.limit skip take] ++ [.group e]) (spre ++ [.limit 0 0] ++ [.group []]) rows
      = [{ input := groupValue (groupOf ev e (takeOpt take ((runP ev pre spre rows).drop skip))) }] :=
  stage_after_window ev pre spre skip take (.group e) (.group []) rows hlen hi ⟨rfl, trivial⟩ hg hg'

theorem merge_from_window (pre : List StageCfg) (spre : List StageSt) (skip : Nat) (take : Option Nat)
    (rows : List Ctx) (hlen : spre.length = pre.length) (hi : Initial pre spre)
    (hg : GroupLast (pre ++ [.limit skip take] ++ [.merge])) (hg' : GroupLast (pre ++ [.limit skip take])) :
    runP ev (pre ++ [.limit skip take] ++ [.merge]) (spre ++ [.limit 0 0] ++ [.merge []]) rows
      = [{ input := .arr ((takeOpt take ((runP ev pre spre rows).drop skip)).map Ctx.build) }] :=
  stage_after_window ev pre spre skip take .merge (.merge []) rows hlen hi ⟨rfl, trivial⟩ hg hg'

/-! ### non-vacuity -/
example : runP ev [.limit 1 (some 2)] [.limit 0 0]
    [{ input := .num (.pos 0) }, { input := .num (.pos 1) }, { input := .num (.pos 2) }, { input := .num (.pos 3) }]
    = [{ input := .num (.pos 1) }, { input := .num (.pos 2) }] := by
  have := skip_take_window ev [] [] 1 (some 2)
    [{ input := .num (.pos 0) }, { input := .num (.pos 1) }, { input := .num (.pos 2) }, { input := .num (.pos 3) }]
    rfl trivial (by simp [GroupLast])
  simpa [runP, feedBrk, processP, completeP, takeOpt] using this


/-! ### whole configurations: the run WITH `--skip S --take T` against the run WITHOUT them

`RunCor.R orc p rows` = the rows that reach the printer for the pipeline `p` that `build` assembles. -/

/-- for every configuration that builds (any other options, `--sort-by` with its bounded top-N sorter included):
the rows with `--skip` and `--take` are exactly rows S .. S+T-1 of the rows the same configuration yields without them -/
theorem skip_take_config (orc : Oracles) (c : Cfg) (p : Pipeline) (h : build orc c = .ok p) (hg : c.group = none) :
    ∃ p0, build orc { c with skip := 0, take := none } = .ok p0 ∧
      ∀ rows, RunCor.R orc p rows = takeOpt c.take ((RunCor.R orc p0 rows).drop c.skip) :=
  RunCor.skip_take_config orc c p h hg

/-- with `--group-by`: the group is built from exactly the retained rows of the ungrouped, unlimited
configuration, and is still emitted (one row) -/
theorem skip_take_config_group (orc : Oracles) (c : Cfg) (p : Pipeline) (h : build orc c = .ok p)
    (g : Str) (hg : c.group = some (some g)) :
    ∃ e p0', parseOptionExpr g = .ok e ∧
      build orc { c with skip := 0, take := none, group := none } = .ok p0' ∧
      ∀ rows, RunCor.R orc p rows
        = [{ input := groupValue (groupOf (evalT orc) e (takeOpt c.take ((RunCor.R orc p0' rows).drop c.skip))) }] :=
  RunCor.skip_take_config_group orc c p h g hg

/-- end to end, as bytes: the standard output of the run with `--skip` and `--take` is the header and the window of the
rows of the run without them -/
theorem run_skip_take (orc : Oracles) (c : Cfg) (sources : List Source) (wOut wErr : Writer) (p : Pipeline)
    (hpol : c.onError = .ignore) (hb : build orc c = .ok p) (hg : c.group = none)
    (hna : NoAbort orc p.cfgs) (hw : Unbounded wOut) (hcl : RunSpec.CleanIO sources) (hh : ¬ RunSpec.HeaderMissing p) :
    ∃ p0, build orc { c with skip := 0, take := none } = .ok p0 ∧
      RunSpec.headerBytes p0 = RunSpec.headerBytes p ∧
      (run orc c sources wOut wErr).result = .ok () ∧
      (run orc c sources wOut wErr).stdout
        = wOut.out ++ RunSpec.headerBytes p0 ++
          (takeOpt c.take
            ((RunCor.R orc p0 (RunSpec.ctxsOfSources { c with skip := 0, take := none } sources 0)).drop c.skip)).flatMap
            (sinkBytes p0.sink p0.sinkLen) :=
  RunCor.run_skip_take orc c sources wOut wErr p hpol hb hg hna hw hcl hh

end Jawk.C08
