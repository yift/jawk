/-
  C11 — stateless pipelines are record-local: out(A·B) = out(A)·out(B).
  Corollaries of the pipeline refinement (C03).  Helper lemmas: `Jawk/Lemmas/PipelineSpec.lean`.
-/
import Jawk.Lemmas.ConcatRun
import Jawk.Lemmas.PipelineSpec
namespace Jawk.C11
open Jawk Pipe

variable (ev : Expr → Ctx → Option JV)

/-- for a chain of `--set / --split-by / --filter / --select` stages only: the rows for a concatenated input
are the rows for the first part followed by the rows for the second -/
theorem concat_hom (cfgs : List StageCfg) (sts : List StageSt)
    (h : ∀ c ∈ cfgs, StageCfg.stateless c = true) (hlen : sts.length = cfgs.length) (A B : List Ctx) :
    runP ev cfgs sts (A ++ B) = runP ev cfgs sts A ++ runP ev cfgs sts B :=
  stateless_hom_runP ev cfgs sts h hlen A B

/-- the rows produced for a value depend only on that value: the output is the `flatMap` of a per-record function -/
theorem per_record (cfgs : List StageCfg) (sts : List StageSt)
    (h : ∀ c ∈ cfgs, StageCfg.stateless c = true) (rows : List Ctx) :
    specRows ev cfgs sts rows = rows.flatMap (fun r => specRows ev cfgs sts [r]) :=
  stateless_flatMap ev cfgs sts h rows

/-- hence permuting the input permutes the rows blockwise, and repeating a record repeats its rows -/
theorem repeat_record (cfgs : List StageCfg) (sts : List StageSt)
    (h : ∀ c ∈ cfgs, StageCfg.stateless c = true) (r : Ctx) (n : Nat) :
    specRows ev cfgs sts (List.replicate n r) = (List.replicate n (specRows ev cfgs sts [r])).flatten := by
  rw [per_record ev cfgs sts h]
  induction n with
  | zero => rfl
  | succ n ih => simp [List.replicate_succ, ih]

theorem swap_two (cfgs : List StageCfg) (sts : List StageSt)
    (h : ∀ c ∈ cfgs, StageCfg.stateless c = true) (a b : Ctx) :
    specRows ev cfgs sts [b, a] = specRows ev cfgs sts [b] ++ specRows ev cfgs sts [a] ∧
    specRows ev cfgs sts [a, b] = specRows ev cfgs sts [a] ++ specRows ev cfgs sts [b] :=
  ⟨stateless_hom ev cfgs sts h [b] [a], stateless_hom ev cfgs sts h [a] [b]⟩

/-- on the real chain (bytes): the output for `A ++ B` is the output for `A` followed by the output for `B` -/
theorem concat_hom_bytes (orc : Oracles) (sink : SinkCfg) (n : Nat) (cfgs : List StageCfg) (sts : List StageSt)
    (h : ∀ c ∈ cfgs, StageCfg.stateless c = true) (hlen : sts.length = cfgs.length)
    (hi : Initial cfgs sts) (hg : GroupLast cfgs) (hna : NoAbort orc cfgs) (w : Writer) (hw : Unbounded w)
    (A B : List Ctx) :
    (feedUntilBreak (process orc sink n cfgs) sts w (A ++ B) >>= fun r => complete orc sink n cfgs r.1.sts r.1.w)
      = .ok (wappend w ((specRows (evalT orc) cfgs sts A).flatMap (sinkBytes sink n)
                        ++ (specRows (evalT orc) cfgs sts B).flatMap (sinkBytes sink n))) := by
  have _ := hlen
  rw [total_spec orc sink n w (A ++ B) hna hw hi hg, stateless_hom (evalT orc) cfgs sts h A B, List.flatMap_append]

/-! ### non-vacuity -/
example : ∀ c ∈ [StageCfg.split (.extract 0 []), .filter (.extract 0 [Jawk.Step.key "k".toList]),
    .select "x".toList (.extract 0 [])], StageCfg.stateless c = true := by simp [StageCfg.stateless]


/-! ### whole runs, as bytes (helper file `Jawk/Lemmas/Fixpoint.lean`) -/

/-- For a configuration whose chain is stateless and whose expressions read neither line/column nor
ordinals (`chainNoOrd`, a decidable syntactic check; `&file-name` is allowed), JSON output: the standard output
for the concatenated input `A ++ B` is the output for `A` followed by the output for `B` — `A`, `B` any streams
of values (in any of jawk's spellings, with or without noise in the gaps) separated by white space -/
theorem concat_hom_run (orc : Oracles) (c : Cfg) (p : Pipeline) (hpol : c.onError = .ignore)
    (hb : build orc c = .ok p) (hst : ∀ s ∈ p.cfgs, StageCfg.stateless s = true)
    (hno : Fix.chainNoOrd p.cfgs = true) (hna : NoAbort orc p.cfgs)
    (hjson : ∃ jo sep, p.sink = .json jo sep)
    (o : JsonOpts) (gA : Noise.Gap) (itemsA : List (JV × Noise.Gap)) (gB : Noise.Gap) (itemsB : List (JV × Noise.Gap))
    (hA0 : gA.OK) (hA : Noise.ItemsOK o itemsA) (hB0 : gB.OK) (hB : Noise.ItemsOK o itemsB)
    (hsep : gB.ws ≠ [] ∨ Fix.EndsWs itemsA) (name : Option Str) :
    (run orc c [⟨name, cleanInput (Noise.stream o gA itemsA ++ Noise.stream o gB itemsB)⟩] {} {}).stdout
      = (run orc c [⟨name, cleanInput (Noise.stream o gA itemsA)⟩] {} {}).stdout
        ++ (run orc c [⟨name, cleanInput (Noise.stream o gB itemsB)⟩] {} {}).stdout :=
  Fix.concat_hom_run orc c p hpol hb hst hno hna hjson o gA itemsA gB itemsB hA0 hA hB0 hB hsep name

end Jawk.C11
