/-
  C14 — `--take` stops reading.
-/
import Jawk.Lemmas.ReadLoop
namespace Jawk.C14
open Jawk

variable (orc : Oracles) (sink : SinkCfg) (n : Nat)

/-- once the limit is reached the limiter answers `Break` on every row, and passes nothing on -/
theorem limiter_breaks_when_full (skip limit skipped passed : Nat) (cs : List StageCfg) (sts : List StageSt)
    (w : Writer) (ctx : Ctx) (hs : ¬ skipped < skip) (hfull : passed ≥ limit) :
    process orc sink n (.limit skip (some limit) :: cs) (.limit skipped passed :: sts) w ctx =
      .ok (⟨.limit skipped passed :: sts, w⟩, .brk) := by
  simp [process, hs, hfull]

/-- the limiter answers `Break` on the row that fills the limit, after passing it on -/
theorem limiter_breaks_on_last (skip limit skipped passed : Nat) (cs : List StageCfg) (sts : List StageSt)
    (w : Writer) (ctx : Ctx) (p : PState) (d : Decision) (hs : ¬ skipped < skip) (hroom : ¬ passed ≥ limit)
    (hlast : passed + 1 ≥ limit) (hnext : process orc sink n cs sts w ctx = .ok (p, d)) :
    process orc sink n (.limit skip (some limit) :: cs) (.limit skipped passed :: sts) w ctx =
      .ok (⟨.limit skipped (passed + 1) :: p.sts, p.w⟩, .brk) := by
  simp [process, hs, hroom, hnext, hlast, bind, Except.bind]

/-! every streaming stage upstream of the limiter returns its successor's decision -/

theorem preset_propagates (vars : List (Str × JV)) (defs : List (Str × Expr)) (cs : List StageCfg)
    (st : StageSt) (sts : List StageSt) (w : Writer) (ctx : Ctx) (p : PState) (d : Decision)
    (h : process orc sink n cs sts w ((ctx.withVariables vars).withDefinitions defs) = .ok (p, d)) :
    process orc sink n (.preset vars defs :: cs) (st :: sts) w ctx = .ok (⟨st :: p.sts, p.w⟩, d) := by
  simp [process, h, bind, Except.bind]

theorem filter_propagates (e : Expr) (cs : List StageCfg) (st : StageSt) (sts : List StageSt) (w : Writer)
    (ctx : Ctx) (p : PState) (d : Decision) (hv : eval orc evalFuel e ctx = .ok (some (.bool true)))
    (h : process orc sink n cs sts w ctx = .ok (p, d)) :
    process orc sink n (.filter e :: cs) (st :: sts) w ctx = .ok (⟨st :: p.sts, p.w⟩, d) := by
  simp [process, evalE, liftR, hv, h, bind, Except.bind]

theorem select_propagates (name : Str) (e : Expr) (cs : List StageCfg) (st : StageSt) (sts : List StageSt)
    (w : Writer) (ctx : Ctx) (p : PState) (d : Decision) (r : Option JV)
    (hv : eval orc evalFuel e ctx = .ok r)
    (h : process orc sink n cs sts w (ctx.withResult name r) = .ok (p, d)) :
    process orc sink n (.select name e :: cs) (st :: sts) w ctx = .ok (⟨st :: p.sts, p.w⟩, d) := by
  simp [process, evalE, liftR, hv, h, bind, Except.bind]

theorem unique_propagates (cs : List StageCfg) (seen : List CtxKey) (sts : List StageSt) (w : Writer)
    (ctx : Ctx) (p : PState) (d : Decision) (hnew : (seen.any fun s => CtxKey.same s ctx.key) = false)
    (h : process orc sink n cs sts w ctx = .ok (p, d)) :
    process orc sink n (.unique :: cs) (.unique seen :: sts) w ctx =
      .ok (⟨.unique (seen ++ [ctx.key]) :: p.sts, p.w⟩, d) := by
  simp [process, hnew, h, bind, Except.bind]

/-- the split loop stops at the first `Break` and returns it: later elements are not processed -/
theorem splitter_stops_at_break (next : List StageSt → Writer → Ctx → Res (PState × Decision))
    (sts : List StageSt) (w : Writer) (c : Ctx) (rest : List Ctx) (p : PState)
    (h : next sts w c = .ok (p, .brk)) :
    feedUntilBreak next sts w (c :: rest) = .ok (p, .brk) := by
  simp [feedUntilBreak, h, bind, Except.bind]

theorem split_propagates (e : Expr) (cs : List StageCfg) (st : StageSt) (sts : List StageSt) (w : Writer)
    (ctx : Ctx) (l : List JV) (p : PState) (d : Decision)
    (hv : eval orc evalFuel e ctx = .ok (some (.arr l)))
    (h : feedUntilBreak (process orc sink n cs) sts w (l.map ctx.withInput) = .ok (p, d)) :
    process orc sink n (.split e :: cs) (st :: sts) w ctx = .ok (⟨st :: p.sts, p.w⟩, d) := by
  simp [process, evalE, liftR, hv, h, bind, Except.bind]

/-- the iteration in which the pipeline answers `Break` is the last one: the loop returns the reader as
`nextJson` left it.  That no later byte of the input matters is `Loc.take_stops`. -/
theorem read_loop_stops_at_break (c : Cfg) (p : Pipeline) (fuel : Nat) (r r' : Reader) (inFile : Nat)
    (s : RunState) (v : JV) (ps : PState)
    (hv : r.nextJson = (.ok (some v), r'))
    (hkeep : (c.onlyObjectsAndArrays && !v.isObjOrArr) = false)
    (hb : process orc p.sink p.sinkLen p.cfgs s.sts s.out
            { input := v, ictx := some { startLoc := r.loc, endLoc := r'.loc, fileIndex := inFile, index := s.index } }
          = .ok (ps, .brk)) :
    readLoop orc c p (fuel + 1) r inFile s = .ok ({ s with sts := ps.sts, out := ps.w }, r', .brk) :=
  Loc.final_readLoop orc c p (.brk (k := ⟨r, inFile, s⟩) hv hkeep hb) fuel

/-- after a `Break` no further source is opened -/
theorem files_after_break_not_opened (c : Cfg) (p : Pipeline) (src : Source) (rest : List Source) (s s' : RunState)
    (r' : Reader)
    (h : readLoop orc c p (src.items.length + 2) (Reader.ofItems src.items src.name) 0 s = .ok (s', r', .brk)) :
    readSources orc c p (src :: rest) s = .ok { s' with pulled := s'.pulled ++ [r'.pulled] } := by
  simp [readSources, h]

end Jawk.C14
