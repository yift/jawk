/-
  C19 — 64-bit integers survive untouched; number-as-string arithmetic is exact.

  (1) The integer path: an integer in `[-2^63, 2^64)` is printed as its decimal digits and those
      digits read back through `str::parse::<u64/i64>` to the same integer — no floating point.
  (2) The number-as-string functions (`callNas` in `Model/Eval.lean`) are, by inspection of `callNas`,
      `Dec.parse` → `Dec.add / sub / mul / abs / round0 / rem / normalize / cmp` → `Dec.render` (`"/"` is an
      oracle call and is not covered); the theorems say these agree with exact rational arithmetic
      (`value : Dec → ℚ`) for decimals of ANY length, and that the printed result depends only on the value
      (spelling independence).
  Helper lemmas: `Jawk/Lemmas/DecimalExact.lean`.  (`bigdecimal`'s own arithmetic is NOT trusted:
  the correspondence run compares it with these definitions.)
-/
import Jawk.Lemmas.PassThrough
import Jawk.Lemmas.DecimalExact
namespace Jawk.C19
open Jawk DecExact

/-! ### 64-bit integers -/

/-- a non-negative integer below 2^64 prints as its digits and parses back exactly -/
theorem u64_print_parse (n : ℕ) (h : n < 2 ^ 64) :
    printNum (.pos n) = Nat.toDigits 10 n ∧ parseU64 (toBytes (printNum (.pos n))) = some n :=
  ⟨rfl, parseU64_print n h⟩

/-- a negative integer down to -2^63 prints as `-` and its digits and parses back exactly -/
theorem i64_print_parse (i : ℤ) (h : i < 0) (hlo : -(2 ^ 63 : ℤ) ≤ i) :
    ∃ ds : Str, printNum (.neg i) = '-' :: ds ∧ parseI64Neg (toBytes ds) = .ok i :=
  printNum_neg_roundtrip i h hlo

/-- digits are the integer: no rounding anywhere in the integer path -/
theorem digits_exact (n : ℕ) : F64.digitsToNat (Nat.toDigits 10 n) = n := F64RT.digitsToNat_toDigits n

/-- one past the range is NOT silently wrapped: `parse::<u64>` reports overflow (the value then takes the double path) -/
theorem u64_overflow_detected (n : ℕ) (h : 2 ^ 64 ≤ n) :
    parseU64 ((Nat.toDigits 10 n).map (fun c => c.toNat.toUInt8)) = none := parseU64_overflow n h

/-! ### exact decimal arithmetic -/

theorem nas_add_exact (a b : Dec) : value (Dec.add a b) = value a + value b := value_add a b
theorem nas_sub_exact (a b : Dec) : value (Dec.sub a b) = value a - value b := value_sub a b
theorem nas_mul_exact (a b : Dec) : value (Dec.mul a b) = value a * value b := value_mul a b
theorem nas_abs_exact (a : Dec) : value a.abs = |value a| := value_abs a
theorem nas_normalise_value (a : Dec) : value (Dec.normalize a) = value a := value_normalize a

/-- all six comparison functions are decided by `Dec.cmp`, which is the comparison of the exact values -/
theorem nas_compare_exact (a b : Dec) : Dec.cmp a b = compare (value a) (value b) := cmp_exact a b

/-- spelling independence: the printed result depends only on the value -/
theorem nas_spelling_independent (a b : Dec) (h : value a = value b) : Dec.render a = Dec.render b :=
  render_eq_of_value_eq a b h

/-- canonical form: two decimals normalise to the same thing exactly when they denote the same number -/
theorem nas_canonical (a b : Dec) : Dec.normalize a = Dec.normalize b ↔ value a = value b :=
  normalize_eq_iff a b

/-- operands with the same values give identically printed sums (likewise `-`, `*`, `abs`:
`DecExact.render_sub_congr`, `render_mul_congr`, `render_abs_congr`) -/
theorem nas_add_spelling (a a' b b' : Dec) (ha : value a = value a') (hb : value b = value b') :
    Dec.render (Dec.add a b) = Dec.render (Dec.add a' b') := render_add_congr a a' b b' ha hb

/-- trailing zeros after the point do not change the parsed value -/
theorem nas_trailing_zero (ds fs : Str) (hne : ds ≠ []) (hd : ds.all Char.isDigit = true)
    (hf : fs.all Char.isDigit = true) :
    (Dec.parse (ds ++ '.' :: (fs ++ ['0']))).map value = (Dec.parse (ds ++ '.' :: fs)).map value :=
  parse_trailing_zero ds fs hne hd hf

/-- `sign digits . digits (e|E) sign digits` parses to mantissa = all digits, scale = fraction length − exponent -/
theorem nas_parse_general (sg ds fs : Str) (ec : Char) (esg es : Str) (hsg : IsSign sg)
    (hd : ds.all Char.isDigit = true) (hf : fs.all Char.isDigit = true) (hne : ds ++ fs ≠ [])
    (hec : ec = 'e' ∨ ec = 'E') (hesg : IsSign esg) (hes : es.all Char.isDigit = true) (hene : es ≠ []) :
    Dec.parse ((sg ++ ds ++ '.' :: fs) ++ ec :: (esg ++ es)) =
      some ⟨sgnApply sg (F64.digitsToNat (ds ++ fs)), (fs.length : ℤ) - sgnApply esg (F64.digitsToNat es)⟩ :=
  parse_signed_dot_exp sg ds fs ec esg es hsg hd hf hne hec hesg hes hene

/-- `"round"`: the result is an integer within 1/2 of the operand (a tie goes to the even one:
`DecExact.round0_tie_even`) -/
theorem nas_round_exact (a : Dec) :
    (∃ z : ℤ, value (Dec.round0 a) = z) ∧ |value (Dec.round0 a) - value a| ≤ 1 / 2 :=
  ⟨round0_isInt a, value_round0 a⟩

/-- `"%"`: truncated remainder, sign of the dividend, magnitude below the divisor -/
theorem nas_rem_exact (a b : Dec) (hb : value b ≠ 0) :
    (∃ t : ℤ, value (Dec.rem a b) = value a - value b * t) ∧ |value (Dec.rem a b)| < |value b| ∧
      0 ≤ value (Dec.rem a b) * value a := by
  obtain ⟨t, ht, _⟩ := rem_exact a b hb
  exact ⟨⟨t, ht⟩, rem_lt a b hb, rem_sign a b⟩

/-! ### non-vacuity -/
example : Dec.render (Dec.add ⟨1, 1⟩ ⟨2, 1⟩) = "0.3".toList := by decide   -- 0.1 + 0.2 = 0.3, exactly
example : Dec.cmp ⟨10, 1⟩ ⟨1, 0⟩ = .eq := by decide                        -- 1.0 = 1
example : parseU64 (toBytes (printNum (.pos (2 ^ 64 - 1)))) = some (2 ^ 64 - 1) := parseU64_print _ (by norm_num)


/-! ### no stage alters a row (helper file `Jawk/Lemmas/PassThrough.lean`)

The sorter converts keys to doubles only to COMPARE them; no stage rebuilds a value. -/

/-- `--filter`, `--unique`, `--sort-by`, `--skip` / `--take`: every row that comes out IS one of the rows that went in
(same input value, same selected values) — for any chain of them, any states, any evaluator -/
theorem rows_pass_untouched (ev : Expr → Ctx → Option JV) (cfgs : List StageCfg) (sts : List StageSt)
    (h : ∀ c ∈ cfgs, Pass.RowPreserving c = true) (rows : List Ctx) :
    ∀ r ∈ Pipe.specRows ev cfgs sts rows, r ∈ rows := Pass.specRows_mem_of_rowPreserving ev cfgs sts h rows

/-- with `--set` / `--select` as well: every output row has the input value of some input row, unchanged, and only
gained selected columns; as multisets, the input values that come out are among those that went in -/
theorem inputs_pass_untouched (ev : Expr → Ctx → Option JV) (cfgs : List StageCfg) (sts : List StageSt)
    (h : ∀ c ∈ cfgs, Pass.InputPreserving c = true) (rows : List Ctx) :
    (∀ r ∈ Pipe.specRows ev cfgs sts rows, ∃ r0 ∈ rows, r.input = r0.input ∧ r0.results <+: r.results) ∧
    Pass.SubMultiset ((Pipe.specRows ev cfgs sts rows).map (·.input)) (rows.map (·.input)) :=
  ⟨Pass.specRows_input_of_inputPreserving ev cfgs sts h rows, Pass.specRows_inputs_subMultiset ev cfgs sts h rows⟩

/-- `--merge` wraps the rows as they are; every member of a group is the built form of an input row -/
theorem collections_hold_rows_untouched (ev : Expr → Ctx → Option JV) (e : Expr) (cap : Option Nat) (rows : List Ctx) :
    Pipe.stageSpec ev .merge cap rows = [{ input := .arr (rows.map Ctx.build) }] ∧
    ∀ k vs, (k, vs) ∈ Pipe.groupOf ev e rows → ∀ v ∈ vs, ∃ r ∈ rows, ev e r = some (.str k) ∧ v = r.build :=
  ⟨rfl, fun k vs h => Pass.group_member_mem ev e rows k vs h⟩

/-- an extractor (`.k`, `#i`, nested) returns a sub-value of its input as stored: no number is ever rebuilt -/
theorem extractors_return_subvalues (steps : List Step) (v x : JV) (h : extractSteps steps v = some x) :
    Pass.SubValue x v := Pass.extractSteps_subValue steps v x h

end Jawk.C19
