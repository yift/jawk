/-
  C15 — csv/text rows have one field per selection; csv is machine-readable.

  Theorems over the model of the text printer (`textRow`, `textField`, `textString`) with the csv
  preset REGENERATED from `TextOutputOptions::csv()` on every run (`Jawk/Generated/Presets.lean`,
  `csvOpts`), and an RFC 4180 record reader written for this purpose (`Jawk/Spec/Csv.lean`,
  skip-one-blank-after-comma dialect).  Helper lemmas: `Jawk/Lemmas/CsvRoundTrip.lean`.
-/
import Jawk.Lemmas.CsvRoundTrip
import Jawk.Props.Tables
namespace Jawk.C15
open Jawk CsvRT

/-- a printed row is its fields joined by the item separator, then the row separator
(any text options, any values, absent ones included) -/
theorem row_is_intercalate (o : TextOpts) (rowSep : Str) (vals : List (Option JV)) :
    (textRow o rowSep vals.length vals).flatten
      = utf8 (List.intercalate o.itemsSep (vals.map (textField o)) ++ rowSep) :=
  CsvRT.row_is_intercalate o rowSep vals

/-- the regenerated csv preset has the shape the round trip needs: `, ` separator, `"`…`"` around
strings, `"` doubled and nothing else escaped, keywords free of quote / comma / line break,
absent value = empty field, header on -/
theorem csvPreset_ok :
    csvOpts.itemsSep = ", ".toList ∧ csvOpts.strPrefix = ['"'] ∧ csvOpts.strPostfix = ['"'] ∧
    csvOpts.headers = true ∧ escapeLookup csvOpts.escapes '"' = some ['"', '"'] ∧
    (∀ c, c ≠ '"' → escapeLookup csvOpts.escapes c = none) ∧ csvOpts.missingKw = none := by
  have h := CsvRT.csvShape
  exact ⟨h.sep, h.pre, h.post, CsvRT.csvOpts_headers, by rw [h.esc, if_pos rfl], fun c hc => by rw [h.esc, if_neg hc],
    h.missing⟩

/-- a string field survives whatever it contains: quotes, commas, CR, LF -/
theorem quoted_field_roundtrip (s : Str) (rest : List Char) (hr : rest.head? ≠ some '"') :
    Csv.quotedTail (dbl s ++ '"' :: rest) = some (s, rest) := CsvRT.quotedTail_dbl s rest hr

/-- every number prints without quote, comma or line break — doubles included -/
theorem numbers_are_plain (n : Num) : Plain (printNum n) := CsvRT.plain_printNum_all n

/-- an RFC 4180 reader recovers, field for field, what was selected: string contents verbatim,
the decimal spelling of numbers, `null` / `True` / `False`, the concise JSON text of arrays and
objects, an empty field for an absent value — for every row of every length ≥ 1 -/
theorem csv_roundtrip (vals : List (Option JV)) (hne : vals ≠ []) (rest : List Char) :
    Csv.readRecord (rowText csvOpts ['\n'] vals ++ rest) = some (vals.map csvField, rest) :=
  CsvRT.csv_row_roundtrip vals hne rest

/-- exactly one field per selection -/
theorem field_count (vals : List (Option JV)) (hne : vals ≠ []) (rest : List Char) :
    ∃ fields, Csv.readRecord (rowText csvOpts ['\n'] vals ++ rest) = some (fields, rest)
      ∧ fields.length = vals.length := CsvRT.field_count vals hne rest

/-- a whole csv output (any number of rows) reads back row for row -/
theorem csv_rows_roundtrip (rows : List (List (Option JV))) (hne : ∀ r ∈ rows, r ≠ []) :
    Csv.readAll (rows.flatMap (rowText csvOpts ['\n'])) = some (rows.map (·.map csvField)) :=
  CsvRT.csv_rows_roundtrip rows hne

/-- the header row lists the selection names in order (it is the row of the titles as strings) … -/
theorem header_row (sep : Str) (titles : List Str) (w : Writer) (ht : titles ≠ [])
    (hr : w.room = none) (hf : w.failed = false) :
    sinkStart (.text csvOpts sep) titles w
      = .ok { w with out := w.out ++ utf8 (rowText csvOpts sep (titles.map (some ∘ JV.str))) } :=
  CsvRT.header_row_unbounded sep titles w ht hr hf

/-- … and reads back as exactly those names -/
theorem header_reads_back (titles : List Str) (ht : titles ≠ []) (rest : List Char) :
    Csv.readRecord (rowText csvOpts ['\n'] (titles.map (some ∘ JV.str)) ++ rest)
      = some (titles.map (fun t => (true, t)), rest) := CsvRT.header_reads_back titles ht rest

/-- a data row written by the text sink is the row text of the selected values -/
theorem data_row (o : TextOpts) (sep : Str) (w : Writer) (ctx : Ctx)
    (hne : ctx.toList ≠ []) (hr : w.room = none) (hf : w.failed = false) :
    sinkProcess (.text o sep) ctx.toList.length w ctx
      = .ok { w with out := w.out ++ utf8 (rowText o sep ctx.toList) } :=
  CsvRT.data_row_unbounded o sep w ctx hne hr hf

/-! ### non-vacuity: a row with a quote, a comma, a line break, an array, an absent value -/
example : Csv.readRecord (rowText csvOpts ['\n']
    [some (.str "x\"y,z\nw".toList), some (.arr [.num (.pos 1)]), some .null, none, some (.bool true)])
    = some ([(true, "x\"y,z\nw".toList), (true, "[1]".toList), (false, "null".toList), (false, []),
             (false, "True".toList)], []) := by
  have := csv_roundtrip [some (.str "x\"y,z\nw".toList), some (.arr [.num (.pos 1)]), some .null, none, some (.bool true)]
    (by simp) []
  have h1 : Nat.toDigits 10 1 = ['1'] := by decide
  simpa [h1, csvField, printJson, printJsonAt, printElems, printNum, indentText, commaText] using this

end Jawk.C15
