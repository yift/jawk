/-
  C02 — every JSON output row is valid JSON for its value in all styles; a fixpoint.

  Theorems over the model of the JSON printer (`printJson`, three styles × `--utf8-strings`) and of
  jawk's own JSON parser (`nextValue`): the parser reads back exactly what the printer wrote, for every
  printable value, in every style; rows are framed by any white-space row separator; the three styles
  differ only in white space outside strings.  Helper lemmas under `Jawk/Lemmas/`:
  `RoundTripLex`, `RoundTripBase`, `RoundTrip`, `F64RoundTrip`, `FloatBridge`, `ParseSer`, `PrintSer`, `H17`,
  `Fixpoint`, `Finite`.

  `Printable o v` (RT) is the exact domain: integers in range, object member names distinct, every float
  satisfies `FloatRT` (its shortest rendering parses back — proved in `F64RoundTrip.display_parse` whenever a
  rendering is found; the 17-digit search is total: `h17_holds`), and — the known
  finding F3 — without `--utf8-strings` no character above U+FFFF (`CharOK`): `printString` writes such a
  character as `\u` + FIVE hex digits, which reads back as a different string (witness proved below).
-/
import Jawk.Lemmas.Fixpoint
import Jawk.Lemmas.RoundTrip
import Jawk.Lemmas.F64RoundTrip
import Jawk.Lemmas.ParseSer
import Jawk.Lemmas.H17
import Jawk.Lemmas.PrintSer
import Jawk.Lemmas.Finite
import Jawk.Props.Tables
namespace Jawk.C02
open Jawk RT

/-- positioned before the printed text of a printable value (any style, either string mode) followed by
anything that does not extend a number, the parser returns the value (`norm` only maps the unreachable
`neg 0 / neg i≥0` to `pos`) and stops exactly after it -/
theorem parse_print (o : JsonOpts) (v : JV) (hv : Printable o v) (rest : List Byte) (hd : Delim v rest)
    (r : Reader) (hr : r.pending = cleanInput (utf8 (printJson o v) ++ rest)) (hclean : r.eof = false)
    (fuel : Nat) (hf : fuelBound o v ≤ fuel) :
    ∃ r', nextValue fuel r = (.ok (some (norm v)), r') ∧ r'.pending = cleanInput rest ∧
      (r'.eof = false ∨ rest = []) := RT.parse_print o v hv rest hd r hr hclean fuel hf

/-- the same through `next_json_value` with its own fuel, after any white space -/
theorem nextJson_reads_printed (o : JsonOpts) (v : JV) (hv : Printable o v) (ws : List Byte)
    (hws : ∀ b ∈ ws, Reader.isWs b = true) (rest : List Byte) (hd : Delim v rest) (r : Reader)
    (hr : Ready r (ws ++ (utf8 (printJson o v) ++ rest))) :
    ∃ r', r.nextJson = (.ok (some (norm v)), r') ∧ Ready r' rest := RT.nextJson_print o v hv ws hws rest hd r hr

/-- rows are framed unambiguously: a whole output (any number of rows, any non-empty white-space row
separator) reads back as exactly the values, in order, and then end of input — no row dropped, split or merged -/
theorem rows_framed (o : JsonOpts) (sep : List Byte) (hsep : ∀ b ∈ sep, Reader.isWs b = true) (hne : sep ≠ [])
    (vs : List JV) (hvs : ∀ v ∈ vs, Printable o v) (name : Option Str) :
    ∃ r' r'', Reads (Reader.ofBytes (rowsText o sep vs) name) (vs.map norm) r' ∧
      r'.nextJson = (.ok none, r'') := RT.rows_framed o sep hsep hne vs hvs name

/-- the three styles differ only in white space outside strings: stripping it from ANY style gives the concise text
(no hypothesis: every value, floats included) -/
theorem styles_differ_in_ws_only (o : JsonOpts) (v : JV) :
    stripWs false (printJson o v) = printJson { o with style := .consise } v := RT.styles_differ_in_ws_only o v

/-- floats: whenever the shortest-digit search returns a text, that text parses back to the same double … -/
theorem float_display_parses (f : F64) (s : Bool) (m : Nat) (e : Int) (t : List Char) (hf : f = .fin s m e)
    (hm : m ≠ 0) (ht : F64.toDisplay? f = some t) : F64.parseDecimal t = some f :=
  F64RT.display_parse hf hm ht

/-- … and has the shape of a JSON number without exponent -/
theorem float_display_shape (s : Bool) (m : Nat) (e : Int) (t : List Char)
    (ht : F64.toDisplay? (.fin s m e) = some t) : F64RT.DecimalShape t := F64RT.toDisplay_shape ht

/-- the float hypothesis of `Printable` is discharged for every double that can occur in a value: a non-zero
double that `From<f64>` keeps as a float and for which the digit search returns — no further assumption -/
theorem float_hypothesis_discharged {f : F64} {s : Bool} {m : Nat} {e : Int} {t : List Char}
    (hf : f = .fin s m e) (hm : m ≠ 0) (hstay : Num.ofF64 f = .flt f) (ht : F64.toDisplay? f = some t) :
    FloatRT f := Ser.floatRT_of_display hf hm hstay ht

/-- closing the loop (the fixpoint at the value level): whatever was read from ANY conforming text is printable,
and its printed text (any style, `--utf8-strings`) is read back as the same value (the success of the
17-digit search is `Ser.h17`, see `h17_holds`). -/
theorem reread_what_was_read (o : JsonOpts) (ho : o.utf8Strings = true) {v : JV} {bs : List Byte}
    (h : Ser.Ser v bs) (rest : List Byte) (hd : Delim v rest) (r : Reader)
    (hr : Ready r (utf8 (printJson o v) ++ rest)) (fuel : Nat) (hf : fuelBound o v ≤ fuel) :
    ∃ r', nextValue fuel r = (.ok (some (norm v)), r') ∧ Ready r' rest :=
  Ser.print_parse_of_ser Ser.h17 o ho h rest hd r hr fuel hf

/-- F3 (known finding), proved on the model: without `--utf8-strings` U+1F603 is written as `\u1f603` -/
theorem astral_escape_has_five_digits :
    printString {} [Char.ofNat 0x1F603] = "\"\\u1f603\"".toList := by decide

/-! ### non-vacuity: a nested value with escapes, a float, non-ASCII — printable in every style -/
example (o : JsonOpts) : Printable o sample := sample_printable o


/-! ### the fixpoint, for whole runs (helper file `Jawk/Lemmas/Fixpoint.lean`) -/

/-- a run with only output options (style, `--utf8-strings`, row separator) writes, for ANY input, one printed
row per value read -/
theorem run_output_only (orc : Oracles) (jo : Option JsonOpts) (sep : Str) (sources : List Source)
    (wOut wErr : Writer) (hw : Pipe.Unbounded wOut) (hcl : RunSpec.CleanIO sources) :
    (run orc (Fix.outCfg jo sep) sources wOut wErr).result = .ok ()
      ∧ (run orc (Fix.outCfg jo sep) sources wOut wErr).stdout
          = wOut.out ++ (RunSpec.ctxsOfSources (Fix.outCfg jo sep) sources 0).flatMap
              (fun ctx => utf8 (printJson (jo.getD {}) ctx.input) ++ utf8 sep)
      ∧ (run orc (Fix.outCfg jo sep) sources wOut wErr).stderr = wErr.out :=
  Fix.run_output_only orc jo sep sources wOut wErr hw hcl

/-- feeding jawk's output back into jawk with the same options reproduces it byte for byte — for EVERY
input (any bytes, malformed regions included, any number of sources), every style, every non-empty white-space
row separator.  Assumption: `--utf8-strings` (without it an astral character is the finding F3; the
counter-example is an `example` in the helper file, as is a non-white-space separator) -/
theorem fixpoint (orc : Oracles) (o : JsonOpts) (ho : o.utf8Strings = true) (sep : Str)
    (hsep : Fix.WsSep sep) (hne : sep ≠ []) (sources : List Source) (hcl : RunSpec.CleanIO sources) :
    (run orc (Fix.outCfg (some o) sep)
        [⟨none, cleanInput (run orc (Fix.outCfg (some o) sep) sources {} {}).stdout⟩] {} {}).stdout
      = (run orc (Fix.outCfg (some o) sep) sources {} {}).stdout :=
  Fix.fixpoint_all Ser.h17 orc o ho sep hsep hne sources hcl

/-- the same without `--utf8-strings`, for inputs whose values are printable (`Printable`) -/
theorem fixpoint_printable (orc : Oracles) (jo : Option JsonOpts) (sep : Str) (hsep : Fix.WsSep sep) (hne : sep ≠ [])
    (sources : List Source) (hcl : RunSpec.CleanIO sources)
    (hvals : ∀ ctx ∈ RunSpec.ctxsOfSources (Fix.outCfg jo sep) sources 0, Printable (jo.getD {}) ctx.input) :
    (run orc (Fix.outCfg jo sep) [⟨none, cleanInput (run orc (Fix.outCfg jo sep) sources {} {}).stdout⟩] {} {}).stdout
      = (run orc (Fix.outCfg jo sep) sources {} {}).stdout :=
  Fix.fixpoint_sources orc jo sep hsep hne sources hcl hvals

/-! ### The digit search is total; the printed text is conforming by an independent grammar -/

/-- the digit search of `Display for f64` (1 … 17 significant digits) succeeds on every finite double: the
classical fact 10^16 > 2^53, proved over the model (`Jawk/Lemmas/H17.lean`: `decExp` is exact — one kernel
evaluation over all 2100 binary exponents —, nearest rounding, the grid argument at 17 digits) -/
theorem h17_holds : Ser.H17 := Ser.h17

theorem display_total (f : F64) (hc : f.Canonical) (hf : f.isFinite = true) : (F64.toDisplay? f).isSome = true :=
  F64.toDisplay?_isSome f hc hf

/-- every row is a WELL-FORMED RFC 8259 text of the value being output, by the independent grammar
`Ser` of `Jawk/Spec/Json.lean` (which mentions neither jawk's parser nor its printer) — in every style and both
string modes; `norm` only turns a `neg i` with `i ≥ 0`, which prints without sign, into `pos i` -/
theorem printed_row_conforming (o : JsonOpts) (v : JV) (hv : Printable o v) :
    Ser.Ser (norm v) (utf8 (printJson o v)) :=
  PrintSer.printJson_ser_printable o v hv

/-- the three styles are conforming texts of the SAME value (they differ in insignificant white space only) -/
theorem styles_same_value (o : JsonOpts) (v : JV) (hv : Ser.Parsed o v) :
    Ser.Ser (norm v) (utf8 (printJson { o with style := .oneLine } v)) ∧
    Ser.Ser (norm v) (utf8 (printJson { o with style := .consise } v)) ∧
    Ser.Ser (norm v) (utf8 (printJson { o with style := .pretty } v)) :=
  ⟨PrintSer.printJson_ser_styles o v hv _, PrintSer.printJson_ser_styles o v hv _,
    PrintSer.printJson_ser_styles o v hv _⟩

/-- the round trip THROUGH the grammar: a printed row, preceded by white space, is read back as the value -/
theorem printed_row_reread (o : JsonOpts) (v : JV) (hv : Ser.Parsed o v) (rest : List Byte)
    (hd : Ser.Delimited (norm v) rest) (ws : List Byte) (hws : Ser.Ws ws) (r : Reader)
    (hr : Ready r (ws ++ utf8 (printJson o v) ++ rest)) :
    ∃ r', r.nextJson = (.ok (some (norm v)), r') ∧ Ready r' rest :=
  PrintSer.nextJson_printed o v hv rest hd ws hws r hr

/-- F3 through the grammar: in ASCII mode U+1F600 is printed as a conforming text — of a DIFFERENT string -/
theorem astral_is_conforming_but_different :
    Ser.Ser (.str [Char.ofNat 0x1F60, '0']) (utf8 (printJson {} (.str [Char.ofNat 0x1F600]))) :=
  PrintSer.astral_ascii_differs


/-! ### computed values: no `NaN`, no `inf` (helper `Jawk/Lemmas/Finite.lean`)

JSON has no spelling for a non-finite number.  Values read from the input are finite (the parser rejects numbers
that overflow); for COMPUTED values the evaluator sends every arithmetic result through `from_finite`
(`jnumFinite`): a result outside the double range is *nothing*, never `inf` or `NaN` (`(* 1e308 10 0)` = inf·0). -/

/-- evaluation preserves finiteness, for every expression over the functions whose result is guarded by
`from_finite` or not computed from a double at all (everything but `% abs ceil floor round`, whose model takes
the unbounded integers and non-canonical doubles the real types cannot hold: see `computed_finite`) -/
theorem computed_finite_guarded (orc : Oracles) (fuel : Nat) (e : Expr) (ctx : Ctx) (v : JV)
    (ho : Finite.FiniteOrc orc) (he : Finite.FiniteE e) (hc : Finite.FiniteCtx ctx)
    (hg : Finite.GuardedOnly e) (hd : ∀ nd ∈ ctx.defs, Finite.GuardedOnly nd.2)
    (h : eval orc fuel e ctx = .ok (some v)) : Finite.FiniteV v :=
  Finite.eval_finite_partial orc fuel e ctx v ho he hc hg hd h

/-- for EVERY expression: whatever it evaluates to is finite, provided every intermediate number fits the types
the real program has (u64 / i64 / canonical binary64 — `evalRep` is `eval` with that check and agrees with it
unless the check fires; in the Rust program the check cannot fire, the types enforce it) -/
theorem computed_finite (orc : Oracles) (fuel : Nat) (e : Expr) (ctx : Ctx) (v : JV)
    (ho : Finite.FiniteOrc orc) (he : Finite.FiniteE e) (hc : Finite.FiniteCtx ctx)
    (hrep : Finite.evalRep orc fuel e ctx ≠ .error .overflow)
    (h : eval orc fuel e ctx = .ok (some v)) : Finite.FiniteV v :=
  Finite.eval_finite orc fuel e ctx v ho he hc hrep h

/-- the hypothesis of `computed_finite` is about the MODEL only: with unbounded naturals an array of 2^1024
elements has a size whose `abs` is infinite -/
theorem computed_finite_needs_representable :
    ∃ (orc : Oracles) (fuel : Nat) (e : Expr) (ctx : Ctx) (v : JV),
      Finite.FiniteOrc orc ∧ Finite.FiniteE e ∧ Finite.FiniteCtx ctx ∧ eval orc fuel e ctx = .ok (some v) ∧ ¬ Finite.FiniteV v :=
  Finite.eval_finite_false

/-- a selection keeps the whole row finite: the row that is built and the context handed to the next stage -/
theorem selected_row_finite (orc : Oracles) (e : Expr) (ctx : Ctx) (name : Str) (r : Option JV)
    (ho : Finite.FiniteOrc orc) (he : Finite.FiniteE e) (hc : Finite.FiniteCtx ctx)
    (hrep : Finite.evalRep orc evalFuel e ctx ≠ .error .overflow)
    (h : eval orc evalFuel e ctx = .ok r) :
    Finite.FiniteCtx (ctx.withResult name r) ∧ Finite.FiniteV (ctx.withResult name r).build :=
  Finite.selected_rows_finite orc e ctx name r ho he hc hrep h

end Jawk.C02
