/-
  C07 — one total order; sorting is a permutation, sorted, stable and direction-aware.

  Theorems over the model of `impl Ord for JsonValue` (`JV.cmp`), the `--sort-by` stage
  (bucket map of deques: `bucketInsert`, `sortStep`, `bucketsEmit`) and the list-level
  specification `SortSpec.sortDir` (stable insertion sort).  Helper lemmas live in
  `Jawk/Lemmas/Order.lean`, `Jawk/Lemmas/SortSpec.lean`, `Jawk/Lemmas/BucketSort.lean` and
  `Jawk/Lemmas/SortFns.lean`.
-/
import Jawk.Lemmas.RunCor
import Jawk.Lemmas.Order
import Jawk.Lemmas.BucketSort
import Jawk.Lemmas.SortFns
namespace Jawk.C07
open Jawk SortSpec

/-! ### the order: total, for ALL values (no domain restriction) -/

/-- `JV.cmp` is a total preorder: reflexive, antisymmetric under swap, transitive -/
theorem cmp_total_preorder : TotalPreorderCmp JV.cmp := Order.cmp_total_preorder

theorem cmp_refl (a : JV) : JV.cmp a a = .eq := Order.cmp_refl a
theorem cmp_swap (a b : JV) : JV.cmp b a = (JV.cmp a b).swap := Order.cmp_swap a b
theorem cmp_trans (a b c : JV) (h1 : JV.cmp a b ≠ .gt) (h2 : JV.cmp b c ≠ .gt) : JV.cmp a c ≠ .gt :=
  Order.cmp_le_trans a b c h1 h2

/-- values of different types are ordered by type rank:
`null < false < true < strings < numbers < objects < arrays` -/
theorem rank_order (a b : JV) (h : a.rank < b.rank) : JV.cmp a b = .lt := Order.rank_order h

theorem type_order (b : Bool) (s : Str) (n : Num) (o : List (Str × JV)) (l : List JV) :
    JV.cmp .null (.bool b) = .lt ∧ JV.cmp (.bool false) (.bool true) = .lt ∧
    JV.cmp (.bool b) (.str s) = .lt ∧ JV.cmp (.str s) (.num n) = .lt ∧
    JV.cmp (.num n) (.obj o) = .lt ∧ JV.cmp (.obj o) (.arr l) = .lt :=
  ⟨Order.null_lt_bool b, Order.false_lt_true, Order.bool_lt_str b s, Order.str_lt_num s n,
    Order.num_lt_obj n o, Order.obj_lt_arr o l⟩

/-- strings compare by code point, and only equal strings compare equal -/
theorem str_by_code_point (a b : Str) : JV.cmp (.str a) (.str b) = cmpStr a b := Order.cmp_str a b
theorem str_eq_iff (a b : Str) : cmpStr a b = .eq ↔ a = b := Order.cmpStr_eq_iff a b

/-- arrays compare lexicographically -/
theorem arr_lexicographic (x y : JV) (xs ys : List JV) :
    JV.cmp (.arr (x :: xs)) (.arr (y :: ys)) = (JV.cmp x y).then (JV.cmp (.arr xs) (.arr ys)) :=
  Order.cmp_arr_cons_cons x y xs ys

/-! ### the specification sort: permutation, sorted, stable -/

theorem sort_perm {α} (key : α → JV) (desc : Bool) (l : List α) :
    (sortDir JV.cmp key desc l).Perm l := sortDir_perm cmp_total_preorder key desc l

/-- non-decreasing for ASC, non-increasing for DESC -/
theorem sort_sorted {α} (key : α → JV) (desc : Bool) (l : List α) :
    SortedDir JV.cmp key desc (sortDir JV.cmp key desc l) := sortDir_sorted cmp_total_preorder key desc l

/-- ties keep arrival order: the rows of every key class appear in input order -/
theorem sort_stable {α} (key : α → JV) (desc : Bool) (l : List α) (k : JV) :
    (sortDir JV.cmp key desc l).filter (fun x => JV.cmp (key x) k = .eq)
      = l.filter (fun x => JV.cmp (key x) k = .eq) := sortDir_stable cmp_total_preorder key desc l k

/-! ### the `--sort-by` stage machine is that sort -/

/-- feeding any rows to the sorter's bucket map and emitting (`complete`) yields the stable sort of
the rows by their key, in the requested direction — for every history -/
theorem sortStage_spec (desc : Bool) (rows : List (JV × Ctx)) :
    bucketsEmit desc (rows.foldl (fun d r => bucketInsert r.1 r.2 d) [])
      = (sortDir JV.cmp (·.1) desc rows).map (·.2) :=
  BucketSort.bucketsEmit_foldl_bucketInsert cmp_total_preorder desc rows

/-- the bounded sorter (the top-N shortcut next to `--take`) keeps exactly the first `cap` rows of the
stable sort, ties and `cap = 0` included -/
theorem sortStage_bounded_spec (desc : Bool) (cap : Nat) (rows : List (JV × Ctx)) :
    bucketsEmit desc (rows.foldl (fun s r => sortStep desc r.1 r.2 s) ([], some cap)).1
      = ((sortDir JV.cmp (·.1) desc rows).map (·.2)).take cap :=
  BucketSort.bucketsEmit_run cmp_total_preorder desc cap rows

/-- `JV.cmp` read as `<`, `<=`, `>`, `>=` is one order: `a < b` iff `b > a`, `a <= b` iff `b >= a` -/
theorem compare_fns_agree (a b : JV) :
    ((JV.cmp a b == .lt) = true ↔ JV.cmp b a = .gt) ∧
    ((JV.cmp a b != .gt) = true ↔ JV.cmp b a ≠ .lt) := by
  rw [cmp_swap a b]
  cases JV.cmp a b <;> simp [Ordering.swap]


/-! ### repeated `--sort-by`: lexicographic keys, the first given most significant

`build` assembles the sorters so that the LAST given key sorts first (outermost stage) and the FIRST given
key last (next to the limiter): `multiSort` is that chain on the list level. -/

/-- two keys: a permutation, sorted by the first key in its direction, within every class of the first key
sorted by the second key in ITS direction, and rows tied on both keys in arrival order -/
theorem two_key_lex {α} (k1 k2 : α → JV) (d1 d2 : Bool) (l : List α) :
    (sortDir JV.cmp k1 d1 (sortDir JV.cmp k2 d2 l)).Perm l ∧
    SortedDir JV.cmp k1 d1 (sortDir JV.cmp k1 d1 (sortDir JV.cmp k2 d2 l)) ∧
    (∀ k, SortedDir JV.cmp k2 d2
      ((sortDir JV.cmp k1 d1 (sortDir JV.cmp k2 d2 l)).filter (fun x => JV.cmp (k1 x) k = .eq))) ∧
    (∀ a b,
      (sortDir JV.cmp k1 d1 (sortDir JV.cmp k2 d2 l)).filter
          (fun x => JV.cmp (k1 x) a = .eq && JV.cmp (k2 x) b = .eq)
        = l.filter (fun x => JV.cmp (k1 x) a = .eq && JV.cmp (k2 x) b = .eq)) :=
  SortFns.two_key_lex cmp_total_preorder k1 k2 d1 d2 l

/-- any number of keys with directions: the chain of stable sorts IS the stable sort under the lexicographic
comparison of the key vector (first key most significant) -/
theorem multi_key_lex {α} (ks : List ((α → JV) × Bool)) (l : List α) :
    SortFns.multiSort JV.cmp ks l = sortDir (SortFns.lexCmp JV.cmp ks) id false l :=
  SortFns.multiSort_eq_sortDir_lex cmp_total_preorder ks l

theorem multi_key_sorted {α} (ks : List ((α → JV) × Bool)) (l : List α) :
    (SortFns.multiSort JV.cmp ks l).Perm l ∧
    (SortFns.multiSort JV.cmp ks l).Pairwise (fun a b => SortFns.lexCmp JV.cmp ks a b ≠ .gt) :=
  ⟨SortFns.multiSort_perm cmp_total_preorder ks l, SortFns.multiSort_sorted cmp_total_preorder ks l⟩

/-! ### the sort functions (`slice::sort_by`, assumed stable = `List.mergeSort`) are the same sort -/

/-- `sort`: the stable sort of the specification, hence permutation, sorted, ties in arrival order -/
theorem fn_sort (l : List JV) :
    stableSortBy JV.cmp l = sortDir JV.cmp id false l ∧ (stableSortBy JV.cmp l).Perm l ∧
    (stableSortBy JV.cmp l).Pairwise (fun a b => JV.cmp a b ≠ .gt) :=
  ⟨SortFns.sort_eq_spec l, SortFns.sort_perm l, SortFns.stableSortBy_sorted Order.cmp_total_preorder id l⟩

theorem fn_sort_by_values (m : List (Str × JV)) :
    stableSortBy (fun (x y : Str × JV) => JV.cmp x.2 y.2) m = sortDir JV.cmp (fun x : Str × JV => x.2) false m :=
  SortFns.stableSortBy_eq_sortDir Order.cmp_total_preorder (fun x : Str × JV => x.2) m

theorem fn_sort_by_keys (m : List (Str × JV)) :
    stableSortBy (fun (x y : Str × JV) => cmpStr x.1 y.1) m = sortDir cmpStr (fun x : Str × JV => x.1) false m :=
  SortFns.stableSortBy_eq_sortDir Order.cmpStr_total_preorder (fun x : Str × JV => x.1) m

/-- the comparison of evaluated keys that `sort_by` and `sort_by_values_by` sort on (a missing key first,
`SortFns.cmpOpt_none_first`) is a total preorder -/
theorem fn_sort_by_key_order : TotalPreorderCmp cmpOpt := SortFns.cmpOpt_total_preorder

/-- `sort_unique`: sorted, no two neighbours `==`, every input element kept or `==` to a kept one -/
theorem fn_sort_unique (l : List JV) :
    (SortFns.sortUnique l).Pairwise (fun a b => JV.cmp a b ≠ .gt) ∧
    SortFns.AdjacentAll (fun a b => JV.beq a b = false) (SortFns.sortUnique l) ∧
    (∀ x ∈ l, x ∈ SortFns.sortUnique l ∨ ∃ y ∈ SortFns.sortUnique l, JV.beq y x = true) :=
  ⟨SortFns.sort_unique_sorted l, SortFns.sort_unique_adjacent l, SortFns.sort_unique_cover l⟩

/-- the direction word is case-insensitive (ASC / DESC / nothing) -/
theorem direction_case_insensitive (t : Str) :
    directionOf (t.map Char.toUpper) = directionOf t ∧ directionOf (t.map Char.toLower) = directionOf t :=
  ⟨SortFns.directionOf_map_toUpper t, SortFns.directionOf_map_toLower t⟩

theorem direction_words :
    directionOf [] = .ok false ∧ directionOf "asc".toList = .ok false ∧ directionOf "DESC".toList = .ok true ∧
    directionOf "DeSc".toList = .ok true := ⟨rfl, rfl, rfl, rfl⟩


/-! ### the option as a whole: what `--sort-by E [ASC|DESC]` alone does to a run's rows -/

/-- a configuration with just `--sort-by`: the rows that reach the printer are the stable sort, in the requested
direction, of the rows whose key is present (rows with an absent key are dropped) — a permutation of those rows,
sorted, ties in arrival order -/
theorem sort_by_option (orc : Oracles) (s : Str) (e : Expr) (d : Bool) (hs : parseSorter s = .ok (e, d)) :
    ∃ p, build orc { sorts := [s] } = .ok p ∧ p.cfgs = [.sort e d] ∧ p.sts = [.sort [] none] ∧
      ∀ rows, RunCor.R orc p rows
        = (sortDir JV.cmp (·.1) d (Pipe.keyed (Pipe.evalT orc) e rows)).map (·.2) :=
  RunCor.only_sort orc s e d hs

theorem sort_by_option_props (orc : Oracles) (e : Expr) (d : Bool) (rows : List Ctx) :
    let out := sortDir JV.cmp (·.1) d (Pipe.keyed (Pipe.evalT orc) e rows)
    out.Perm (Pipe.keyed (Pipe.evalT orc) e rows) ∧ SortedDir JV.cmp (·.1) d out ∧
      ∀ k, out.filter (fun x => JV.cmp x.1 k = .eq)
        = (Pipe.keyed (Pipe.evalT orc) e rows).filter (fun x => JV.cmp x.1 k = .eq) :=
  RunCor.only_sort_props orc e d rows

/-! ### non-vacuity -/
example : JV.cmp (.num (.pos 2)) (.num (.pos 10)) = .lt := by decide
example : JV.cmp (.str "10".toList) (.str "2".toList) = .lt := by decide
example : (sortDir JV.cmp (·.1) false [(JV.bool true, (1 : Nat)), (JV.null, 2), (JV.bool true, 3)]).map (·.2) = [2, 1, 3] := by
  decide

end Jawk.C07
