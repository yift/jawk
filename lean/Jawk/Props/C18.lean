/-
  C18 — invalid configurations are rejected before any input is read or output written.
-/
import Jawk.Lemmas.TrailingGarbage
import Jawk.Model.Run
import Jawk.Lemmas.ArgsOrder
namespace Jawk.C18
open Jawk

variable (orc : Oracles)

/-- If building the pipeline fails, the run returns that error, neither writer is touched
and no source is opened (nothing is pulled). -/
theorem invalid_config_no_io (c : Cfg) (srcs : List Source) (wOut wErr : Writer) (f : Fail)
    (h : build orc c = .error f) :
    run orc c srcs wOut wErr =
      { result := .error f, stdout := wOut.out, stderr := wErr.out, pulled := [] } := by
  unfold run
  rw [h]

/-- corollary in the observable vocabulary of the property -/
theorem invalid_config_observables (c : Cfg) (srcs : List Source) (wOut wErr : Writer) (f : Fail)
    (h : build orc c = .error f) :
    (run orc c srcs wOut wErr).result = .error f ∧
    (run orc c srcs wOut wErr).stdout = wOut.out ∧
    (run orc c srcs wOut wErr).stderr = wErr.out ∧
    (run orc c srcs wOut wErr).pulled = [] := by
  rw [invalid_config_no_io orc c srcs wOut wErr f h]
  exact ⟨rfl, rfl, rfl, rfl⟩

/-- output options that do not belong to the chosen style make `build` fail -/
theorem style_option_mismatch_rejected (c : Cfg)
    (h : (c.style = .csv ∧ (c.jsonOpts.isSome ∨ c.textOpts.isSome)) ∨
         (c.style = .text ∧ c.jsonOpts.isSome) ∨
         (c.style = .json ∧ c.textOpts.isSome)) :
    ∃ f, build orc c = .error f := by
  have hs : ∃ e, buildSink c = .error e := by
    unfold buildSink
    rcases h with ⟨hs, hj | ht⟩ | ⟨hs, hj⟩ | ⟨hs, ht⟩
    · simp [hs, hj]
    · simp [hs, ht]
      split <;> simp
    · simp [hs, hj]
    · simp [hs, ht]
  obtain ⟨e, he⟩ := hs
  refine ⟨.config e, ?_⟩
  unfold build
  simp [he, cfgErr, bind, Except.bind]

/-- the csv preset always asks for a header row (re-checked against the generated preset) -/
theorem csv_has_headers : csvOpts.headers = true := by decide

/-- csv without a selection: the header cannot be written, the run fails at `start`,
before any source is read, with nothing written -/
theorem csv_without_titles_rejected (c : Cfg) (srcs : List Source) (wOut wErr : Writer) (p : Pipeline)
    (hb : build orc c = .ok p) (hs : ∃ sep, p.sink = .text csvOpts sep) (ht : p.titles = []) :
    (run orc c srcs wOut wErr).result = .error .invalidInput ∧
    (run orc c srcs wOut wErr).stdout = wOut.out ∧
    (run orc c srcs wOut wErr).pulled = [] := by
  obtain ⟨sep, hsink⟩ := hs
  unfold run
  rw [hb]
  simp [sinkStart, hsink, ht, csv_has_headers]

/-- a sort direction other than ASC / DESC (any letter case) or nothing is rejected,
whatever the selection in front of it -/
theorem bad_direction_rejected (s : Str) (e : Expr) (t : Str)
    (hparts : parseSorterParts s = .ok (e, t))
    (hdir : (trimStr t).map upperChar ≠ [] ∧ (trimStr t).map upperChar ≠ "ASC".toList ∧
            (trimStr t).map upperChar ≠ "DESC".toList) :
    parseSorter s = .error "UnknownOrder" := by
  unfold parseSorter
  rw [hparts]
  obtain ⟨h0, h1, h2⟩ := hdir
  simp at h1 h2
  simp [directionOf, h0, h1, h2]

/-- and such a `--sort-by` makes the whole configuration fail -/
theorem bad_direction_fails_build (c : Cfg) (s : Str) (hs : s ∈ c.sorts)
    (hbad : ∃ msg, parseSorter s = .error msg) (hsink : ∃ k, buildSink c = .ok k)
    (hgroup : c.group = none) :
    ∃ f, build orc c = .error f := by
  obtain ⟨msg, hmsg⟩ := hbad
  obtain ⟨k, hk⟩ := hsink
  have hmap : ∀ (l : List Str), s ∈ l → ∃ f, mapRes (fun s => cfgErr (parseSorter s)) l = .error f := by
    intro l
    induction l with
    | nil => intro h; cases h
    | cons x xs ih =>
      intro h
      unfold mapRes
      by_cases hx : x = s
      · subst hx
        exact ⟨.config msg, by simp [hmsg, cfgErr, bind, Except.bind]⟩
      · have : s ∈ xs := by
          cases h with
          | head => exact absurd rfl hx
          | tail _ h' => exact h'
        obtain ⟨f, hf⟩ := ih this
        cases hxp : cfgErr (parseSorter x) with
        | error e => exact ⟨e, by simp [bind, Except.bind]⟩
        | ok v => exact ⟨f, by simp [hf, bind, Except.bind]⟩
  obtain ⟨f, hf⟩ := hmap c.sorts hs
  refine ⟨f, ?_⟩
  simp only [cfgErr] at hf
  unfold build
  simp [hk, cfgErr, hgroup, hf, bind, Except.bind]

/-- the direction is case-insensitive and an omitted direction is ascending -/
theorem direction_cases :
    (directionOf []).toOption = some false ∧
    (directionOf [' ', 'a', 's', 'c']).toOption = some false ∧
    (directionOf [' ', 'A', 's', 'C', ' ']).toOption = some false ∧
    (directionOf ['D', 'E', 'S', 'C']).toOption = some true ∧
    (directionOf [' ', 'd', 'E', 's', 'C']).toOption = some true ∧
    (directionOf ['u', 'p']).toOption = none := by decide

/-- non-vacuity: a configuration that `build` rejects exists (csv with a JSON option) -/
example : ∃ f, build {} { style := .csv, jsonOpts := some {} } = .error f :=
  style_option_mismatch_rejected {} _ (Or.inl ⟨rfl, Or.inl rfl⟩)


/-! ### what the expression parser accepts is well-formed; the rest is rejected (helpers `Jawk/Lemmas/ExprWellFormed.lean`, `Jawk/Lemmas/TrailingGarbage.lean`) -/

/-- every expression that parses — in any option — has, at every call node, a function of the table regenerated
from the source and an argument count within that function's bounds -/
theorem parsed_ast_well_formed {s : Str} {e : Expr} (h : parseWholeExpr s = .ok e) : PR.WellFormed e :=
  PR.parseWholeExpr_well_formed h

theorem well_formed_call (fn : String) (args : List Expr) :
    PR.WellFormed (.call fn args) ↔ PR.ArityOK fn args.length ∧ ∀ a ∈ args, PR.WellFormed a :=
  PR.wellFormed_call fn args

/-- an unknown function name is rejected -/
theorem unknown_function_rejected (name : Str) (fuel : Nat) (r : Reader)
    (h : findFunction (String.ofList (PR.splitDot name).1) = none) :
    PR.resolveCall name fuel r = (.error (.unknownFunction (PR.splitDot name).1), r) :=
  PR.unknown_function_rejected name fuel r h

/-- too few / too many arguments are rejected, anything within the bounds is accepted -/
theorem arity_rejected (name : Str) (fuel : Nat) (sig : FnSig) (r r1 r2 : Reader) (args : List Expr)
    (b : Option Byte)
    (h : findFunction (String.ofList (PR.splitDot name).1) = some sig)
    (hargs : parseArgs fuel (PR.splitDot name).2 r = (.ok args, r1))
    (hnext : Reader.next r1 = (.ok b, r2)) :
    (args.length < sig.min → PR.resolveCall name fuel r = (.error (.missingArgument sig.name), r2)) ∧
    (∀ m, sig.max = some m → sig.min ≤ args.length → m < args.length →
      PR.resolveCall name fuel r = (.error (.tooManyArgument sig.name), r2)) ∧
    (sig.min ≤ args.length → (∀ m, sig.max = some m → args.length ≤ m) →
      PR.resolveCall name fuel r = (.ok (.call sig.name args), r2)) :=
  PR.arity_rejected name fuel sig r r1 r2 args b h hargs hnext

/-- `--filter` / `--split-by` / `--group-by`: if the getter has been read and, after optional white space, a
byte `b` is left, the option text is rejected with `expectingEof … b` -/
theorem trailing_garbage_rejected (s : Str) (e : Expr) (r2 : Reader)
    (hget : readGetter (exprFuel s) (Reader.eatWhitespace (exprFuel s) (Reader.ofString s)).2 = (.ok e, r2))
    (ws : List Byte) (hws : ∀ x ∈ ws, Reader.isWs x = true) (b : Byte) (hb : Reader.isWs b = false) (rest : List Byte)
    (hr2 : RT.Ready r2 (ws ++ b :: rest)) (hf : ws.length < exprFuel s) :
    ∃ loc, parseWholeExpr s = .error (.expectingEof loc b) ∧
      parseOptionExpr s = .error (exprErrText (.expectingEof loc b)) :=
  PR.parseWholeExpr_trailing_garbage s e r2 hget ws hws b hb rest hr2 hf

/-- … and an unknown direction word after a `--sort-by` expression is rejected -/
theorem unknown_direction_rejected (s : Str) (e : Expr) (r2 : Reader)
    (hget : readGetter (exprFuel s) (Reader.eatWhitespace (exprFuel s) (Reader.ofString s)).2 = (.ok e, r2))
    (bs : List Byte) (hr2 : RT.Ready r2 bs) (hf : bs.length < exprFuel s) (t : Str)
    (hdec : utf8Decode? bs = some t)
    (hdir : (trimStr t).map upperChar ≠ [] ∧ (trimStr t).map upperChar ≠ "ASC".toList ∧
      (trimStr t).map upperChar ≠ "DESC".toList) :
    parseSorterParts s = .ok (e, t) ∧ parseSorter s = .error "UnknownOrder" :=
  PR.parseSorter_unknown_direction s e r2 hget bs hr2 hf t hdec hdir


/-! ### rejected by the command-line parser itself (model of clap: `Jawk/Model/Args.lean`)

`main` calls `Cli::parse()` before `go`: a rejected command line never reaches the code that opens the input
or builds the output; in the model the run is simply not defined for it (`parseArgs = none`). -/

/-- an option that may occur once given twice (under any of its names), a flag with a value, a value outside an
enumeration, a malformed number, an unknown option: each is rejected wherever it stands among valid arguments -/
theorem command_line_rejections :
    (Args.parseArgs ["--take=1".toList, "--select=.a".toList, "--limit=2".toList]).isNone = true ∧
    (Args.parseArgs ["--unique".toList, "x.json".toList, "--unique".toList]).isNone = true ∧
    (Args.parseArgs ["--merge".toList, "--group-by=.g".toList]).isNone = true ∧
    (Args.parseArgs ["--only-objects-and-arrays=true".toList]).isNone = true ∧
    (Args.parseArgs ["--on-error=Ignore".toList]).isNone = true ∧
    (Args.parseArgs ["--skip=abc".toList]).isNone = true ∧
    (Args.parseArgs ["--skip=".toList]).isNone = true ∧
    (Args.parseArgs ["--skip=18446744073709551616".toList]).isNone = true ∧
    (Args.parseArgs ["--no-such-option=1".toList]).isNone = true ∧
    (Args.parseArgs ["--skip=+1".toList, "--take=18446744073709551615".toList]).isSome = true := by
  -- a literal is `String.ofList` of its characters; evaluating `toList` on it instead is quadratic
  repeat rw [String.toList_ofList]
  decide +kernel

/-- the same rejections in the other spellings: one-letter names, clusters, values in an argument of their own -/
theorem command_line_rejections_short :
    (Args.parseArgs ["-u".toList, "x.json".toList, "--unique".toList]).isNone = true ∧
    (Args.parseArgs ["-uu".toList]).isNone = true ∧
    (Args.parseArgs ["-t".toList, "1".toList, "--limit".toList, "2".toList]).isNone = true ∧
    (Args.parseArgs ["-k".toList, "abc".toList]).isNone = true ∧
    (Args.parseArgs ["-kabc".toList]).isNone = true ∧
    (Args.parseArgs ["-k".toList]).isNone = true ∧
    (Args.parseArgs ["-c".toList, "--unique".toList]).isNone = true ∧
    (Args.parseArgs ["--choose".toList]).isNone = true ∧
    (Args.parseArgs ["-x".toList]).isNone = true ∧
    (Args.parseArgs ["-ux".toList]).isNone = true ∧
    (Args.parseArgs ["-u=1".toList]).isNone = true ∧
    (Args.parseArgs ["-o".toList, "xml".toList]).isNone = true ∧
    (Args.parseArgs ["-g".toList, "-g.a".toList]).isNone = true ∧
    (Args.parseArgs ["-uk".toList, "+1".toList, "-t18446744073709551615".toList, "-ocsv".toList]).isSome = true := by
  decide +kernel

/-- rejection does not depend on where the offending argument stands -/
theorem rejection_is_order_free (a b : List Str)
    (h : Args.SameUpToFamilyOrder (Args.lexAll a) (Args.lexAll b)) :
    (Args.parseArgs a).isNone = (Args.parseArgs b).isNone := by
  rw [Args.parseArgs_order_independent a b h]

end Jawk.C18
