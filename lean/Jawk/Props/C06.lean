/-
  C06 — noise between values never changes them; the `--on-error` policies do what they say.

  `Jawk/Props/C06Steps.lean`: one garbage byte costs exactly one byte and one recoverable error; the four policy
  arms of the read loop; the three non-fatal policies for whole runs as functions of what is read.
  This file (helper `Jawk/Lemmas/NoiseStream.lean`, namespace `Jawk.Noise`): the comparison the property is about — a NOISY stream (values in
  any of jawk's spellings with white-space delimited garbage tokens in the gaps, `Noise.stream`) against its CLEAN
  twin (the same stream with the garbage bytes deleted, `Gap.strip`) — and the fatal policy.
-/
import Jawk.Props.C06Steps
import Jawk.Lemmas.NoiseStream
import Jawk.Lemmas.Noise2
import Jawk.Props.Tables
namespace Jawk.C06
open Jawk Noise Noise2 RunSpec Pipe

/-- What is read: the values read from the noisy stream and from its clean twin are the same values in
the same order (rows differ in line/column only); the noisy stream yields exactly one recoverable error per garbage
byte — hence at least one per malformed region —, the clean twin none -/
theorem noise_transparent (ev : Expr → Ctx → Option JV) (c : Cfg) (cfgs : List StageCfg) (sts : List StageSt)
    (o : JsonOpts) (g0 : Gap) (items : List (JV × Gap)) (h0 : g0.OK) (hit : ItemsOK o items)
    (name : Option Str) (fuel fuel' : Nat)
    (hf : (stream o g0 items).length + 2 ≤ fuel)
    (hf' : (stream o g0.strip (stripItems items)).length + 2 ≤ fuel') (i k : Nat) :
    let noisy := Reader.ofBytes (stream o g0 items) name
    let clean := Reader.ofBytes (stream o g0.strip (stripItems items)) name
    (ctxsOf c fuel noisy i k).map (·.input) = applyOnlyObj c ((items.map (·.1)).map RT.norm)
    ∧ (ctxsOf c fuel' clean i k).map (·.input) = applyOnlyObj c ((items.map (·.1)).map RT.norm)
    ∧ (ctxsOf c fuel noisy i k).map posFree = (ctxsOf c fuel' clean i k).map posFree
    ∧ (perrsOf fuel noisy).length = garbageCount g0 items
    ∧ noisyGaps g0 items ≤ garbageCount g0 items
    ∧ (errsOf ev c cfgs fuel noisy i k sts).length ≤ garbageCount g0 items
    ∧ ((feedBrk (processP ev cfgs) sts (ctxsOf c fuel noisy i k)).2.2 = .cont →
        (errsOf ev c cfgs fuel noisy i k sts).length = garbageCount g0 items)
    ∧ perrsOf fuel' clean = []
    ∧ errsOf ev c cfgs fuel' clean i k sts = [] :=
  Noise.noise_transparent ev c cfgs sts o g0 items h0 hit name fuel fuel' hf hf' i k

/-- `ignore`, whole runs, any number of sources (stdin and files): noisy and clean runs write the SAME bytes to
standard output and nothing to standard error — for every configuration whose expressions do not read line/column
positions (`ChainPosIndep`, implied by the decidable syntactic check `chainNoPos`) -/
theorem noise_ignore_same_output (orc : Oracles) (c : Cfg) (specs : List StreamSpec) (wOut wErr : Writer)
    (p : Pipeline) (hok : ∀ s ∈ specs, s.OK) (hpol : c.onError = .ignore) (hb : build orc c = .ok p)
    (hna : NoAbort orc p.cfgs) (hpi : ChainPosIndep (evalT orc) p.cfgs) (hw : Unbounded wOut)
    (hh : ¬ HeaderMissing p) :
    (run orc c (specs.map StreamSpec.source) wOut wErr).result = .ok ()
    ∧ (run orc c (specs.map (fun s => s.strip.source)) wOut wErr).result = .ok ()
    ∧ (run orc c (specs.map StreamSpec.source) wOut wErr).stdout
        = (run orc c (specs.map (fun s => s.strip.source)) wOut wErr).stdout
    ∧ (run orc c (specs.map StreamSpec.source) wOut wErr).stderr = wErr.out
    ∧ (run orc c (specs.map (fun s => s.strip.source)) wOut wErr).stderr = wErr.out :=
  Noise.noise_ignore_same_output orc c specs wOut wErr p hok hpol hb hna hpi hw hh

/-- `stderr`: same standard output as the clean run; the reports — one per recoverable error — go to standard
error and nowhere else; the clean run's standard error is untouched -/
theorem noise_stderr_same_output (orc : Oracles) (c : Cfg) (specs : List StreamSpec) (wOut wErr : Writer)
    (p : Pipeline) (hok : ∀ s ∈ specs, s.OK) (hpol : c.onError = .stderr) (hb : build orc c = .ok p)
    (hna : NoAbort orc p.cfgs) (hpi : ChainPosIndep (evalT orc) p.cfgs) (hw : Unbounded wOut)
    (he : Unbounded wErr) (hh : ¬ HeaderMissing p) :
    (run orc c (specs.map StreamSpec.source) wOut wErr).result = .ok ()
    ∧ (run orc c (specs.map (fun s => s.strip.source)) wOut wErr).result = .ok ()
    ∧ (run orc c (specs.map StreamSpec.source) wOut wErr).stdout
        = (run orc c (specs.map (fun s => s.strip.source)) wOut wErr).stdout
    ∧ (run orc c (specs.map StreamSpec.source) wOut wErr).stderr
        = wErr.out ++ (errsOfSources (evalT orc) c p.cfgs (specs.map StreamSpec.source) 0 p.sts).flatMap reportBytes
    ∧ (run orc c (specs.map (fun s => s.strip.source)) wOut wErr).stderr = wErr.out :=
  Noise.noise_stderr_same_output orc c specs wOut wErr p hok hpol hb hna hpi hw he hh

theorem position_independence_is_syntactic (orc : Oracles) (cfgs : List StageCfg) (h : chainNoPos cfgs = true) :
    ChainPosIndep (evalT orc) cfgs := chainPosIndep_of_noPos orc cfgs h

/-- `panic`: the run fails at the FIRST malformed byte `b` with `unexpectedChar … b` (unless the chain had already
answered Break), nothing is written to standard error, and a streaming chain has by then written exactly the
header and the rows of the values that precede that byte; a clean stream succeeds -/
theorem panic_fails_at_first_noise (orc : Oracles) (c : Cfg) (name : Option Str) (o : JsonOpts) (g0 : Gap)
    (items : List (JV × Gap)) (h0 : g0.OK) (hit : ItemsOK o items) (wOut wErr : Writer) (p : Pipeline)
    (hpol : c.onError = .panic) (hb : build orc c = .ok p)
    (hna : NoAbort orc p.cfgs) (hw : Unbounded wOut) (hh : ¬ HeaderMissing p) :
    ∃ pre : List Ctx,
      pre.map (·.input) = applyOnlyObj c ((cleanPrefix g0 items).map RT.norm) ∧
      (∀ b, firstGarbage g0 items = some b →
          (feedBrk (processP (evalT orc) p.cfgs) p.sts pre).2.2 = .cont →
        ∃ loc,
          (run orc c [streamSource name o g0 items] wOut wErr).result
            = .error (.json (.unexpectedChar loc b valueExpected))
          ∧ (run orc c [streamSource name o g0 items] wOut wErr).stdout
              = wOut.out ++ headerBytes p ++
                (feedBrk (processP (evalT orc) p.cfgs) p.sts pre).2.1.flatMap (sinkBytes p.sink p.sinkLen)
          ∧ (Streaming p.cfgs →
              (run orc c [streamSource name o g0 items] wOut wErr).stdout
                = wOut.out ++ headerBytes p ++
                  (specRows (evalT orc) p.cfgs p.sts pre).flatMap (sinkBytes p.sink p.sinkLen))
          ∧ (run orc c [streamSource name o g0 items] wOut wErr).stderr = wErr.out) ∧
      ((firstGarbage g0 items = none ∨ (feedBrk (processP (evalT orc) p.cfgs) p.sts pre).2.2 = .brk) →
        (run orc c [streamSource name o g0 items] wOut wErr).result = .ok ()
        ∧ (run orc c [streamSource name o g0 items] wOut wErr).stdout
            = wOut.out ++ headerBytes p ++
              (specRows (evalT orc) p.cfgs p.sts pre).flatMap (sinkBytes p.sink p.sinkLen)
        ∧ (run orc c [streamSource name o g0 items] wOut wErr).stderr = wErr.out) :=
  Noise.run_panic_noisy orc c name o g0 items h0 hit wOut wErr p hpol hb hna hw hh

/-- a clean stream produces no error report under ANY policy, and the run succeeds -/
theorem clean_no_reports (orc : Oracles) (c : Cfg) (specs : List StreamSpec) (wOut wErr : Writer) (p : Pipeline)
    (hok : ∀ s ∈ specs, s.OK) (hclean : ∀ s ∈ specs, s.Clean)
    (hb : build orc c = .ok p) (hna : NoAbort orc p.cfgs) (hw : Unbounded wOut)
    (he : c.onError = .stderr → Unbounded wErr) (hh : ¬ HeaderMissing p) :
    errsOfSources (evalT orc) c p.cfgs (specs.map StreamSpec.source) 0 p.sts = []
    ∧ (run orc c (specs.map StreamSpec.source) wOut wErr).result = .ok ()
    ∧ (run orc c (specs.map StreamSpec.source) wOut wErr).stdout
        = wOut.out ++ headerBytes p ++
          (specRows (evalT orc) p.cfgs p.sts (ctxsOfSources c (specs.map StreamSpec.source) 0)).flatMap
            (sinkBytes p.sink p.sinkLen)
    ∧ (run orc c (specs.map StreamSpec.source) wOut wErr).stderr = wErr.out :=
  Noise.clean_no_reports orc c specs wOut wErr p hok hclean hb hna hw he hh

/-! ### beyond the property's quantifier (helper `Jawk/Lemmas/Noise2.lean`)

The same statements for streams whose values are spelled in ANY conforming way (`Ser.Ser`, the independent
grammar) and whose garbage may TOUCH the value before it whenever that cannot change the value's token
(`Ser.Delimited`: after a number, no digit, `.`, `e`, `E`).  The clean twin replaces every garbage byte by a
space (`Gap.blank`): deleting it could glue two values together (`strip_glues`: `1x2` → `12`). -/

/-- A noisy stream of conforming texts (garbage possibly touching the values) and
its blanked twin (every garbage byte replaced by a space; same length): both hand the pipeline the same values
with the same ordinals — the values of the items themselves, scalars dropped under `--only-objects-and-arrays`;
the rows differ in their locations only.  The noisy stream holds exactly one recoverable error per garbage byte,
hence at least one per malformed region; the twin none. -/
theorem noise_transparent2 (ev : Expr → Ctx → Option JV) (c : Cfg) (cfgs : List StageCfg) (sts : List StageSt)
    (g0 : Gap) (items : List Item) (h0 : g0.OK) (hit : ItemsOK2 items)
    (name : Option Str) (fuel fuel' : Nat)
    (hf : (stream2 g0 items).length + 2 ≤ fuel) (hf' : (stream2 g0 items).length + 2 ≤ fuel') (i k : Nat) :
    let noisy := Reader.ofBytes (stream2 g0 items) name
    let clean := Reader.ofBytes (stream2 g0.blank (blankItems items)) name
    (ctxsOf c fuel noisy i k).map (·.input) = applyOnlyObj c (items.map (·.v))
    ∧ (ctxsOf c fuel' clean i k).map (·.input) = applyOnlyObj c (items.map (·.v))
    ∧ (ctxsOf c fuel noisy i k).map posFree = (ctxsOf c fuel' clean i k).map posFree
    ∧ (perrsOf fuel noisy).length = garbageCount2 g0 items
    ∧ noisyGaps2 g0 items ≤ garbageCount2 g0 items
    ∧ (errsOf ev c cfgs fuel noisy i k sts).length ≤ garbageCount2 g0 items
    ∧ ((feedBrk (processP ev cfgs) sts (ctxsOf c fuel noisy i k)).2.2 = .cont →
        (errsOf ev c cfgs fuel noisy i k sts).length = garbageCount2 g0 items)
    ∧ perrsOf fuel' clean = []
    ∧ errsOf ev c cfgs fuel' clean i k sts = [] :=
  Noise2.noise_transparent2 ev c cfgs sts g0 items h0 hit name fuel fuel' hf hf' i k

/-- Under `ignore`, any number of sources (stdin and files), for a chain none of
whose expressions reads line or column: the run over noisy streams of conforming texts and the run over their
blanked twins succeed and write the same bytes; nothing goes to standard error. -/
theorem noise_ignore_same_output2 (orc : Oracles) (c : Cfg) (specs : List StreamSpec2) (wOut wErr : Writer)
    (p : Pipeline) (hok : ∀ s ∈ specs, s.OK) (hpol : c.onError = .ignore) (hb : build orc c = .ok p)
    (hna : NoAbort orc p.cfgs) (hpi : ChainPosIndep (evalT orc) p.cfgs) (hw : Unbounded wOut)
    (hh : ¬ HeaderMissing p) :
    (run orc c (specs.map StreamSpec2.source) wOut wErr).result = .ok ()
    ∧ (run orc c (specs.map (fun s => s.blank.source)) wOut wErr).result = .ok ()
    ∧ (run orc c (specs.map StreamSpec2.source) wOut wErr).stdout
        = (run orc c (specs.map (fun s => s.blank.source)) wOut wErr).stdout
    ∧ (run orc c (specs.map StreamSpec2.source) wOut wErr).stderr = wErr.out
    ∧ (run orc c (specs.map (fun s => s.blank.source)) wOut wErr).stderr = wErr.out :=
  Noise2.noise_ignore_same_output2 orc c specs wOut wErr p hok hpol hb hna hpi hw hh

/-- Under `stderr` (standard error never failing): standard output is byte for byte
that of the blanked run; the blanked run leaves standard error untouched, the noisy run appends one `error:` line
per error met — nothing else goes there. -/
theorem noise_stderr_same_output2 (orc : Oracles) (c : Cfg) (specs : List StreamSpec2) (wOut wErr : Writer)
    (p : Pipeline) (hok : ∀ s ∈ specs, s.OK) (hpol : c.onError = .stderr) (hb : build orc c = .ok p)
    (hna : NoAbort orc p.cfgs) (hpi : ChainPosIndep (evalT orc) p.cfgs) (hw : Unbounded wOut)
    (he : Unbounded wErr) (hh : ¬ HeaderMissing p) :
    (run orc c (specs.map StreamSpec2.source) wOut wErr).result = .ok ()
    ∧ (run orc c (specs.map (fun s => s.blank.source)) wOut wErr).result = .ok ()
    ∧ (run orc c (specs.map StreamSpec2.source) wOut wErr).stdout
        = (run orc c (specs.map (fun s => s.blank.source)) wOut wErr).stdout
    ∧ (run orc c (specs.map StreamSpec2.source) wOut wErr).stderr
        = wErr.out ++ (errsOfSources (evalT orc) c p.cfgs (specs.map StreamSpec2.source) 0 p.sts).flatMap reportBytes
    ∧ (run orc c (specs.map (fun s => s.blank.source)) wOut wErr).stderr = wErr.out :=
  Noise2.noise_stderr_same_output2 orc c specs wOut wErr p hok hpol hb hna hpi hw he hh

/-- Under `stdout`: what the noisy run writes to standard output is the header and a
sequence of chunks; the report chunks are the `error:` lines of the errors met, in order, and with them removed
the output is byte for byte that of the blanked run.  Standard error is untouched. -/
theorem noise_stdout_same_rows2 (orc : Oracles) (c : Cfg) (specs : List StreamSpec2) (wOut wErr : Writer)
    (p : Pipeline) (hok : ∀ s ∈ specs, s.OK) (hpol : c.onError = .stdout) (hb : build orc c = .ok p)
    (hna : NoAbort orc p.cfgs) (hpi : ChainPosIndep (evalT orc) p.cfgs) (hw : Unbounded wOut)
    (hh : ¬ HeaderMissing p) :
    ∃ ch : Chunks,
      (run orc c (specs.map StreamSpec2.source) wOut wErr).result = .ok ()
      ∧ (run orc c (specs.map (fun s => s.blank.source)) wOut wErr).result = .ok ()
      ∧ (run orc c (specs.map StreamSpec2.source) wOut wErr).stdout = wOut.out ++ headerBytes p ++ ch.bytes
      ∧ (run orc c (specs.map (fun s => s.blank.source)) wOut wErr).stdout
          = wOut.out ++ headerBytes p ++ ch.rowPart
      ∧ ch.reports
          = (errsOfSources (evalT orc) c p.cfgs (specs.map StreamSpec2.source) 0 p.sts).map reportBytes
      ∧ (run orc c (specs.map StreamSpec2.source) wOut wErr).stderr = wErr.out
      ∧ (run orc c (specs.map (fun s => s.blank.source)) wOut wErr).stderr = wErr.out :=
  Noise2.noise_stdout_same_rows2 orc c specs wOut wErr p hok hpol hb hna hpi hw hh

/-- `panic` on a noisy stream of conforming texts: the rows `pre` fed to the chain are
those of the values that precede the first gap holding garbage.  If the stream holds garbage (first garbage byte
`b`, possibly touching the value before it) and the chain has not answered `Break` on `pre`, the run fails with
`unexpectedChar … b`; a streaming chain has by then written exactly the header and `specRows pre`; nothing goes to
standard error.  If the stream is clean (or the chain answered `Break` first) the run succeeds. -/
theorem run_panic_noisy2 (orc : Oracles) (c : Cfg) (s : StreamSpec2) (hs : s.OK) (wOut wErr : Writer)
    (p : Pipeline) (hpol : c.onError = .panic) (hb : build orc c = .ok p)
    (hna : NoAbort orc p.cfgs) (hw : Unbounded wOut) (hh : ¬ HeaderMissing p) :
    ∃ pre : List Ctx,
      pre.map (·.input) = applyOnlyObj c (cleanPrefix2 s.g0 s.items) ∧
      (∀ b, firstGarbage2 s.g0 s.items = some b →
          (feedBrk (processP (evalT orc) p.cfgs) p.sts pre).2.2 = .cont →
        ∃ loc,
          (run orc c [s.source] wOut wErr).result = .error (.json (.unexpectedChar loc b valueExpected))
          ∧ (run orc c [s.source] wOut wErr).stdout
              = wOut.out ++ headerBytes p ++
                (feedBrk (processP (evalT orc) p.cfgs) p.sts pre).2.1.flatMap (sinkBytes p.sink p.sinkLen)
          ∧ (Streaming p.cfgs →
              (run orc c [s.source] wOut wErr).stdout
                = wOut.out ++ headerBytes p ++
                  (specRows (evalT orc) p.cfgs p.sts pre).flatMap (sinkBytes p.sink p.sinkLen))
          ∧ (run orc c [s.source] wOut wErr).stderr = wErr.out) ∧
      ((firstGarbage2 s.g0 s.items = none ∨ (feedBrk (processP (evalT orc) p.cfgs) p.sts pre).2.2 = .brk) →
        (run orc c [s.source] wOut wErr).result = .ok ()
        ∧ (run orc c [s.source] wOut wErr).stdout
            = wOut.out ++ headerBytes p ++
              (specRows (evalT orc) p.cfgs p.sts pre).flatMap (sinkBytes p.sink p.sinkLen)
        ∧ (run orc c [s.source] wOut wErr).stderr = wErr.out) :=
  Noise2.run_panic_noisy2 orc c s hs wOut wErr p hpol hb hna hw hh

/-- Clean streams of conforming texts (no garbage in any gap; the values need not be
separated by white space where `Ser.Delimited` allows it, e.g. `[1]"s"{}`), on stdin or in files: under every
`--on-error` policy there is no error to report, the run succeeds, standard output holds no report line (it is the
header and the rows), standard error is untouched. -/
theorem clean_no_reports2 (orc : Oracles) (c : Cfg) (specs : List StreamSpec2) (wOut wErr : Writer) (p : Pipeline)
    (hok : ∀ s ∈ specs, s.OK) (hclean : ∀ s ∈ specs, s.Clean)
    (hb : build orc c = .ok p) (hna : NoAbort orc p.cfgs) (hw : Unbounded wOut)
    (he : c.onError = .stderr → Unbounded wErr) (hh : ¬ HeaderMissing p) :
    errsOfSources (evalT orc) c p.cfgs (specs.map StreamSpec2.source) 0 p.sts = []
    ∧ (run orc c (specs.map StreamSpec2.source) wOut wErr).result = .ok ()
    ∧ (run orc c (specs.map StreamSpec2.source) wOut wErr).stdout
        = wOut.out ++ headerBytes p ++
          (specRows (evalT orc) p.cfgs p.sts (ctxsOfSources c (specs.map StreamSpec2.source) 0)).flatMap
            (sinkBytes p.sink p.sinkLen)
    ∧ (run orc c (specs.map StreamSpec2.source) wOut wErr).stderr = wErr.out :=
  Noise2.clean_no_reports2 orc c specs wOut wErr p hok hclean hb hna hw he hh

/-- the blanked twin is always well formed -/
theorem blankItems_OK (items : List Item) (h : ItemsOK2 items) : ItemsOK2 (blankItems items) :=
  Noise2.blankItems_OK items h

/-- DELETING the garbage of `1x2` gives `12`: one value, not two — the stripped twin is not well
formed and is read differently, while the blanked twin `1 2` is fine.  This is why the twin of the main theorems
replaces garbage by spaces, and why the stripped variants carry the hypothesis `ItemsOK2 (stripItems2 items)`. -/
theorem strip_glues :
    stream2 {} glueItems = [49, 120, 50] ∧
    stream2 ({} : Gap).strip (stripItems2 glueItems) = [49, 50] ∧
    stream2 ({} : Gap).blank (blankItems glueItems) = [49, 32, 50] ∧
    ¬ ItemsOK2 (stripItems2 glueItems) ∧
    (ctxsOf {} 5 (Reader.ofBytes [49, 120, 50] none) 0 0).map (·.input) = [.num (.pos 1), .num (.pos 2)] ∧
    (ctxsOf {} 5 (Reader.ofBytes [49, 32, 50] none) 0 0).map (·.input) = [.num (.pos 1), .num (.pos 2)] ∧
    (ctxsOf {} 5 (Reader.ofBytes [49, 50] none) 0 0).map (·.input) = [.num (.pos 12)] :=
  Noise2.strip_glues 

/-- Why `.`, `e`, `E` are excluded after a number.  These three bytes are `Garbage` (they cannot
start a value) but are NOT noise when they touch a number text:
* `1.x` — the parser accepts `1.` as the number `1` (the point is swallowed with the number): the value survives,
  but the two garbage bytes `.`, `x` cost ONE error, not two;
* `1ex` — `1e` is a malformed number: the value `1` is LOST (two errors, no value). -/
theorem number_touched_by_dot_or_e :
    Garbage 46 = true ∧ Garbage 101 = true ∧ Garbage 69 = true ∧
    (ctxsOf {} 5 (Reader.ofBytes [49, 46, 120] none) 0 0).map (·.input) = [.num (.pos 1)] ∧
    (perrsOf 5 (Reader.ofBytes [49, 46, 120] none)).length = 1 ∧
    (ctxsOf {} 5 (Reader.ofBytes [49, 101, 120] none) 0 0).map (·.input) = [] ∧
    (perrsOf 5 (Reader.ofBytes [49, 101, 120] none)).length = 2 :=
  Noise2.number_touched_by_dot_or_e 

end Jawk.C06
