/-
  C10 — `--unique` removes exactly the later duplicates, by the equality of `=`.

  The `HashSet<ContextKey>` of the stage is modelled as the code uses it: a key is found iff an
  element has the same hash feed AND is `==` (`CtxKey.same`).  The theorems show that on the
  property's domain (`Key`: interoperable, normalised numbers, no `-0`, distinct member names;
  `SameOrder`: corresponding objects list their members in the same order) this is exactly `==`
  — the equality the `=` function computes (`JV.beq`, see `C04.eq_vals`) — and that the stage is the list function
  "keep a row iff no earlier kept row is equal to it".  Outside the domain coherence is FALSE; the
  witnesses are proved below (they are the exclusions the property text itself makes).
  Helper lemmas: `Jawk/Lemmas/HashEq.lean`.
-/
import Jawk.Lemmas.RunCor
import Jawk.Lemmas.HashEq
namespace Jawk.C10
open Jawk HashEq

/-- Hash/Eq coherence on the domain: equal values feed the hasher the same words -/
theorem hash_eq_coherent {a b : JV} (ha : Key a) (hb : Key b) (ho : SameOrder a b)
    (h : JV.beq a b = true) : JV.hashFeed a = JV.hashFeed b := beq_coherent_ordered ha hb ho h

/-- the set lookup of `--unique` is the equality of `=` on rows compared on their input value … -/
theorem lookup_is_beq_value {a b : JV} (ha : Key a) (hb : Key b) (ho : SameOrder a b) :
    CtxKey.same (.value a) (.value b) = JV.beq a b := same_value_eq_beq ha hb ho

/-- … and on rows compared on their selected values (absent selections included) -/
theorem lookup_is_beq {a b : CtxKey} (ha : KeyC a) (hb : KeyC b) (ho : SameOrderC a b) :
    CtxKey.same a b = CtxKey.beq a b := same_eq_beq ha hb ho

/-- on the domain `==` is an equivalence relation (it is not in general: NaN, 2^53 + 1) -/
theorem beq_equivalence :
    (∀ a, Key a → JV.beq a a = true) ∧
    (∀ a b, Key a → Key b → JV.beq a b = true → JV.beq b a = true) ∧
    (∀ a b c, Key a → Key b → Key c → JV.beq a b = true → JV.beq b c = true → JV.beq a c = true) :=
  ⟨beq_refl, beq_symm, beq_trans⟩

/-! ### the stage -/

variable (orc : Oracles) (sink : SinkCfg) (n : Nat)

/-- a row whose key was seen is dropped: nothing reaches the successor, the state is unchanged -/
theorem duplicate_dropped (cs : List StageCfg) (seen : List CtxKey) (sts : List StageSt) (w : Writer)
    (ctx : Ctx) (h : seen.any (fun s => CtxKey.same s ctx.key) = true) :
    process orc sink n (.unique :: cs) (.unique seen :: sts) w ctx = .ok (⟨.unique seen :: sts, w⟩, .cont) :=
  process_unique_dup orc sink n cs seen sts w ctx h

/-- a row whose key is new is forwarded unchanged and remembered -/
theorem first_occurrence_forwarded (cs : List StageCfg) (seen : List CtxKey) (sts : List StageSt)
    (w : Writer) (ctx : Ctx) (h : seen.any (fun s => CtxKey.same s ctx.key) = false) :
    process orc sink n (.unique :: cs) (.unique seen :: sts) w ctx =
      match process orc sink n cs sts w ctx with
      | .ok (p, d) => .ok (⟨.unique (seen ++ [ctx.key]) :: p.sts, p.w⟩, d)
      | .error e => .error e := process_unique_new orc sink n cs seen sts w ctx h

/-- for every history: feeding rows through `--unique` is feeding the de-duplicated rows to the successor -/
theorem unique_stage_is_dedup (cs : List StageCfg) (seen : List CtxKey) (sts : List StageSt) (w : Writer)
    (ctxs : List Ctx) :
    feedAllIgnoring (process orc sink n (.unique :: cs)) (.unique seen :: sts) w ctxs =
      match feedAllIgnoring (process orc sink n cs) sts w (dedupOnAux CtxKey.same Ctx.key seen ctxs) with
      | .ok p => .ok ⟨.unique (seen ++ dedupAux CtxKey.same seen (ctxs.map Ctx.key)) :: p.sts, p.w⟩
      | .error e => .error e := feedAll_unique orc sink n cs seen sts w ctxs

/-! ### the list function: first occurrences, in order, nothing else removed -/

theorem dedup_sublist {α} (same : α → α → Bool) (l : List α) : (dedupFirst same l).Sublist l :=
  dedupFirst_sublist same l

theorem dedup_first_kept {α} (same : α → α → Bool) (l : List α) : (dedupFirst same l).head? = l.head? :=
  dedupFirst_head? same l

theorem dedup_no_duplicates {α} (same : α → α → Bool) (l : List α) :
    (dedupFirst same l).Pairwise (fun a b => same a b = false) := dedupFirst_no_dups same l

/-- exactly the positional rule: a row is kept iff no earlier kept row equals it -/
theorem dedup_rule {α} (same : α → α → Bool) (l : List α) (x : α) :
    dedupFirst same (l ++ [x]) =
      if (dedupFirst same l).any (fun s => same s x) then dedupFirst same l else dedupFirst same l ++ [x] :=
  dedupFirst_snoc same l x

/-- on the domain: kept rows are a sublist, pairwise not `==`, and every input row is `==` to a kept one -/
theorem unique_spec (ks : List CtxKey) (hk : ∀ k ∈ ks, KeyC k) (ho : ∀ a ∈ ks, ∀ b ∈ ks, SameOrderC a b) :
    (dedupFirst CtxKey.same ks).Sublist ks ∧
    (dedupFirst CtxKey.same ks).Pairwise (fun a b => CtxKey.beq a b = false) ∧
    ∀ x ∈ ks, ∃ y ∈ dedupFirst CtxKey.same ks, CtxKey.beq y x = true := HashEq.unique_spec ks hk ho

/-! ### outside the domain coherence fails (proved witnesses; excluded by the property text) -/

theorem incoherent_member_order :
    JV.beq (.obj [("a".toList, .num (.pos 1)), ("b".toList, .num (.pos 2))])
           (.obj [("b".toList, .num (.pos 2)), ("a".toList, .num (.pos 1))]) = true ∧
    JV.hashFeed (.obj [("a".toList, .num (.pos 1)), ("b".toList, .num (.pos 2))]) ≠
    JV.hashFeed (.obj [("b".toList, .num (.pos 2)), ("a".toList, .num (.pos 1))]) := HashEq.incoherent_member_order

theorem incoherent_neg_zero :
    JV.beq (.num (.pos 0)) (.num (.flt F64.negZero)) = true ∧
    JV.hashFeed (.num (.pos 0)) ≠ JV.hashFeed (.num (.flt F64.negZero)) := HashEq.incoherent_neg_zero

/-! ### non-vacuity -/
example : Key (JV.obj [("k".toList, JV.arr [JV.num (.pos 1), JV.str "x".toList])]) := by decide
example : dedupFirst (fun (a b : Nat) => a == b) [1, 2, 1, 3, 2, 1] = [1, 2, 3] := by decide


/-! ### whole configurations: the run with `--unique` against the run without it -/

/-- for a configuration without sort / skip / take / grouping: the rows with `--unique` are the rows without it
minus every row whose key equals that of an earlier kept row — first occurrences, in order, nothing else removed -/
theorem unique_config (orc : Oracles) (c : Cfg) (p : Pipeline) (h : build orc c = .ok p)
    (hu : c.unique = true) (hs : c.sorts = []) (hk : c.skip = 0) (ht : c.take = none) (hg : c.group = none) :
    ∃ pu, build orc { c with unique := false } = .ok pu ∧
      ∀ rows, RunCor.R orc p rows = Pipe.dedupFrom [] (RunCor.R orc pu rows) :=
  RunCor.unique_config_plain orc c p h hu hs hk ht hg

theorem unique_config_sublist (orc : Oracles) (c : Cfg) (p pu : Pipeline) (h : build orc c = .ok p)
    (hpu : build orc { c with unique := false } = .ok pu)
    (hu : c.unique = true) (hs : c.sorts = []) (hk : c.skip = 0) (ht : c.take = none)
    (hg : c.group = none) (rows : List Ctx) : (RunCor.R orc p rows).Sublist (RunCor.R orc pu rows) :=
  RunCor.unique_config_sublist orc c p pu h hpu hu hs hk ht hg rows

end Jawk.C10
