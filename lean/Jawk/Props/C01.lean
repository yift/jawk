/-
  C01 — stream fidelity: every input JSON value comes out once, in order, unchanged.

  For streams in jawk's own three output spellings (every style, both string
  modes, any white-space separators) successive reads return exactly the values, in order, then end of input
  (`canonical_stream_fidelity`); integer literals in [-2^63, 2^64) are read exactly; strings are read code
  point for code point (all two-character escapes, `\uXXXX`, raw UTF-8); the upper-case exponent is read
  (`1E2`, finding F1).  These are instances of the general statement (`Jawk/Spec/Json.lean`,
  `Jawk/Lemmas/ParseSer.lean`), which holds for EVERY conforming
  serialisation: `Ser v bs` is the inductive relation "bs is an RFC 8259 text of v" — any insignificant
  white space, every escape spelling (raw UTF-8, the eight two-character escapes, `\uXXXX` in either case),
  every number spelling (`[-]int[.frac][(e|E)[+|-]digits]`; integer literals in range exact, everything
  else the correctly rounded double, normalised) — `parse_all_serialisations`, `stream_fidelity`.
  The strong reading for numbers — every spelling whose VALUE is an in-range integer is kept exactly — is
  false of model and code alike (known finding F2); its negation is proved below with the witness.
-/
import Jawk.Lemmas.RoundTrip
import Jawk.Lemmas.RunSpec
import Jawk.Lemmas.ParseSer
import Jawk.Props.Tables
import Jawk.Lemmas.Noise2
import Jawk.Lemmas.PrintSer
namespace Jawk.C01
open Jawk RT

/-- successive reads over a printed stream return exactly the values, in order, and then end of input:
nothing dropped, duplicated, split or merged -/
theorem canonical_stream_fidelity (o : JsonOpts) (sep : List Byte) (hsep : ∀ b ∈ sep, Reader.isWs b = true)
    (hne : sep ≠ []) (vs : List JV) (hvs : ∀ v ∈ vs, Printable o v) (name : Option Str) :
    ∃ r' r'', Reads (Reader.ofBytes (rowsText o sep vs) name) (vs.map norm) r' ∧
      r'.nextJson = (.ok none, r'') := rows_framed o sep hsep hne vs hvs name

/-- with no options the run prints one one-line JSON row per value read, in input order, nothing else, and
succeeds — for every list of sources and every byte content -/
theorem default_rows (orc : Oracles) (sources : List Source) (wOut wErr : Writer)
    (hw : Pipe.Unbounded wOut) (hcl : RunSpec.CleanIO sources) :
    (run orc {} sources wOut wErr).result = .ok ()
      ∧ (run orc {} sources wOut wErr).stdout
          = wOut.out ++ (RunSpec.ctxsOfSources {} sources 0).flatMap
              (fun ctx => utf8 (printJson {} ctx.input) ++ [10])
      ∧ (run orc {} sources wOut wErr).stderr = wErr.out := RunSpec.default_rows orc sources wOut wErr hw hcl

/-- a number in jawk's spelling is read back as the same number; in particular an integer literal in
[-2^63, 2^64) is read exactly, through `u64` / `i64`, never through a double -/
theorem number_exact (n : Num) (hn : NumPrintable n) (rest : List Byte) (hd : NumDelim rest)
    (r : Reader) (hr : Ready r (utf8 (printNum n) ++ rest)) (fuel : Nat) (hf : (utf8 (printNum n)).length < fuel) :
    ∃ r', readNumber fuel r = (.ok (.num (normNum n)), r') ∧ Peeked r' rest :=
  readNumber_printNum n hn rest hd r hr fuel hf

/-- strings come back code point for code point, whatever they contain -/
theorem string_exact (o : JsonOpts) (s : Str) (hs : StrOK o s) (rest : List Byte) (r : Reader)
    (b : Byte) (hr : At r b (strBody o s ++ 34 :: rest)) (fuel : Nat) (hf : (strBody o s).length < fuel) :
    ∃ r', readStringLoop fuel [] r = (.ok s, r') ∧ Ready r' rest := readString_print o s hs rest r b hr fuel hf

/-! concrete parser facts are checked by kernel evaluation (`decide +kernel`) through Boolean matchers,
since `JV` has no decidable equality -/
def isPos (r : Except PErr (Option JV)) (n : Nat) : Bool :=
  match r with
  | .ok (some (.num (.pos m))) => m == n
  | _ => false
def isStr (r : Except PErr (Option JV)) (s : Str) : Bool :=
  match r with
  | .ok (some (.str t)) => t == s
  | _ => false
def isEnd (r : Except PErr (Option JV)) : Bool :=
  match r with
  | .ok none => true
  | _ => false
def isNeg (r : Except PErr (Option JV)) (n : Int) : Bool :=
  match r with
  | .ok (some (.num (.neg m))) => m == n
  | _ => false
theorem isNeg_eq {r : Except PErr (Option JV)} {n : Int} (h : isNeg r n = true) : r = .ok (some (.num (.neg n))) := by
  unfold isNeg at h
  split at h
  · simp at h; subst h; rfl
  · exact absurd h (by decide)
theorem isPos_eq {r : Except PErr (Option JV)} {n : Nat} (h : isPos r n = true) : r = .ok (some (.num (.pos n))) := by
  unfold isPos at h; split at h <;> simp_all
theorem isStr_eq {r : Except PErr (Option JV)} {s : Str} (h : isStr r s = true) : r = .ok (some (.str s)) := by
  unfold isStr at h; split at h <;> simp_all
theorem isEnd_eq {r : Except PErr (Option JV)} (h : isEnd r = true) : r = .ok none := by
  unfold isEnd at h; split at h <;> simp_all

/-! ### every conforming serialisation -/

/-- positioned before any white space, ANY conforming text of `v` (relation `Ser`), and any
continuation that does not extend a number, the parser returns exactly `v` and stops exactly after the text -/
theorem parse_all_serialisations {v : JV} {bs : List Byte} (h : Ser.Ser v bs) (rest : List Byte)
    (hd : Ser.Delimited v rest) (ws : List Byte) (hws : Ser.Ws ws) (r : Reader)
    (hr : Ready r (ws ++ bs ++ rest)) (fuel : Nat) (hf : Ser.fuelFor ws bs ≤ fuel) :
    ∃ r', nextValue fuel r = (.ok (some v), r') ∧ Ready r' rest := Ser.parse_ser h rest hd ws hws r hr fuel hf

/-- stream fidelity: for any sequence of values, each in any conforming spelling, separated by any white space
(nothing where two tokens may touch: only a number needs a delimiter), successive reads return exactly those
values, in order, and then end of input — none dropped, duplicated, split in two or merged with a neighbour -/
theorem stream_fidelity (lead : List Byte) (hlead : Ser.Ws lead) (items : List (JV × List Byte × List Byte))
    (h : Ser.StreamOK items) (name : Option Str) :
    ∃ r' r'', Reads (Reader.ofBytes (lead ++ Ser.streamText items) name) (items.map (·.1)) r' ∧
      r'.nextJson = (.ok none, r'') := Ser.stream_fidelity lead hlead items h name

/-- non-vacuity: `[ 1E2 ,⇥"a\u0041\n" , {"k" : [-0.5e-1, true], "" :{ }}⏎]` is a conforming text (exponent
spellings, an escaped string, nesting, arbitrary white space) of the value it should denote -/
theorem conforming_text_example : Ser.Ser Ser.exValue (utf8 Ser.exText.toList) := Ser.ex_ser

/-- finding F1: `1E2 3` is two values, `100` and `3` (upper-case exponent marker) -/
theorem upper_case_exponent :
    ((Reader.ofBytes [49, 69, 50, 32, 51]).nextJson).1 = .ok (some (.num (.pos 100))) ∧
    (((Reader.ofBytes [49, 69, 50, 32, 51]).nextJson).2.nextJson).1 = .ok (some (.num (.pos 3))) ∧
    ((((Reader.ofBytes [49, 69, 50, 32, 51]).nextJson).2.nextJson).2.nextJson).1 = .ok none :=
  ⟨isPos_eq (by decide +kernel), isPos_eq (by decide +kernel), isEnd_eq (by decide +kernel)⟩

/-- escape spellings denote the same string: the text `"` `\u0041` `\/` `\n` `"` is the string `A/⏎`;
touching tokens `""""` are two empty strings -/
theorem escape_spellings :
    (Reader.nextJson (Reader.ofBytes [34, 92, 117, 48, 48, 52, 49, 92, 47, 92, 110, 34])).1 = .ok (some (.str ['A', '/', '\n'])) ∧
    ((Reader.ofBytes [34, 34, 34, 34]).nextJson).1 = .ok (some (.str [])) ∧
    (((Reader.ofBytes [34, 34, 34, 34]).nextJson).2.nextJson).1 = .ok (some (.str [])) :=
  ⟨isStr_eq (by decide +kernel), isStr_eq (by decide +kernel), isStr_eq (by decide +kernel)⟩

/-- F2 (known finding), proved on the model and replayed on the binary by `bin/check C01`: an in-range integer
≥ 2^53 spelled with a fraction goes through a double — `9007199254740993.0` is read as `9007199254740992` -/
theorem integer_values_not_exact_when_spelled_as_decimal :
    (Reader.nextJson (Reader.ofBytes [57, 48, 48, 55, 49, 57, 57, 50, 53, 52, 55, 52, 48, 57, 57, 51, 46, 48])).1
      = .ok (some (.num (.pos 9007199254740992))) := isPos_eq (by decide +kernel)

/-- … while the integer LITERAL is exact -/
theorem integer_literal_exact :
    (Reader.nextJson (Reader.ofBytes [57, 48, 48, 55, 49, 57, 57, 50, 53, 52, 55, 52, 48, 57, 57, 51])).1
      = .ok (some (.num (.pos 9007199254740993))) := isPos_eq (by decide +kernel)

/-! ### the lower end of the integer range (finding F24) -/

/-- the double −2^63 is an integer of the property's range `[-2^63, 2^64)`: `From<f64>` makes it the integer
(the comparison with `i64::MIN` is not strict; with a strict one the value would stay a double and be printed
as `-9223372036854776000`) -/
theorem min_i64_double_is_integer : Num.ofF64 (F64.ofInt (-(2 ^ 63))) = .neg (-(2 ^ 63)) := by decide +kernel

/-- … so `-9223372036854775808.0` (the bytes below) is read as the integer −2^63 -/
theorem min_i64_spelled_with_fraction :
    (Reader.nextJson (Reader.ofBytes [45, 57, 50, 50, 51, 51, 55, 50, 48, 51, 54, 56, 53, 52, 55, 55, 53, 56, 48, 56, 46, 48])).1
      = .ok (some (.num (.neg (-(2 ^ 63))))) := isNeg_eq (by decide +kernel)

/-! ### non-vacuity -/
example (o : JsonOpts) : Printable o sample := sample_printable o

/-! ### end to end -/

/-- for a stream of values, each in ANY conforming spelling, with any white space between them (and
even garbage in the gaps, which the default policy skips), jawk with no options succeeds, writes exactly one
one-line row per value, in input order — the printed text of that value followed by a line feed —, and nothing
on standard error: no value dropped, duplicated, split or merged -/
theorem end_to_end (orc : Oracles) (s : Noise2.StreamSpec2) (hs : s.OK) (wOut wErr : Writer)
    (hw : Pipe.Unbounded wOut) :
    (run orc {} [s.source] wOut wErr).result = .ok ()
    ∧ (run orc {} [s.source] wOut wErr).stdout
        = wOut.out ++ (s.items.map (·.v)).flatMap (fun v => utf8 (printJson {} v) ++ [10])
    ∧ (run orc {} [s.source] wOut wErr).stderr = wErr.out :=
  let h := Noise2.noise_default_same_output2 orc s hs wOut wErr hw
  ⟨h.1, h.2.2.1, h.2.2.2.2.1⟩

/-- … and each row denotes the same value: it is a conforming text (independent grammar `Ser`) of the value —
same structure and member order, strings code point for code point, numbers as read (`norm`: a `neg 0` is `0`) -/
theorem row_denotes_value (o : JsonOpts) (v : JV) (hv : Printable o v) :
    Ser.Ser (norm v) (utf8 (printJson o v)) := PrintSer.printJson_ser_printable o v hv

/-- non-vacuity of `end_to_end`: `{"a":1}x[1 , 2]@@ "s"#⏎1.5e3 $ true?` -/
example : (⟨none, {}, Noise2.exItems2⟩ : Noise2.StreamSpec2).OK := Noise2.exSpec_ok

end Jawk.C01
