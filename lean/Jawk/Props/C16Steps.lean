/-
  C16 — read and write failures stop the run with an error, never a panic or silent loss.
-/
import Jawk.Lemmas.ReadLoop
import Jawk.Lemmas.PM
namespace Jawk.C16
open Jawk Reader

/-! ### Reads: `Interrupted` results and short reads are invisible -/

/-- no `Ok(0)` in the middle, no error: the events are just a chunking with retries -/
def CleanEvents : List ReadEvent → Prop
  | [] => True
  | .data [] :: _ => False
  | .data (_ :: _) :: rest => CleanEvents rest
  | .interrupted :: rest => CleanEvents rest
  | .error :: _ => False

def flattenEvents : List ReadEvent → List Byte
  | [] => []
  | .data bs :: rest => bs ++ flattenEvents rest
  | _ :: rest => flattenEvents rest

/-- a clean stretch of events delivers its bytes, and what follows is read as it would be alone -/
theorem bytesOf_clean_append (ev tail : List ReadEvent) (h : CleanEvents ev) :
    bytesOf (ev ++ tail) = cleanInput (flattenEvents ev) ++ bytesOf tail := by
  induction ev with
  | nil => rfl
  | cons e rest ih =>
    cases e with
    | data bs =>
      cases bs with
      | nil => exact absurd h (by simp [CleanEvents])
      | cons b bs =>
        simp only [CleanEvents] at h
        simp [bytesOf, flattenEvents, cleanInput, ih h]
    | interrupted =>
      simp only [CleanEvents] at h
      simp [bytesOf, flattenEvents, ih h]
    | error => exact absurd h (by simp [CleanEvents])

/-- any delivery of the same bytes (any chunk sizes, any number of `Interrupted` results)
gives the parser the same byte sequence -/
theorem interrupted_and_short_reads_invisible (ev : List ReadEvent) (h : CleanEvents ev) :
    bytesOf ev = cleanInput (flattenEvents ev) := by
  simpa [bytesOf] using bytesOf_clean_append ev [] h

/-- a read error surfaces as one `err` item after exactly the bytes delivered before it, and
nothing after it is ever read -/
theorem read_error_surfaces_once (ev : List ReadEvent) (after : List ReadEvent) (h : CleanEvents ev) :
    bytesOf (ev ++ .error :: after) = cleanInput (flattenEvents ev) ++ [RItem.err] :=
  bytesOf_clean_append ev _ h

/-- the reader turns the `err` item into the unrecoverable `io` error -/
theorem next_on_error_item (r : Reader) (rest : List RItem) (he : r.eof = false) (hr : r.rest = .err :: rest) :
    (Reader.next r).1 = .error .io := by
  simp [Reader.next, he, hr]

theorem io_cannot_recover : PErr.io.canRecover = false := rfl

/-- an unrecoverable reader error ends the run with an I/O error under every `--on-error`
policy: it is neither skipped like a malformed value nor mistaken for the end of input, no
report line is written for it, and what had been written so far stays written -/
theorem read_error_is_fatal (orc : Oracles) (c : Cfg) (p : Pipeline) (fuel : Nat) (r r' : Reader) (inFile : Nat)
    (s : RunState) (hn : r.nextJson = (.error .io, r')) :
    ∃ st, readLoop orc c p (fuel + 1) r inFile s = .error ⟨.error .io, st⟩ ∧ st.out = s.out ∧ st.err = s.err :=
  ⟨_, Loc.final_readLoop orc c p (.fault (k := ⟨r, inFile, s⟩) hn rfl) fuel, rfl, rfl⟩

/-! ### Writes -/

/-- a writer's log only grows -/
theorem put_prefix (w : Writer) (bs : List Byte) : w.out <+: (w.put bs).out := by
  unfold Writer.put
  split
  · exact List.prefix_refl _
  · split
    · exact List.prefix_append _ _
    · split
      · exact List.prefix_append _ _
      · exact List.prefix_append _ _

/-- once failed, always failed, and nothing more is written -/
theorem put_after_failure (w : Writer) (bs : List Byte) (h : w.failed = true) : w.put bs = w := by
  simp [Writer.put, h]

/-- a write that does not fit writes exactly the bytes before the failing offset and fails -/
theorem put_partial (w : Writer) (bs : List Byte) (k : Nat) (hf : w.failed = false) (hr : w.room = some k)
    (hlen : k < bs.length) :
    (w.put bs).out = w.out ++ bs.take k ∧ (w.put bs).failed = true := by
  simp [Writer.put, hf, hr, Nat.not_le.mpr hlen]

/-- an unbounded writer never fails -/
theorem put_unbounded (w : Writer) (bs : List Byte) (hf : w.failed = false) (hr : w.room = none) :
    (w.put bs).out = w.out ++ bs ∧ (w.put bs).failed = false ∧ (w.put bs).room = none := by
  simp [Writer.put, hf, hr]

/-- writing a list of chunks only extends the log -/
theorem putAll_prefix (chunks : List (List Byte)) (w : Writer) : w.out <+: (putAll w chunks).out := by
  induction chunks generalizing w with
  | nil => exact List.prefix_refl _
  | cons c cs ih =>
    simp only [putAll, List.foldl_cons]
    exact List.IsPrefix.trans (put_prefix w c) (ih (w.put c))

theorem wres_error (w : Writer) (f : Failure) (h : wres w = .error f) : f.kind = .io ∧ f.w = w := by
  unfold wres at h
  split at h
  · cases h; exact ⟨rfl, rfl⟩
  · cases h

/-- a failed write of a row ends `process` at the sink with an I/O error (never a panic),
and the failure carries the bytes written so far -/
theorem write_error_is_fatal_at_sink (s : SinkCfg) (len : Nat) (w : Writer) (ctx : Ctx) (f : Failure)
    (h : sinkProcess s len w ctx = .error f) : f.kind = .io ∧ w.out <+: f.w.out := by
  unfold sinkProcess at h
  cases s with
  | json o sep =>
    obtain ⟨hk, hw⟩ := wres_error _ f h
    exact ⟨hk, hw ▸ putAll_prefix _ w⟩
  | text o sep =>
    simp only at h
    split at h
    · obtain ⟨hk, hw⟩ := wres_error _ f h
      exact ⟨hk, hw ▸ putAll_prefix _ w⟩
    · obtain ⟨hk, hw⟩ := wres_error _ f h
      exact ⟨hk, hw ▸ putAll_prefix _ w⟩

/-! Non-vacuity: a clean delivery, and one with an error in the middle. -/

example : CleanEvents [.data [1, 2], .interrupted, .data [3]] := by simp [CleanEvents]
example : bytesOf [.data [1, 2], .interrupted, .error, .data [9]] = [.byte 1, .byte 2, .err] := by decide

end Jawk.C16
